/-
  MpProofs/CalcLogicA.lean — theorems about the pure logic of mpmath's calculus package modelled in
  `MpModel/CalcLogicA.lean`: forward differences (`difference`), Richardson extrapolation weights
  (`richardson`) and the index-range standardisation of `nsum`.
-/
import MpModel.CalcLogicA
import Mathlib.Algebra.Group.ForwardDiff
import Mathlib.Algebra.BigOperators.Intervals
import Mathlib.Algebra.Order.BigOperators.Group.Finset
import Mathlib.Data.Nat.Choose.Sum
import Mathlib.Data.Nat.Factorial.Basic
import Mathlib.Data.Rat.Defs
import Mathlib.Order.Interval.Finset.Nat
import Mathlib.Data.Int.Interval
import Mathlib.Algebra.Order.Group.Int
import Mathlib.Algebra.Order.Field.Rat
import Mathlib.Tactic.Ring
import Mathlib.Tactic.FieldSimp
import Mathlib.Tactic.Linarith
import Mathlib.Tactic.NormNum

namespace Mp.Calc
open Finset

/-- the closed form of the `k`-th weight of `difference(s, n)` -/
def diffW (n k : ℕ) : ℤ := (-1) ^ (n - k) * (n.choose k : ℤ)

theorem diffInit_eq (n : ℕ) : diffInit n = diffW n 0 := by
  unfold diffInit diffW
  rw [Nat.and_one_is_mod, Nat.choose_zero_right, Nat.cast_one, mul_one, Nat.sub_zero]
  rcases Nat.mod_two_eq_zero_or_one n with h | h
  · rw [h, pow_zero, Even.neg_one_pow (Nat.even_iff.mpr h)]
  · rw [h, pow_one, Odd.neg_one_pow (Nat.odd_iff.mpr h)]

/-- one step of the weight recurrence stays on the closed form; the floor division is exact -/
theorem diffStep_eq (n k : ℕ) (hk : k ≤ n) : diffStep n (diffW n k) k = diffW n (k + 1) := by
  unfold diffStep
  have hc : ((n.choose (k + 1) : ℤ)) * ((k : ℤ) + 1) = (n.choose k : ℤ) * ((n : ℤ) - k) := by
    have := Nat.choose_succ_right_eq n k
    have h2 : ((n - k : ℕ) : ℤ) = (n : ℤ) - k := by omega
    rw [← h2]; exact_mod_cast this
  have key : diffW n k * ((k : ℤ) - n) = diffW n (k + 1) * ((k : ℤ) + 1) := by
    unfold diffW
    rcases Nat.eq_or_lt_of_le hk with rfl | hlt
    · simp
    · have hs : (-1 : ℤ) ^ (n - k) = -((-1) ^ (n - (k + 1))) := by
        have : n - k = (n - (k + 1)) + 1 := by omega
        rw [this, pow_succ]; ring
      rw [hs, mul_assoc (_ ^ _), hc]; ring
  rw [key]
  exact Int.mul_fdiv_cancel _ (by omega)

theorem diffWeightsAux_eq (n : ℕ) : ∀ (fuel k : ℕ), k + fuel = n + 1 →
    diffWeightsAux n fuel k (diffW n k) = (List.range' k fuel).map (diffW n) := by
  intro fuel
  induction fuel with
  | zero => intro k _; rfl
  | succ fuel ih =>
    intro k hk
    rw [diffWeightsAux, List.range'_succ, List.map_cons, diffStep_eq n k (by omega),
      ih (k + 1) (by omega)]

/-- The list of weights used by `difference(s, n)` is `[(-1)^(n-k) * C(n,k) : k = 0..n]`. -/
theorem diffWeights_eq_map (n : ℕ) :
    diffWeights n = (List.range (n + 1)).map fun k => (-1 : ℤ) ^ (n - k) * (n.choose k : ℤ) := by
  unfold diffWeights
  rw [diffInit_eq, diffWeightsAux_eq n (n + 1) 0 (by omega), List.range_eq_range']
  rfl

/-- the `k`-th weight `b` used by `difference(s, n)` (`k ≤ n`) is
`(-1)^(n-k) * C(n,k)`; in particular every floor division `(b*(k-n)) // (k+1)` is exact. -/
theorem diffWeights_eq (n k : ℕ) (hk : k ≤ n) :
    (diffWeights n)[k]? = some ((-1 : ℤ) ^ (n - k) * (n.choose k : ℤ)) := by
  rw [diffWeights_eq_map, List.getElem?_map, List.getElem?_range (by omega)]
  rfl

example : (diffWeights 5)[2]? = some ((-1 : ℤ) ^ (5 - 2) * (Nat.choose 5 2 : ℤ)) :=
  diffWeights_eq 5 2 (by decide)
example : diffWeights 5 = [-1, 5, -10, 10, -5, 1] := by decide

theorem diffWeights_length (n : ℕ) : (diffWeights n).length = n + 1 := by
  rw [diffWeights_eq_map]; simp

theorem differenceAux_eq (s : ℕ → ℚ) (n : ℕ) : ∀ (fuel k : ℕ) (d : ℚ), k + fuel = n + 1 →
    differenceAux s n fuel k (diffW n k) d
      = d + ∑ i ∈ range fuel, ((diffW n (k + i) : ℤ) : ℚ) * s (k + i) := by
  intro fuel
  induction fuel with
  | zero => intro k d _; simp [differenceAux]
  | succ fuel ih =>
    intro k d hk
    rw [differenceAux, diffStep_eq n k (by omega), ih (k + 1) _ (by omega), sum_range_succ',
      add_assoc]
    congr 1
    rw [add_comm]
    simp only [Nat.add_zero, Nat.add_assoc, Nat.add_comm 1]

/-- `difference(s, n)` in exact arithmetic is the `n`-th forward difference
`∑_{k=0}^{n} (-1)^(n-k) C(n,k) s_k`. -/
theorem difference_spec (s : ℕ → ℚ) (n : ℕ) :
    difference s n = ∑ k ∈ range (n + 1), (-1 : ℚ) ^ (n - k) * (n.choose k : ℚ) * s k := by
  unfold difference
  rw [diffInit_eq, differenceAux_eq s n (n + 1) 0 0 (by omega), zero_add]
  refine sum_congr rfl fun k _ => ?_
  simp [diffW]

example : difference (fun k => (k : ℚ) ^ 2) 2 = 2 := by
  rw [difference_spec]; norm_num [sum_range_succ, Nat.choose]
example : difference (fun k => (k : ℚ) ^ 2) 2 = 2 := by decide +kernel

/-- `difference(s, n)` is the iterated Mathlib forward difference `Δ_[1]^[n]` at `0`. -/
theorem difference_eq_fwdDiff (s : ℕ → ℚ) (n : ℕ) :
    difference s n = (fwdDiff 1)^[n] s 0 := by
  rw [difference_spec, fwdDiff_iter_eq_sum_shift]
  refine sum_congr rfl fun k _ => ?_
  simp [zsmul_eq_mul]

/-- a sum over an integer window `[a, a+n]` as a sum over `range (n+1)` -/
theorem sum_Icc_int (f : ℤ → ℚ) (a : ℤ) (n : ℕ) :
    ∑ j ∈ Icc a (a + n), f j = ∑ i ∈ range (n + 1), f (a + i) := by
  induction n with
  | zero => simp
  | succ n ih =>
    have h : Icc a (a + ((n + 1 : ℕ) : ℤ)) = insert (a + ((n + 1 : ℕ) : ℤ)) (Icc a (a + n)) := by
      ext x; simp only [mem_Icc, mem_insert]; omega
    rw [h, sum_insert (by simp), ih, sum_range_succ _ (n + 1), add_comm]

theorem sumFrom_eq (f : ℤ → ℚ) : ∀ (cnt : ℕ) (a : ℤ) (s : ℚ),
    sumFrom f cnt a s = s + ∑ i ∈ range cnt, f (a + i) := by
  intro cnt
  induction cnt with
  | zero => intro a s; simp [sumFrom]
  | succ cnt ih =>
    intro a s
    have h : ∀ i : ℕ, f (a + 1 + i) = f (a + ((i + 1 : ℕ) : ℤ)) := fun i => by
      congr 1; push_cast; ring
    rw [sumFrom, ih, sum_range_succ', add_assoc]
    simp only [h, Nat.cast_zero, add_zero]
    rw [add_comm (f a)]

theorem sumNat_eq (t : ℕ → ℚ) : ∀ (cnt k : ℕ) (s : ℚ),
    sumNat t cnt k s = s + ∑ i ∈ range cnt, t (k + i) := by
  intro cnt
  induction cnt with
  | zero => intro k s; simp [sumNat]
  | succ cnt ih =>
    intro k s
    rw [sumNat, ih, sum_range_succ', add_assoc]
    congr 1
    rw [add_comm]
    simp only [Nat.add_zero, Nat.add_assoc, Nat.add_comm 1]

/-- for a finite range the standardised "term" is the exact finite sum over
`[a, b]` (the empty sum when `b < a`), independently of `k`. -/
theorem stdTerm_fin (a b : ℤ) (f : ℤ → ℚ) (k : ℕ) :
    stdTerm (.fin a b) f k = ∑ j ∈ Icc a b, f j := by
  show (if b < a then 0 else foldFinite1 f a b) = _
  split
  · rename_i h; rw [Icc_eq_empty (by omega), sum_empty]
  · rename_i h
    have hb : b = a + ((b - a).toNat : ℤ) := by omega
    have hc : (b + 1 - a).toNat = (b - a).toNat + 1 := by omega
    rw [show foldFinite1 f a b = sumFrom f (b + 1 - a).toNat a 0 from rfl, sumFrom_eq, zero_add, hc, ← sum_Icc_int, ← hb]

example : stdTerm (.fin (-1) 3) (fun j => (j : ℚ) ^ 2) 0 = 15 := by decide +kernel
example : stdTerm (.fin 3 1) (fun j => (j : ℚ) ^ 2) 0 = 0 := by decide +kernel

/-- `stdTerm_partial_sum` for `[a, +inf)`: the first `n+1` standardised terms are exactly the
terms with index in `[a, a+n]`. -/
theorem stdTerm_partial_sum_toInf (a : ℤ) (f : ℤ → ℚ) (n : ℕ) :
    ∑ k ∈ range (n + 1), stdTerm (.toInf a) f k = ∑ j ∈ Icc a (a + n), f j := by
  rw [sum_Icc_int]
  refine sum_congr rfl fun k _ => ?_
  simp only [stdTerm, add_comm]

/-- `stdTerm_partial_sum` for `(-inf, b]`: the first `n+1` standardised terms are exactly the
terms with index in `[b-n, b]`. -/
theorem stdTerm_partial_sum_fromNegInf (b : ℤ) (f : ℤ → ℚ) (n : ℕ) :
    ∑ k ∈ range (n + 1), stdTerm (.fromNegInf b) f k = ∑ j ∈ Icc (b - n) b, f j := by
  have h := sum_Icc_int f (b - n) n
  rw [sub_add_cancel] at h
  rw [h, ← sum_range_reflect]
  refine sum_congr rfl fun k hk => ?_
  have hk' : k ≤ n := by have := mem_range.mp hk; omega
  simp only [stdTerm]
  congr 1
  have : ((n + 1 - 1 - k : ℕ) : ℤ) = (n : ℤ) - k := by omega
  rw [this]; ring

/-- `stdTerm_partial_sum` for `(-inf, +inf)`: the first `n+1` standardised terms are exactly the
terms with index in `[-n, n]`, each index once. -/
theorem stdTerm_partial_sum_all (f : ℤ → ℚ) (n : ℕ) :
    ∑ k ∈ range (n + 1), stdTerm .all f k = ∑ j ∈ Icc (-(n : ℤ)) n, f j := by
  induction n with
  | zero => simp [stdTerm]
  | succ n ih =>
    have h : Icc (-((n + 1 : ℕ) : ℤ)) ((n + 1 : ℕ) : ℤ)
        = insert ((n + 1 : ℕ) : ℤ) (insert (-((n + 1 : ℕ) : ℤ)) (Icc (-(n : ℤ)) n)) := by
      ext x; simp only [mem_Icc, mem_insert]; omega
    rw [sum_range_succ, ih, h, sum_insert (by simp only [mem_insert, mem_Icc]; omega),
      sum_insert (by simp only [mem_Icc]; omega)]
    simp only [stdTerm, ne_eq, Nat.add_one_ne_zero, not_false_eq_true, if_true]
    ring

/-- for each infinite shape the standardised series enumerates exactly the
original index set, each index once (statement for the three shapes at once). -/
theorem stdTerm_partial_sum (f : ℤ → ℚ) (n : ℕ) :
    (∀ a, ∑ k ∈ range (n + 1), stdTerm (.toInf a) f k = ∑ j ∈ Icc a (a + n), f j) ∧
    (∀ b, ∑ k ∈ range (n + 1), stdTerm (.fromNegInf b) f k = ∑ j ∈ Icc (b - n) b, f j) ∧
    (∑ k ∈ range (n + 1), stdTerm .all f k = ∑ j ∈ Icc (-(n : ℤ)) n, f j) :=
  ⟨fun a => stdTerm_partial_sum_toInf a f n, fun b => stdTerm_partial_sum_fromNegInf b f n,
    stdTerm_partial_sum_all f n⟩

example : ∑ k ∈ range 3, stdTerm .all (fun j => (j : ℚ) ^ 3 + 1) k = 5 := by
  rw [stdTerm_partial_sum_all]; decide +kernel

theorem shell_eq (f : ℕ → ℕ → ℚ) (n : ℕ) :
    shell f n = ∑ x ∈ range (n + 1), f x n + ∑ y ∈ range n, f n y := by
  unfold shell
  rw [sumNat_eq, sumNat_eq]
  simp

/-- the shells `max(x,y) = n` of `fold_infinite` partition `ℕ × ℕ`: the sum
of the first `N+1` shells is the sum over the square `[0,N] × [0,N]`. -/
theorem shell_partial_sum (f : ℕ → ℕ → ℚ) (N : ℕ) :
    ∑ n ∈ range (N + 1), shell f n = ∑ x ∈ range (N + 1), ∑ y ∈ range (N + 1), f x y := by
  induction N with
  | zero => simp [shell_eq]
  | succ N ih =>
    rw [sum_range_succ, ih, shell_eq, sum_range_succ (fun x => ∑ y ∈ range (N + 1 + 1), f x y)]
    simp only [sum_range_succ _ (N + 1), sum_add_distrib]
    ring

example : ∑ n ∈ range 3, shell (fun x y => (10 * x + y : ℚ)) n = 99 := by decide +kernel

theorem foldl_add_eq_sum {α : Type} (g : α → ℚ) : ∀ (l : List α) (s : ℚ),
    l.foldl (fun s x => s + g x) s = s + (l.map g).sum := by
  intro l
  induction l with
  | nil => intro s; simp
  | cons a l ih => intro s; rw [List.foldl_cons, ih, List.map_cons, List.sum_cons, add_assoc]

theorem list_range_map_sum (h : ℕ → ℚ) (n : ℕ) :
    ((List.range n).map h).sum = ∑ i ∈ range n, h i := rfl

theorem xrangeList_map_sum (g : ℤ → ℚ) (a b : ℤ) (hab : a ≤ b) :
    ((xrangeList a b).map g).sum = ∑ j ∈ Icc a b, g j := by
  have hb : b = a + ((b - a).toNat : ℤ) := by omega
  have hc : (b + 1 - a).toNat = (b - a).toNat + 1 := by omega
  unfold xrangeList
  rw [List.map_map, list_range_map_sum, hc]
  simp only [Function.comp]
  rw [← sum_Icc_int g a, ← hb]

theorem cartesianProduct_two (l1 l2 : List ℤ) :
    cartesianProduct [l1, l2] = l1.flatMap fun x => l2.map fun y => [x, y] := by
  simp [cartesianProduct, List.flatMap_map]

theorem sum_map_flatMap {α β : Type} (g : β → ℚ) (F : α → List β) : ∀ l : List α,
    ((l.flatMap F).map g).sum = (l.map fun x => ((F x).map g).sum).sum := by
  intro l
  induction l with
  | nil => simp
  | cons a l ih => simp [List.flatMap_cons, ih]

/-- finite×finite folding (`fold_finite` over `cartesian_product`) is the
iterated double sum, first index outermost (and `0` if one of the ranges is empty). -/
theorem foldFinite2_eq (f : ℤ → ℤ → ℚ) (a1 b1 a2 b2 : ℤ) :
    foldFinite2 f a1 b1 a2 b2 = ∑ x ∈ Icc a1 b1, ∑ y ∈ Icc a2 b2, f x y := by
  unfold foldFinite2
  split
  · rw [Icc_eq_empty (by omega), sum_empty]
  split
  · rw [Icc_eq_empty (a := a2) (by omega)]; simp
  rename_i h1 h2
  unfold foldFinite
  rw [foldl_add_eq_sum, zero_add]
  simp only [List.map_cons, List.map_nil]
  rw [cartesianProduct_two, sum_map_flatMap, xrangeList_map_sum _ _ _ (by omega)]
  refine sum_congr rfl fun x _ => ?_
  rw [List.map_map, ← xrangeList_map_sum _ _ _ (by omega)]
  rfl

example : foldFinite2 (fun x y => (10 * x + y : ℚ)) 1 2 3 5 = 114 := by decide +kernel
example : cartesianProduct [[1, 2], [3, 4, 5]] = [[1, 3], [1, 4], [1, 5], [2, 3], [2, 4], [2, 5]] := by
  decide

open Nat in
/-- the closed form `(-1)^(k+N) (N+k)^N / (k! (N-k)!)` of the `k`-th Richardson weight -/
def richW (N k : ℕ) : ℚ :=
  (-1) ^ (k + N) * ((N + k : ℕ) : ℚ) ^ N / ((k ! : ℚ) * ((N - k)! : ℚ))

theorem ifac_eq (n : ℕ) : ifac n = n.factorial := by
  induction n with
  | zero => rfl
  | succ n ih => rw [ifac, ih, Nat.factorial_succ]

theorem richInit_eq (N : ℕ) : richInit N = richW N 0 := by
  unfold richInit richW
  rw [ifac_eq]
  push_cast
  simp

theorem richDen_ne (N k : ℕ) : richDen N k ≠ 0 := by
  unfold richDen
  have h : (1 + k) * (k + N) ^ N ≠ 0 := by
    apply Nat.mul_ne_zero (by omega)
    rcases Nat.eq_zero_or_pos N with rfl | h
    · simp
    · exact pow_ne_zero _ (by omega)
  exact_mod_cast h

/-- one step `c *= (k-N)*(k+N+1)**N; c /= (1+k)*(k+N)**N` of the weight recurrence stays on the
closed form -/
theorem richStep_eq (N k : ℕ) (hk : k < N) :
    richW N k * richNum N k / richDen N k = richW N (k + 1) := by
  obtain ⟨d, rfl⟩ : ∃ d, N = k + 1 + d := ⟨N - (k + 1), by omega⟩
  have e1 : k + 1 + d - k = d + 1 := by omega
  have e2 : k + 1 + d - (k + 1) = d := by omega
  unfold richW richNum richDen
  rw [e1, e2, Nat.factorial_succ, Nat.factorial_succ]
  push_cast
  rw [div_mul_eq_mul_div, div_div, div_eq_div_iff (by positivity) (by positivity)]
  ring

/-- the accumulated `maxc` after the steps `k, …, k+fuel-1`, starting from `m` -/
def richMaxc (N : ℕ) (k fuel : ℕ) (m : ℚ) : ℚ :=
  (List.range' k fuel).foldl (fun m j => pyMax (richAbs (richW N j)) m) m

theorem richLoop_eq (seq : List ℚ) (N : ℕ) (hlen : 2 * N < seq.length) :
    ∀ (fuel k : ℕ) (s m : ℚ), k + fuel = N + 1 →
      richLoop seq N fuel k (richW N k) s m
        = .ok (s + ∑ i ∈ range fuel, richW N (k + i) * seq.getD (N + (k + i)) 0,
            richMaxc N k fuel m) := by
  intro fuel
  induction fuel with
  | zero => intro k s m _; simp [richLoop, richMaxc]
  | succ fuel ih =>
    intro k s m hk
    have hi : N + k < seq.length := by omega
    have hx : seq[N + k]? = some (seq.getD (N + k) 0) := by
      rw [List.getD_eq_getElem?_getD, List.getElem?_eq_getElem hi]; rfl
    rw [richLoop]
    simp only [hx, if_neg (richDen_ne N k)]
    rcases Nat.eq_zero_or_pos fuel with rfl | hf
    · simp [richLoop, richMaxc]
    · rw [richStep_eq N k (by omega), ih (k + 1) _ _ (by omega), sum_range_succ']
      simp only [richMaxc, List.range'_succ, List.foldl_cons, Nat.add_zero, Nat.add_assoc,
        Nat.add_comm 1]
      congr 2
      rw [add_assoc, add_comm (richW N k * _)]

theorem richCore_eq (seq : List ℚ) (hlen : 2 ≤ seq.length) :
    richCore seq = .ok (∑ k ∈ range (seq.length / 2 - 1 + 1),
        richW (seq.length / 2 - 1) k * seq.getD (seq.length / 2 - 1 + k) 0,
      richMaxc (seq.length / 2 - 1) 0 (seq.length / 2 - 1 + 1) 1) := by
  unfold richCore
  simp only
  rw [richInit_eq, richLoop_eq seq _ (by omega) _ 0 0 1 (by omega), zero_add]
  simp only [Nat.zero_add]

theorem everyOther_length : ∀ l : List ℚ, (everyOther l).length = (l.length + 1) / 2
  | [] => rfl
  | [_] => by simp [everyOther]
  | _ :: _ :: t => by
    rw [everyOther, List.length_cons, everyOther_length t]
    simp only [List.length_cons]; omega

/-- `richardson` raises only the documented `ValueError`: for `len(seq) ≥ 3` the index `N+k` is
always in range and no divisor is zero (in either branch of the sign test). -/
theorem richardson_ok (seq : List ℚ) (hlen : 3 ≤ seq.length) : ∃ r, richardson seq = .ok r := by
  unfold richardson
  rw [if_neg (by omega)]
  simp only
  split
  · exact ⟨_, richCore_eq _ (by rw [everyOther_length]; omega)⟩
  · exact ⟨_, richCore_eq _ (by omega)⟩

/-- `richardson` raises `ValueError` when `len(seq) < 3`. -/
theorem richardson_error (seq : List ℚ) (hlen : seq.length < 3) :
    richardson seq = .error "ValueError: seq should be of minimum length 3" := by
  unfold richardson; rw [if_pos hlen]

open Nat in
/-- in the no-subsampling branch, with `N = len(seq)//2 - 1`, the result is
`s = ∑_{k=0}^{N} w_k * seq[N+k]` with `w_k = (-1)^(k+N) (N+k)^N / (k! (N-k)!)`, i.e. the weight
`c` used at step `k` is `w_k`; `maxc = max(1, |w_0|, …, |w_N|)` (as a left fold). -/
theorem richardson_weights (seq : List ℚ) (N : ℕ) (hlen : 3 ≤ seq.length)
    (hN : N = seq.length / 2 - 1) (hsign : richSignTest seq = false) :
    richardson seq = .ok
      (∑ k ∈ range (N + 1),
          ((-1) ^ (k + N) * ((N + k : ℕ) : ℚ) ^ N / ((k ! : ℚ) * ((N - k)! : ℚ)))
            * seq.getD (N + k) 0,
        (List.range (N + 1)).foldl (fun m j => pyMax (richAbs (richW N j)) m) 1) := by
  unfold richardson
  rw [if_neg (by omega), hsign]
  simp only [Bool.false_eq_true, if_false]
  rw [richCore_eq seq (by omega), ← hN, richMaxc, List.range_eq_range']
  rfl

example : richardson [0, 2, 3 / 2, 4 / 3] = .ok (1, 2) := by decide +kernel
example : richardson [0, 2, 3 / 2, 4 / 3, 5 / 4] = .ok (1, 2) := by decide +kernel
example : richSignTest [0, 2, 3 / 2, 4 / 3, 5 / 4] = false := by decide +kernel

/-- alternating binomial sums of shifted powers: `∑_k (-1)^(N-k) C(N,k) (N+k)^m` is `0` for
`m < N` and `N!` for `m = N` (the `N`-th forward difference of `x ↦ x^m` at `N`). -/
theorem binom_alt_sum_pow (N m : ℕ) (hm : m ≤ N) :
    ∑ k ∈ range (N + 1), (-1 : ℚ) ^ (N - k) * (N.choose k : ℚ) * ((N : ℚ) + k) ^ m
      = if m = N then (N.factorial : ℚ) else 0 := by
  have h := fwdDiff_iter_eq_sum_shift (1 : ℚ) (fun r : ℚ => r ^ m) N (N : ℚ)
  simp only [zsmul_eq_mul, nsmul_eq_mul, mul_one] at h
  push_cast at h
  rw [← h]
  split
  · rename_i h'; subst h'; rw [fwdDiff_iter_eq_factorial]; simp
  · rename_i h'; rw [fwdDiff_iter_pow_eq_zero_of_lt (lt_of_le_of_ne hm h')]; simp

theorem richW_div (N k j : ℕ) (hk : k ≤ N) (hj : j ≤ N) :
    richW N k / ((N + k : ℕ) : ℚ) ^ j
      = (1 / (N.factorial : ℚ))
          * ((-1 : ℚ) ^ (N - k) * (N.choose k : ℚ) * ((N : ℚ) + k) ^ (N - j)) := by
  have hch : (N.choose k : ℚ) * (k.factorial : ℚ) * ((N - k).factorial : ℚ) = (N.factorial : ℚ) := by
    exact_mod_cast Nat.choose_mul_factorial_mul_factorial hk
  have hsign : (-1 : ℚ) ^ (k + N) = (-1) ^ (N - k) := by
    rw [show k + N = (N - k) + 2 * k by omega, pow_add, pow_mul, neg_one_sq, one_pow, mul_one]
  have hpow : ((N + k : ℕ) : ℚ) ^ N = ((N : ℚ) + k) ^ (N - j) * ((N + k : ℕ) : ℚ) ^ j := by
    rw [← Nat.cast_add, ← pow_add, Nat.sub_add_cancel hj]
  have hxj : ((N + k : ℕ) : ℚ) ^ j ≠ 0 := by
    rcases Nat.eq_zero_or_pos j with rfl | hjpos
    · simp
    · exact pow_ne_zero _ (by exact_mod_cast (show N + k ≠ 0 by omega))
  have hc0 : (N.choose k : ℚ) ≠ 0 := by exact_mod_cast (Nat.choose_pos hk).ne'
  unfold richW
  rw [hsign, hpow, ← hch, div_div, one_div_mul_eq_div,
    div_eq_div_iff (mul_ne_zero (by positivity) hxj)
      (mul_ne_zero (mul_ne_zero hc0 (by positivity)) (by positivity))]
  ring

/-- the Richardson weights sum to `1` -/
theorem richW_sum_one (N : ℕ) : ∑ k ∈ range (N + 1), richW N k = 1 := by
  have h : ∀ k ∈ range (N + 1), richW N k
      = (1 / (N.factorial : ℚ)) * ((-1 : ℚ) ^ (N - k) * (N.choose k : ℚ) * ((N : ℚ) + k) ^ N) := by
    intro k hk
    have := richW_div N k 0 (by have := mem_range.mp hk; omega) (Nat.zero_le _)
    simpa using this
  rw [sum_congr rfl h, ← mul_sum, binom_alt_sum_pow N N le_rfl, if_pos rfl]
  have : (N.factorial : ℚ) ≠ 0 := by positivity
  field_simp

/-- the Richardson weights annihilate `i ↦ 1/i^j` for `1 ≤ j ≤ N` -/
theorem richW_sum_inv_pow (N j : ℕ) (hj1 : 1 ≤ j) (hjN : j ≤ N) :
    ∑ k ∈ range (N + 1), richW N k / ((N + k : ℕ) : ℚ) ^ j = 0 := by
  have h : ∀ k ∈ range (N + 1), richW N k / ((N + k : ℕ) : ℚ) ^ j
      = (1 / (N.factorial : ℚ))
          * ((-1 : ℚ) ^ (N - k) * (N.choose k : ℚ) * ((N : ℚ) + k) ^ (N - j)) := by
    intro k hk
    exact richW_div N k j (by have := mem_range.mp hk; omega) hjN
  rw [sum_congr rfl h, ← mul_sum, binom_alt_sum_pow N (N - j) (Nat.sub_le _ _),
    if_neg (by omega), mul_zero]

/-- the weighted sum computed by `richardson` is exact on sequences
`s i = L + ∑_{j=1}^{M} c_j / i^j` with `M ≤ N` (only the values `s N, …, s (2N)` are used) -/
theorem richW_sum_exact (N M : ℕ) (hM : M ≤ N) (L : ℚ) (c : ℕ → ℚ) (s : ℕ → ℚ)
    (hs : ∀ i, N ≤ i → i ≤ 2 * N → s i = L + ∑ j ∈ Icc 1 M, c j / (i : ℚ) ^ j) :
    ∑ k ∈ range (N + 1), richW N k * s (N + k) = L := by
  have h : ∀ k ∈ range (N + 1), richW N k * s (N + k)
      = L * richW N k + ∑ j ∈ Icc 1 M, c j * (richW N k / ((N + k : ℕ) : ℚ) ^ j) := by
    intro k hk
    have hk' := mem_range.mp hk
    rw [hs (N + k) (by omega) (by omega), mul_add, mul_sum, mul_comm]
    congr 1
    refine sum_congr rfl fun j _ => ?_
    ring
  rw [sum_congr rfl h, sum_add_distrib, ← mul_sum, richW_sum_one, mul_one, sum_comm]
  have h0 : ∀ j ∈ Icc 1 M, ∑ k ∈ range (N + 1), c j * (richW N k / ((N + k : ℕ) : ℚ) ^ j) = 0 := by
    intro j hj
    have hj' := mem_Icc.mp hj
    rw [← mul_sum, richW_sum_inv_pow N j hj'.1 (by omega), mul_zero]
  rw [sum_eq_zero h0, add_zero]

/-- if `seq[i] = L + c₁/i + … + c_M/i^M` for the entries actually read
(`N ≤ i ≤ 2N`, `N = len(seq)//2 - 1`), with `M ≤ N`, and the sign test selects the
no-subsampling branch, then `richardson(seq)` returns exactly `L` (in exact arithmetic). -/
theorem richardson_exact (seq : List ℚ) (N M : ℕ) (L : ℚ) (c : ℕ → ℚ)
    (hlen : 3 ≤ seq.length) (hN : N = seq.length / 2 - 1) (hM : M ≤ N)
    (hsign : richSignTest seq = false)
    (hs : ∀ i, N ≤ i → i ≤ 2 * N → seq.getD i 0 = L + ∑ j ∈ Icc 1 M, c j / (i : ℚ) ^ j) :
    ∃ maxc, richardson seq = .ok (L, maxc) := by
  have h := richardson_weights seq N hlen hN hsign
  have e := richW_sum_exact N M hM L c (fun i => seq.getD i 0) hs
  unfold richW at e
  rw [e] at h
  exact ⟨_, h⟩

/-- non-vacuity of `richardson_exact`: `s i = 1 + 1/i`, `N = M = 1`, list of length 5 -/
example : ∃ maxc, richardson [0, 2, 3 / 2, 4 / 3, 5 / 4] = .ok (1, maxc) := by
  refine richardson_exact _ 1 1 1 (fun _ => 1) (by decide) (by decide) le_rfl (by decide +kernel) ?_
  intro i h1 h2
  have : i = 1 ∨ i = 2 := by omega
  rcases this with rfl | rfl <;> norm_num

theorem everyOther_getD : ∀ (l : List ℚ) (i : ℕ), (everyOther l).getD i 0 = l.getD (2 * i) 0
  | [], i => by simp [everyOther]
  | [a], i => by
    cases i with
    | zero => simp [everyOther]
    | succ i => simp [everyOther, Nat.mul_succ]
  | a :: b :: t, i => by
    cases i with
    | zero => simp [everyOther]
    | succ i =>
      rw [everyOther, List.getD_cons_succ, everyOther_getD t i, Nat.mul_succ]
      rfl

/-- the same exactness in the subsampling branch
(`seq = seq[::2]`): the retained entries are `s(2i) = L + ∑ (c_j/2^j)/i^j`, again of the
form annihilated by the weights (`N = len(seq[::2])//2 - 1 ≥ 1`). -/
theorem richardson_exact_subsampled (seq : List ℚ) (N M : ℕ) (L : ℚ) (c : ℕ → ℚ)
    (hlen : 3 ≤ seq.length) (hN : N = (seq.length + 1) / 2 / 2 - 1) (hM : M ≤ N)
    (hsign : richSignTest seq = true)
    (hs : ∀ i, 2 * N ≤ i → i ≤ 4 * N → seq.getD i 0 = L + ∑ j ∈ Icc 1 M, c j / (i : ℚ) ^ j) :
    ∃ maxc, richardson seq = .ok (L, maxc) := by
  have e : ∑ k ∈ range (N + 1), richW N k * (everyOther seq).getD (N + k) 0 = L := by
    refine richW_sum_exact N M hM L (fun j => c j / 2 ^ j) (fun i => (everyOther seq).getD i 0) ?_
    intro i h1 h2
    rw [everyOther_getD, hs (2 * i) (by omega) (by omega)]
    congr 1
    refine sum_congr rfl fun j _ => ?_
    push_cast
    rw [mul_pow, div_div]
  have h : richardson seq = richCore (everyOther seq) := by
    unfold richardson
    rw [if_neg (by omega), hsign]
    rfl
  rw [richCore_eq _ (by rw [everyOther_length]; omega), everyOther_length, ← hN, e] at h
  exact ⟨_, h⟩

/-- non-vacuity of `richardson_exact_subsampled`: `s i = 1 + 1/i` perturbed at an odd index so
that the sign test fires (`N = 1`, the entries read are `seq[2], seq[4]`) -/
example : ∃ maxc, richardson [0, 2, 3 / 2, 4 / 3, 5 / 4, 7, 7 / 6] = .ok (1, maxc) := by
  refine richardson_exact_subsampled _ 1 1 1 (fun _ => 1) (by decide) (by decide) le_rfl
    (by decide +kernel) ?_
  intro i h1 h2
  have : i = 2 ∨ i = 3 ∨ i = 4 := by omega
  rcases this with rfl | rfl | rfl <;> norm_num

#print axioms diffWeights_eq
#print axioms diffWeights_eq_map
#print axioms difference_spec
#print axioms difference_eq_fwdDiff
#print axioms richardson_ok
#print axioms richardson_weights
#print axioms richW_sum_one
#print axioms richW_sum_inv_pow
#print axioms richW_sum_exact
#print axioms richardson_exact
#print axioms richardson_exact_subsampled
#print axioms stdTerm_partial_sum
#print axioms stdTerm_fin
#print axioms shell_partial_sum
#print axioms foldFinite2_eq

end Mp.Calc

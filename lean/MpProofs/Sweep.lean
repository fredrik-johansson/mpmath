/-
  MpProofs/Sweep.lean — bounded facts decided by kernel evaluation: a range sweep whose arguments stay
  numerals during evaluation, and combinators that make the kernel evaluate a shared value once.
-/

namespace Mp

/-- `P i` for every `i < n`.  Recursion on the bound itself: the kernel turns the numeral `n+1` into
`Nat.succ n` with `n` again a numeral, so `P` is always applied to a numeral and not to a growing
unevaluated expression (which is what `lo + len / 2`-style halving produces). -/
def allBelow (P : Nat → Bool) : Nat → Bool
  | 0 => true
  | n + 1 => P n && allBelow P n

theorem allBelow_sound {P : Nat → Bool} : ∀ {n}, allBelow P n = true → ∀ i < n, P i = true
  | n + 1, h, i, hi => by
    rw [allBelow, Bool.and_eq_true] at h
    rcases Nat.lt_succ_iff_lt_or_eq.1 hi with hi | rfl
    · exact allBelow_sound h.2 i hi
    · exact h.1

theorem allBelow_range {P : Nat → Bool} {lo n : Nat} (h : allBelow (fun i => P (lo + i)) n = true)
    (i : Nat) (h1 : lo ≤ i) (h2 : i < lo + n) : P i = true := by
  have := allBelow_sound h (i - lo) (by omega)
  rwa [Nat.add_sub_cancel' h1] at this

/-! ### strict evaluation

Identity functions that force their argument under kernel reduction.  The kernel substitutes the unevaluated
value of a `let` (or of an argument) at every occurrence and evaluates each copy; passing the value through a
`match` first makes the continuation receive a numeral.  Trap: the kernel's caches hash a numeral by its low
word, so an evaluation that holds many distinct numerals with 32 or more trailing zero bits (`m <<< 94`, `2 ^ p`)
degrades to bucket scans; keep mantissa and exponent apart and do not force such values. -/

def forceNat {α : Type} (k : Nat) (f : Nat → α) : α :=
  match k with
  | 0 => f 0
  | Nat.succ k' => f (Nat.succ k')

def forceInt {α : Type} (v : Int) (f : Int → α) : α :=
  match v with
  | Int.ofNat k => forceNat k fun k' => f (Int.ofNat k')
  | Int.negSucc k => forceNat k fun k' => f (Int.negSucc k')

def forceList {α : Type} : List Int → (List Int → α) → α
  | [], f => f []
  | x :: t, f => forceInt x fun x' => forceList t fun t' => f (x' :: t')

@[simp] theorem forceNat_eq {α : Type} (k : Nat) (f : Nat → α) : forceNat k f = f k := by
  cases k <;> rfl

@[simp] theorem forceInt_eq {α : Type} (v : Int) (f : Int → α) : forceInt v f = f v := by
  cases v <;> simp [forceInt]

@[simp] theorem forceList_eq {α : Type} (l : List Int) (f : List Int → α) : forceList l f = f l := by
  induction l generalizing f with
  | nil => rfl
  | cons x t ih => simp [forceList, ih]

/-! ### `Nat.log2` with a hint

`Nat.log2` is defined by well-founded recursion, which the kernel unfolds bit by bit.  Where the caller knows the width of the argument to within one bit (a product of two
53-bit mantissas, a numeral times a constant), two comparisons with powers of two, which the kernel does on
numerals directly, give the same answer; a wrong hint falls back to `Nat.log2`, so the equation needs no hypothesis. -/

def log2Near (h m : Nat) : Nat :=
  if m < 2 ^ (h + 1) then (if 2 ^ h ≤ m then h else Nat.log2 m)
  else if m < 2 ^ (h + 2) then h + 1 else Nat.log2 m

theorem log2Near_eq (h m : Nat) : log2Near h m = Nat.log2 m := by
  unfold log2Near
  split
  · split
    · next h2 h1 =>
      have hm : m ≠ 0 := fun e => by simp [e] at h1
      exact ((Nat.log2_eq_iff hm).2 ⟨h1, h2⟩).symm
    · rfl
  · split
    · next h1 h2 =>
      have hm : m ≠ 0 := fun e => by simp [e] at h1
      exact ((Nat.log2_eq_iff hm).2 ⟨Nat.le_of_not_lt h1, h2⟩).symm
    · rfl

end Mp

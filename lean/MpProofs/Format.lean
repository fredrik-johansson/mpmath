/-
  MpProofs/Format.lean — the p-bit format over K: representability, the "empty cell" lemma,
  and rounding predicates derived from the enclosing cell `[q·2^E, (q+1)·2^E]`.
-/
import MpProofs.Bits

namespace Mp

variable {K : Type*} [Field K] [LinearOrder K] [IsStrictOrderedRing K]

theorem two_zpow_pos (E : ℤ) : (0 : K) < (2 : K) ^ E := by positivity

theorem Repb.neg {p : ℕ} {y : K} (h : Repb p y) : Repb p (-y) := by
  obtain ⟨m, e, hm, rfl⟩ := h
  exact ⟨-m, e, by simpa using hm, by push_cast; ring⟩

theorem repb_neg_iff {p : ℕ} {y : K} : Repb p (-y) ↔ Repb p y :=
  ⟨fun h => by simpa using h.neg, Repb.neg⟩

theorem repb_zero (p : ℕ) : Repb p (0 : K) := ⟨0, 0, by positivity, by simp⟩

theorem repb_nat {p : ℕ} {q : ℕ} (hq : q < 2 ^ p) (E : ℤ) : Repb p ((q : K) * 2 ^ E) :=
  ⟨q, E, by rw [abs_of_nonneg (by positivity)]; exact_mod_cast hq, by push_cast; ring⟩

theorem Repb.mono {p p' : ℕ} (h : p ≤ p') {y : K} (hy : Repb p y) : Repb p' y := by
  obtain ⟨m, e, hm, rfl⟩ := hy
  refine ⟨m, e, lt_of_lt_of_le hm ?_, rfl⟩
  exact pow_le_pow_right₀ (by norm_num) h

theorem no_repr_between {p : Nat} (hp : 0 < p) {q : ℕ} {E : ℤ} (hq : 2^(p-1) ≤ q)
    {z : K} (hz : Repb p z) (h1 : (q:K) * 2^E < z) (h2 : z < ((q:K)+1) * 2^E) : False := by
  obtain ⟨m, e, hm, rfl⟩ := hz
  rcases le_or_gt E e with hle | hlt
  · -- e ≥ E : z is a multiple of 2^E
    obtain ⟨k, rfl⟩ : ∃ k : ℕ, e = E + k := ⟨(e - E).toNat, by omega⟩
    rw [zpow_add₀ two_ne_zero, zpow_natCast, ← mul_assoc, mul_right_comm] at h1 h2
    have a : (q:ℤ) < m * 2^k := by exact_mod_cast lt_of_mul_lt_mul_right h1 (two_zpow_pos E).le
    have b : m * 2^k < (q:ℤ) + 1 := by exact_mod_cast lt_of_mul_lt_mul_right h2 (two_zpow_pos E).le
    omega
  · -- e < E : |m| < 2^p ≤ 2·q ≤ q·2^(E-e) < m
    obtain ⟨k, rfl⟩ : ∃ k : ℕ, E = e + (k + 1 : ℕ) := ⟨(E - e - 1).toNat, by omega⟩
    rw [zpow_add₀ two_ne_zero, zpow_natCast, ← mul_assoc, mul_right_comm] at h1
    have a : (q:ℤ) * 2^(k+1) < m := by exact_mod_cast lt_of_mul_lt_mul_right h1 (two_zpow_pos e).le
    have hm' : m < 2^p := (abs_lt.1 hm).2
    have : (2:ℤ)^p ≤ q * 2^(k+1) := by
      have h3 : (2:ℤ)^(p-1) ≤ q := by exact_mod_cast hq
      have h4 : (2:ℤ)^1 ≤ 2^(k+1) := pow_le_pow_right₀ (by norm_num) (by omega)
      have : (2:ℤ)^p = 2^(p-1) * 2^1 := by rw [← pow_add]; congr 1; omega
      rw [this]
      exact mul_le_mul h3 h4 (by positivity) (by positivity)
    omega

theorem repb_outside_cell {p : Nat} (hp : 0 < p) {q : ℕ} {E : ℤ} (hq : 2^(p-1) ≤ q)
    {z : K} (hz : Repb p z) : z ≤ (q:K) * 2^E ∨ ((q:K)+1) * 2^E ≤ z := by
  by_contra h
  push_neg at h
  exact no_repr_between hp hq hz h.1 h.2

theorem isRoundF_self {p : ℕ} {x : K} (h : Repb p x) : IsRoundF p x x :=
  ⟨h, le_refl _, fun _ _ hz => hz⟩

theorem isRoundC_self {p : ℕ} {x : K} (h : Repb p x) : IsRoundC p x x :=
  ⟨h, le_refl _, fun _ _ hz => hz⟩

theorem isRoundN_self {p : ℕ} {x : K} (h : Repb p x) : IsRoundN p x x := by
  refine ⟨h, fun z _ => ?_⟩
  simp only [sub_self, abs_zero]
  rcases eq_or_ne z x with he | hne
  · right; exact ⟨by rw [he]; simp, Or.inl he⟩
  · left; exact abs_pos.2 (sub_ne_zero.2 (Ne.symm hne))

/-- for a given mode and number, `IsRound` is one of the three basic roundings: every fact about
all five modes is proved by this three-way split -/
theorem isRound_eq (p : ℕ) (rnd : Rnd) (x : K) :
    IsRound p rnd x = IsRoundN p x ∨ IsRound p rnd x = IsRoundF p x ∨ IsRound p rnd x = IsRoundC p x := by
  cases rnd
  · exact Or.inl rfl
  · exact Or.inr (Or.inl rfl)
  · exact Or.inr (Or.inr rfl)
  · by_cases h : 0 ≤ x
    · exact Or.inr (Or.inr (funext fun y => by simp only [IsRound, h, if_true]))
    · exact Or.inr (Or.inl (funext fun y => by simp only [IsRound, h, if_false]))
  · by_cases h : 0 ≤ x
    · exact Or.inr (Or.inl (funext fun y => by simp only [IsRound, h, if_true]))
    · exact Or.inr (Or.inr (funext fun y => by simp only [IsRound, h, if_false]))

theorem isRound_self {p : ℕ} (rnd : Rnd) {x : K} (h : Repb p x) : IsRound p rnd x x := by
  rcases isRound_eq p rnd x with e | e | e <;> rw [e]
  exacts [isRoundN_self h, isRoundF_self h, isRoundC_self h]

theorem isRoundF_neg {p : ℕ} {x y : K} : IsRoundF p (-x) (-y) ↔ IsRoundC p x y := by
  constructor
  · rintro ⟨h1, h2, h3⟩
    refine ⟨by simpa using h1.neg, by linarith, fun z hz hxz => ?_⟩
    have := h3 (-z) hz.neg (by linarith); linarith
  · rintro ⟨h1, h2, h3⟩
    refine ⟨h1.neg, by linarith, fun z hz hxz => ?_⟩
    have := h3 (-z) hz.neg (by linarith); linarith

theorem isRoundC_neg {p : ℕ} {x y : K} : IsRoundC p (-x) (-y) ↔ IsRoundF p x y := by
  have := @isRoundF_neg K _ _ _ p (-x) (-y)
  simp only [neg_neg] at this
  exact this.symm

theorem EvenerThan.neg {y z : K} (h : EvenerThan y z) : EvenerThan (-y) (-z) := by
  obtain ⟨a, b, E, ha, hz, hy⟩ := h
  exact ⟨-a, -b, E, by omega, by rw [hz]; push_cast; ring, by rw [hy]; push_cast; ring⟩

theorem isRoundN_neg {p : ℕ} {x y : K} : IsRoundN p (-x) (-y) ↔ IsRoundN p x y := by
  have key : ∀ {x y : K}, IsRoundN p x y → IsRoundN p (-x) (-y) := by
    rintro x y ⟨h1, h2⟩
    refine ⟨h1.neg, fun z hz => ?_⟩
    have e1 : |-x - -y| = |x - y| := by rw [← abs_neg]; congr 1; ring
    have e2 : |-x - z| = |x - -z| := by rw [← abs_neg]; congr 1; ring
    rw [e1, e2]
    rcases h2 (-z) hz.neg with h | ⟨h, h'⟩
    · left; exact h
    · right; refine ⟨h, ?_⟩
      rcases h' with h' | h'
      · left; linarith
      · right; simpa using h'.neg
  constructor
  · intro h; simpa using key h
  · exact key

/-- Nearest rounding between two adjacent numbers of the format (`hout`: nothing representable lies
strictly between `lo` and `hi`): the lower one is the rounding of `X` when it is strictly closer, or
equally close and the even one of the two. -/
theorem isRoundN_of_adjacent {p : ℕ} {lo hi X : K} (hlo : Repb p lo)
    (hout : ∀ z, Repb p z → z ≤ lo ∨ hi ≤ z) (h1 : lo ≤ X)
    (hc : X - lo < hi - X ∨ (X - lo = hi - X ∧ EvenerThan lo hi)) : IsRoundN p X lo := by
  refine ⟨hlo, fun z hz => ?_⟩
  rw [abs_of_nonneg (sub_nonneg.2 h1)]
  rcases hout z hz with h | h
  · rw [abs_of_nonneg (by linarith)]
    rcases eq_or_lt_of_le h with rfl | hl
    · exact Or.inr ⟨rfl, Or.inl rfl⟩
    · exact Or.inl (by linarith)
  · have h2 : X ≤ hi := by rcases hc with hc | ⟨hc, _⟩ <;> linarith
    rw [abs_of_nonpos (by linarith)]
    rcases hc with hc | ⟨hc, hev⟩
    · exact Or.inl (by linarith)
    · rcases eq_or_lt_of_le h with rfl | hl
      · exact Or.inr ⟨by linarith, Or.inr hev⟩
      · exact Or.inl (by linarith)

/-- the mirror image: the upper one of two adjacent numbers -/
theorem isRoundN_of_adjacent_hi {p : ℕ} {lo hi X : K} (hhi : Repb p hi)
    (hout : ∀ z, Repb p z → z ≤ lo ∨ hi ≤ z) (h2 : X ≤ hi)
    (hc : hi - X < X - lo ∨ (X - lo = hi - X ∧ EvenerThan hi lo)) : IsRoundN p X hi := by
  refine isRoundN_neg.1 (isRoundN_of_adjacent (hi := -lo) hhi.neg (fun z hz => ?_) (neg_le_neg h2) ?_)
  · rcases hout (-z) hz.neg with h | h
    · exact Or.inr (by linarith)
    · exact Or.inl (by linarith)
  · rcases hc with hc | ⟨hc, hev⟩
    · exact Or.inl (by linarith)
    · exact Or.inr ⟨by linarith, hev.neg⟩

theorem repb_nat_succ {p : ℕ} (hp : 0 < p) {q : ℕ} (hq : q < 2 ^ p) (E : ℤ) :
    Repb p (((q:K) + 1) * 2 ^ E) := by
  rcases Nat.lt_or_ge (q + 1) (2 ^ p) with h | h
  · have := repb_nat (K := K) h E
    rwa [Nat.cast_succ] at this
  · -- the upper end of the last cell of a binade is `1·2^(E+p)`
    have : (q:K) + 1 = 2 ^ p := by exact_mod_cast (show q + 1 = 2 ^ p by omega)
    refine ⟨1, E + p, ?_, ?_⟩
    · rw [abs_one]; exact one_lt_pow₀ (by norm_num) (by omega)
    · rw [this, zpow_add₀ (by norm_num), zpow_natCast]; push_cast; ring

section cell
variable {p : ℕ} (hp : 0 < p) {q : ℕ} {E : ℤ} (hq1 : 2 ^ (p-1) ≤ q) (hq2 : q < 2 ^ p)
include hp hq1 hq2

theorem isRoundF_of_cell {X : K} (h1 : (q:K) * 2^E ≤ X) (h2 : X < ((q:K)+1) * 2^E) :
    IsRoundF p X ((q:K) * 2^E) := by
  refine ⟨repb_nat hq2 E, h1, fun z hz hzx => ?_⟩
  rcases repb_outside_cell hp hq1 (E := E) hz with h | h
  · exact h
  · linarith

theorem isRoundC_of_cell {X : K} (h1 : (q:K) * 2^E < X) (h2 : X ≤ ((q:K)+1) * 2^E) :
    IsRoundC p X (((q:K)+1) * 2^E) := by
  refine ⟨repb_nat_succ hp hq2 E, h2, fun z hz hzx => ?_⟩
  rcases repb_outside_cell hp hq1 (E := E) hz with h | h
  · linarith
  · exact h

theorem isRoundN_of_cell_lo {X : K} (h1 : (q:K) * 2^E ≤ X) (h2 : X ≤ ((q:K)+1) * 2^E)
    (hc : X - (q:K) * 2^E < ((q:K)+1) * 2^E - X) : IsRoundN p X ((q:K) * 2^E) :=
  isRoundN_of_adjacent (repb_nat hq2 E) (fun _ => repb_outside_cell hp hq1) h1 (Or.inl hc)

theorem isRoundN_of_cell_hi {X : K} (h1 : (q:K) * 2^E ≤ X) (h2 : X ≤ ((q:K)+1) * 2^E)
    (hc : ((q:K)+1) * 2^E - X < X - (q:K) * 2^E) : IsRoundN p X (((q:K)+1) * 2^E) :=
  isRoundN_of_adjacent_hi (repb_nat_succ hp hq2 E) (fun _ => repb_outside_cell hp hq1) h2 (Or.inl hc)

theorem isRoundN_of_cell_tie_even {X : K} (hc : X - (q:K) * 2^E = ((q:K)+1) * 2^E - X)
    (he : q % 2 = 0) : IsRoundN p X ((q:K) * 2^E) := by
  have hE : (0:K) < 2 ^ E := two_zpow_pos E
  refine isRoundN_of_adjacent (repb_nat hq2 E) (fun _ => repb_outside_cell hp hq1) (by linarith)
    (Or.inr ⟨hc, (q:ℤ) + 1, (q:ℤ) / 2, E, by omega, by push_cast; ring, ?_⟩)
  have : (q:ℤ) = 2 * ((q:ℤ) / 2) := by omega
  have h' : (q:K) = 2 * (((q:ℤ) / 2 : ℤ) : K) := by exact_mod_cast this
  rw [← h']

theorem isRoundN_of_cell_tie_odd {X : K} (hc : X - (q:K) * 2^E = ((q:K)+1) * 2^E - X)
    (he : q % 2 = 1) : IsRoundN p X (((q:K)+1) * 2^E) := by
  have hE : (0:K) < 2 ^ E := two_zpow_pos E
  refine isRoundN_of_adjacent_hi (repb_nat_succ hp hq2 E) (fun _ => repb_outside_cell hp hq1) (by linarith)
    (Or.inr ⟨hc, (q:ℤ), ((q:ℤ) + 1) / 2, E, by omega, by push_cast; ring, ?_⟩)
  have : (q:ℤ) + 1 = 2 * (((q:ℤ) + 1) / 2) := by omega
  have h' : (q:K) + 1 = 2 * ((((q:ℤ) + 1) / 2 : ℤ) : K) := by exact_mod_cast this
  rw [← h']

end cell

theorem isRoundF_unique {p : ℕ} {x y y' : K} (h : IsRoundF p x y) (h' : IsRoundF p x y') : y = y' :=
  le_antisymm (h'.2.2 y h.1 h.2.1) (h.2.2 y' h'.1 h'.2.1)

theorem isRoundC_unique {p : ℕ} {x y y' : K} (h : IsRoundC p x y) (h' : IsRoundC p x y') : y = y' :=
  le_antisymm (h.2.2 y' h'.1 h'.2.1) (h'.2.2 y h.1 h.2.1)

theorem IsRoundN.le {p : ℕ} {x y z : K} (h : IsRoundN p x y) (hz : Repb p z) : |x - y| ≤ |x - z| := by
  rcases h.2 z hz with h' | h'
  · exact h'.le
  · exact h'.1.le

theorem EvenerThan.asymm {y z : K} (h : EvenerThan y z) (h' : EvenerThan z y) : False := by
  obtain ⟨a, b, E, ha, hz, hy⟩ := h
  obtain ⟨a', b', E', ha', hy', hz'⟩ := h'
  -- a number is not odd on the scale `2^E` and even on a coarser scale `2^E'`
  have key : ∀ {x : K} {a b E E' : ℤ}, E ≤ E' → a % 2 = 1 → x = (a : K) * 2 ^ E →
      x = 2 * (b : K) * 2 ^ E' → False := by
    intro x a b E E' hle ha h1 h2
    obtain ⟨k, rfl⟩ : ∃ k : ℕ, E' = E + k := ⟨(E' - E).toNat, by omega⟩
    have e1 : (a : K) * 2 ^ E = (2 * (b : K) * 2 ^ k) * 2 ^ E := by
      rw [← h1, h2, zpow_add₀ (by norm_num), zpow_natCast]; ring
    have e3 : a = 2 * b * 2 ^ k := by exact_mod_cast mul_right_cancel₀ (two_zpow_pos E).ne' e1
    have : a % 2 = 0 := by rw [e3, mul_assoc]; exact Int.mul_emod_right 2 _
    omega
  rcases le_total E E' with hle | hle
  · exact key hle ha hz hz'
  · exact key hle ha' hy' hy

theorem isRoundN_unique {p : ℕ} {x y y' : K} (h : IsRoundN p x y) (h' : IsRoundN p x y') : y = y' := by
  rcases h.2 y' h'.1 with h1 | ⟨h1, h1'⟩
  · rcases h'.2 y h.1 with h2 | ⟨h2, _⟩
    · exact absurd h1 (not_lt.2 h2.le)
    · rw [h2] at h1; exact absurd h1 (lt_irrefl _)
  · rcases h'.2 y h.1 with h2 | ⟨_, h2'⟩
    · rw [h1] at h2; exact absurd h2 (lt_irrefl _)
    · rcases h1' with e | ev
      · exact e.symm
      · rcases h2' with e | ev'
        · exact e
        · exact (ev.asymm ev').elim

/-- **the correctly rounded value is unique** — this is what makes bit-exact comparison of an
implementation with the proved model a decision of the property. -/
theorem isRound_unique {p : ℕ} {rnd : Rnd} {x y y' : K} (h : IsRound p rnd x y) (h' : IsRound p rnd x y') :
    y = y' := by
  rcases isRound_eq p rnd x with e | e | e <;> rw [e] at h h'
  exacts [isRoundN_unique h h', isRoundF_unique h h', isRoundC_unique h h']

theorem IsRound.repb {p : ℕ} {rnd : Rnd} {x y : K} (h : IsRound p rnd x y) : Repb p y := by
  rcases isRound_eq p rnd x with e | e | e <;> rw [e] at h <;> exact h.1

section contract
variable {prec : ℤ} {rnd : Rnd} {x : ℚ} {r : Mpf}

theorem RoundOK.canon (h : RoundOK prec rnd x r) : CanonFin r := h.1

theorem RoundOK.exact (h : RoundOK 0 rnd x r) : val r = x := h.2.1 rfl

theorem RoundOK.isRound (h : RoundOK prec rnd x r) (hp : 0 < prec) : IsRound prec.toNat rnd x (val r) :=
  (h.2.2 hp).1

theorem RoundOK.bc_le (h : RoundOK prec rnd x r) (hp : 0 < prec) : r.bc ≤ prec := (h.2.2 hp).2

theorem RoundOK.eq_of_repb (hp : 0 < prec) (h : RoundOK prec rnd x r) (hx : Repb prec.toNat x) : val r = x :=
  isRound_unique (h.isRound hp) (isRound_self rnd hx)

theorem roundOK_ne_nan (h : RoundOK prec rnd x r) : r ≠ fnan := by
  rcases h.1 with h0 | ⟨-, h1, -⟩
  · rw [h0]; decide
  · intro e; rw [e] at h1; exact absurd h1 (by decide)

theorem roundOK_f_le (hp : 0 ≤ prec) (h : RoundOK prec .f x r) : val r ≤ x := by
  rcases eq_or_lt_of_le hp with rfl | hpos
  · rw [h.exact]
  · exact (h.isRound hpos).2.1

theorem roundOK_c_ge (hp : 0 ≤ prec) (h : RoundOK prec .c x r) : x ≤ val r := by
  rcases eq_or_lt_of_le hp with rfl | hpos
  · rw [h.exact]
  · exact (h.isRound hpos).2.1

/-- a floor rounding of a nonnegative value is nonnegative (0 is representable) -/
theorem roundOK_f_nonneg (hp : 0 ≤ prec) (h : RoundOK prec .f x r) (hx : 0 ≤ x) : 0 ≤ val r := by
  rcases eq_or_lt_of_le hp with rfl | hpos
  · rw [h.exact]; exact hx
  · exact (h.isRound hpos).2.2 0 (repb_zero _) hx

end contract

end Mp

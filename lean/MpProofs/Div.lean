/-
  MpProofs/Div.lean — `mpf_div`, `mpf_rdiv_int`, `from_rational`, `mpf_mul_int` are correctly rounded.
-/
import MpProofs.Add
import Mathlib.Tactic.LinearCombination

namespace Mp

/-- The common core of the two division routines: integer quotient with a sticky bit.
`a / b` (naturals, quotient with more than `prec` bits) scaled by `2^e`. -/
theorem div_core_spec {sign : ℕ} (hs : sign ≤ 1) {a b : ℕ} (hb : b ≠ 0) (e e' : ℤ) (he' : e' = e - 1)
    {prec : ℤ} (hp : 0 < prec) (rnd : Rnd) (hbig : 2 ^ prec.toNat ≤ a / b) :
    RoundOK prec rnd ((-1 : ℚ) ^ sign * ((a : ℚ) / b * 2 ^ e))
      (if a % b ≠ 0 then
        normalize1 sign (((a / b) <<< 1) + 1) e' (bitcount (((a / b) <<< 1) + 1)) prec rnd
       else normalize sign (a / b) e (bitcount (a / b)) prec rnd) := by
  have hbQ : (0 : ℚ) < b := Nat.cast_pos.2 (Nat.pos_of_ne_zero hb)
  have haQ : (a : ℚ) = b * (a / b : ℕ) + (a % b : ℕ) := by exact_mod_cast (Nat.div_add_mod a b).symm
  have hE := two_zpow_pos (K := ℚ) e
  have hrb : a % b < b := Nat.mod_lt a (Nat.pos_of_ne_zero hb)
  -- the exact quotient is q + r/b
  have hX : (a : ℚ) / b * 2 ^ e = (a / b : ℕ) * 2 ^ e + (a % b : ℕ) / b * 2 ^ e := by
    rw [haQ]; field_simp
  generalize a / b = q at *
  generalize a % b = r at *
  split
  · rename_i hrem
    -- sticky stand-in 2q+1 = q + 1/2 on the scale of the quotient; 0 < r/b < 1
    obtain ⟨p, rfl⟩ : ∃ p : ℕ, prec = p := ⟨prec.toNat, by omega⟩
    rw [Int.toNat_natCast] at hbig
    have hM : (q <<< 1) + 1 = 2 * q + 1 := by rw [Nat.shiftLeft_eq]; ring
    rw [hM, normalize1_eq_normalize _ (by omega), he']
    have h2 : (2 : ℚ) ^ e = 2 ^ (e - 1) * 2 := by rw [← zpow_add_one₀ two_ne_zero, sub_add_cancel]
    have hw : ((2 * q + 1 : ℕ) : ℚ) * 2 ^ (e - 1) = q * 2 ^ e + 2 ^ (e - 1) := by
      rw [h2]; push_cast; ring
    have hpos := two_zpow_pos (K := ℚ) (e - 1)
    have hf1 : (0 : ℚ) < r / b * 2 ^ e :=
      mul_pos (div_pos (Nat.cast_pos.2 (Nat.pos_of_ne_zero hrem)) hbQ) hE
    have hf2 : (r : ℚ) / b * 2 ^ e < 1 * 2 ^ e :=
      mul_lt_mul_of_pos_right ((div_lt_one hbQ).2 (Nat.cast_lt.2 hrb)) hE
    refine normalize_sticky hs _ _ (by omega) rnd (lt_bitcount_of_le (by omega)) (S := q) (w := e) hbig ?_ ?_ ?_ ?_
    · rw [hw]; linarith only [hpos]
    · rw [hw, add_one_mul]; linarith only [hpos, h2]
    · rw [hX]; linarith only [hf1]
    · rw [hX, add_one_mul]; linarith only [hf2]
  · rename_i hrem
    have hr0 : r = 0 := by omega
    rw [hX, hr0, Nat.cast_zero, zero_div, zero_mul, add_zero]
    exact normalize_spec hs q e hp rnd

theorem scaled_quot (A : ℚ) {B : ℚ} (hB : B ≠ 0) (ea eb : ℤ) (k : ℕ) :
    A * 2 ^ k / B * 2 ^ (ea - eb - k) = A * 2 ^ ea / (B * 2 ^ eb) := by
  rw [zpow_sub₀ two_ne_zero, zpow_sub₀ two_ne_zero, zpow_natCast]
  field_simp

theorem div_neg_one_pow (b : ℕ) (x y : ℚ) : x / ((-1) ^ b * y) = (-1) ^ b * (x / y) := by
  rcases Nat.even_or_odd b with h | h
  · rw [h.neg_one_pow, one_mul, one_mul]
  · rw [h.neg_one_pow, neg_one_mul, neg_one_mul, div_neg]

/-- sign and magnitude of an integer factor, as `mpf_mul_int` and `mpf_rdiv_int` compute them -/
theorem int_sign_mag {s : ℕ} (hs : s ≤ 1) (n : ℤ) :
    (if n < 0 then s ^^^ 1 else s) ≤ 1 ∧
    (-1 : ℚ) ^ (if n < 0 then s ^^^ 1 else s) * (n.natAbs : ℚ) = (-1) ^ s * n := by
  split
  · rename_i h
    refine ⟨xor_le_one hs le_rfl, ?_⟩
    rw [neg_one_pow_xor hs le_rfl, Nat.cast_natAbs, abs_of_neg h]; push_cast; ring
  · rename_i h
    exact ⟨hs, by rw [Nat.cast_natAbs, abs_of_nonneg (not_lt.1 h)]⟩

theorem val_div_canon (s t : Mpf) (hs : s.sign ≤ 1) (ht : t.sign ≤ 1) (htm : t.man ≠ 0) (k : ℕ) :
    (-1 : ℚ) ^ (s.sign ^^^ t.sign) * (((s.man <<< k : ℕ) : ℚ) / (t.man : ℚ) * 2 ^ (s.exp - t.exp - k))
      = val s / val t := by
  rw [val_def, val_def, div_neg_one_pow, neg_one_pow_xor hs ht, shl_cast,
    scaled_quot _ (Nat.cast_ne_zero.2 htm)]
  ring

theorem quot_big {a b : ℕ} (hb : b ≠ 0) {k p : ℕ} (ha : 2 ^ (k + p) ≤ a) (hb2 : b < 2 ^ k) : 2 ^ p ≤ a / b := by
  rw [Nat.le_div_iff_mul_le (Nat.pos_of_ne_zero hb)]
  calc 2 ^ p * b ≤ 2 ^ p * 2 ^ k := Nat.mul_le_mul_left _ hb2.le
    _ = 2 ^ (k + p) := by rw [← pow_add, add_comm]
    _ ≤ a := ha

/-- **division is correctly rounded** for finite canonical operands with a nonzero divisor -/
theorem mpf_div_spec {s t : Mpf} (hs : CanonFin s) (ht : CanonFin t) (ht0 : t ≠ fzero) {prec : ℤ}
    (hp : 0 < prec) (rnd : Rnd) :
    ∃ r, mpf_div s t prec rnd = .ok r ∧ RoundOK prec rnd (val s / val t) r := by
  rcases ht.cases with rfl | ⟨htm, hts, hto, htb⟩
  · exact absurd rfl ht0
  rcases hs.cases with rfl | ⟨hsm, hss, hso, hsb⟩
  · refine ⟨fzero, ?_, ?_⟩
    · have h1 : t ≠ fnan := by intro h; rw [h] at htm; exact htm rfl
      have h2 : fzero.man = 0 := rfl
      simp [mpf_div, ht0, h1, h2]
    · rw [val_fzero, zero_div]; exact roundOK_fzero hp.le rnd
  unfold mpf_div
  rw [if_neg (not_or.2 ⟨hsm, htm⟩)]
  dsimp only
  have hsign := xor_le_one hss hts
  by_cases h1 : t.man = 1
  · rw [if_pos h1, hsb]
    refine ⟨_, rfl, ?_⟩
    have := normalize1_spec hsign (Or.inl hso) (s.exp - t.exp) hp rnd
    convert this using 1
    have := val_div_canon s t hss hts htm 0
    simp only [Nat.shiftLeft_eq, pow_zero, mul_one, h1, Nat.cast_one, div_one, Nat.cast_zero, sub_zero] at this
    rw [← this]
  · rw [if_neg h1]
    set extra : ℤ := if prec - s.bc + t.bc + 5 < 5 then 5 else prec - s.bc + t.bc + 5 with hextra
    have hex5 : 5 ≤ extra := by rw [hextra]; split <;> omega
    have hex : prec - s.bc + t.bc + 5 ≤ extra := by rw [hextra]; split <;> omega
    obtain ⟨k, hk⟩ : ∃ k : ℕ, extra = k := ⟨extra.toNat, by omega⟩
    rw [hk, Int.toNat_natCast]
    have hbig : 2 ^ prec.toNat ≤ (s.man <<< k) / t.man := by
      refine quot_big htm (k := bitcount t.man) ?_ (bitcount_lt t.man)
      rw [Nat.shiftLeft_eq]
      have h1 := bitcount_le hsm
      have hb := bitcount_pos hsm
      calc 2 ^ (bitcount t.man + prec.toNat) ≤ 2 ^ (bitcount s.man - 1 + k) :=
            Nat.pow_le_pow_right (by norm_num) (by omega)
        _ = 2 ^ (bitcount s.man - 1) * 2 ^ k := pow_add _ _ _
        _ ≤ s.man * 2 ^ k := Nat.mul_le_mul_right _ h1
    have hcore := div_core_spec hsign htm (a := s.man <<< k) (s.exp - t.exp - k) (s.exp - t.exp - (k + 1))
      (by ring) hp rnd hbig
    rw [val_div_canon s t hss hts htm k] at hcore
    exact ⟨_, (apply_ite Except.ok _ _ _).symm, hcore⟩

/-- with a zero or special operand `mpf_div` does not look at precision and rounding -/
theorem mpf_div_special {s t : Mpf} (h : s.man = 0 ∨ t.man = 0) (prec : ℤ) (rnd : Rnd) :
    mpf_div s t prec rnd = mpf_div s t 0 .d := by
  unfold mpf_div
  rw [if_pos h, if_pos h]

theorem mpf_div_zero {s : Mpf} (hs : CanonFin s) (prec : ℤ) (rnd : Rnd) :
    mpf_div s fzero prec rnd = .error .zeroDiv := by
  rcases hs.cases with rfl | ⟨hsm, _⟩
  · simp [mpf_div, fzero]
  · have : s ≠ fzero := by intro h; rw [h] at hsm; exact hsm rfl
    simp [mpf_div, this, fzero]

theorem from_int_canon (n : ℤ) : CanonFin (from_int n) := (from_int_spec n (le_refl 0) .d).1

theorem from_int_val (n : ℤ) : val (from_int n) = n := (from_int_spec n (le_refl 0) .d).exact

theorem from_int_ne_zero {n : ℤ} (h : n ≠ 0) : from_int n ≠ fzero := by
  intro h0
  have := from_int_val n
  rw [h0, val_fzero] at this
  exact h (by exact_mod_cast this.symm)

theorem from_rational_spec (p q : ℤ) (hq : q ≠ 0) {prec : ℤ} (hp : 0 < prec) (rnd : Rnd) :
    ∃ r, from_rational p q prec rnd = .ok r ∧ RoundOK prec rnd ((p : ℚ) / q) r := by
  have := mpf_div_spec (from_int_canon p) (from_int_canon q) (from_int_ne_zero hq) hp rnd
  rwa [from_int_val, from_int_val] at this

theorem from_rational_zero (p : ℤ) (prec : ℤ) (rnd : Rnd) : from_rational p 0 prec rnd = .error .zeroDiv := by
  have h0 : from_int 0 = fzero := by decide
  rw [from_rational, h0]
  exact mpf_div_zero (from_int_canon p) prec rnd

theorem mpf_rdiv_int_spec (n : ℤ) {t : Mpf} (ht : CanonFin t) (ht0 : t ≠ fzero) {prec : ℤ}
    (hp : 0 < prec) (rnd : Rnd) :
    ∃ r, mpf_rdiv_int n t prec rnd = .ok r ∧ RoundOK prec rnd ((n : ℚ) / val t) r := by
  rcases ht.cases with rfl | ⟨htm, hts, hto, htb⟩
  · exact absurd rfl ht0
  unfold mpf_rdiv_int
  by_cases hn : n = 0
  · simp only [hn, true_or, if_true]
    have := mpf_div_spec (from_int_canon 0) ht ht0 hp rnd
    rwa [from_int_val] at this
  · simp only [hn, htm, or_self, if_false]
    obtain ⟨hsle, hsgn⟩ := int_sign_mag hts n
    obtain ⟨k, hk⟩ : ∃ k : ℕ, prec + t.bc + 5 = k := ⟨(prec + t.bc + 5).toNat, by
      have := bitcount_pos htm; omega⟩
    rw [hk, Int.toNat_natCast]
    have hn0 : n.natAbs ≠ 0 := by omega
    have hbig : 2 ^ prec.toNat ≤ (n.natAbs <<< k) / t.man := by
      refine quot_big htm (k := bitcount t.man) ?_ (bitcount_lt t.man)
      rw [Nat.shiftLeft_eq]
      calc 2 ^ (bitcount t.man + prec.toNat) ≤ 2 ^ k := Nat.pow_le_pow_right (by norm_num) (by omega)
        _ = 1 * 2 ^ k := by ring
        _ ≤ n.natAbs * 2 ^ k := Nat.mul_le_mul_right _ (by omega)
    have hcore := div_core_spec hsle htm (a := n.natAbs <<< k) (-t.exp - k) (-t.exp - (k + 1))
      (by ring) hp rnd hbig
    have hval : (-1 : ℚ) ^ (if n < 0 then t.sign ^^^ 1 else t.sign) *
        (((n.natAbs <<< k : ℕ) : ℚ) / (t.man : ℚ) * 2 ^ (-t.exp - k)) = (n : ℚ) / val t := by
      rw [val_def, div_neg_one_pow, shl_cast, ← zero_sub t.exp, scaled_quot _ (Nat.cast_ne_zero.2 htm),
        zpow_zero, mul_one, ← mul_div_assoc, hsgn, mul_div_assoc]
    rw [hval] at hcore
    exact ⟨_, (apply_ite Except.ok _ _ _).symm, hcore⟩

theorem mpf_mul_int_spec {s : Mpf} (hs : CanonFin s) (n : ℤ) {prec : ℤ} (hp : 0 < prec) (rnd : Rnd) :
    RoundOK prec rnd (val s * n) (mpf_mul_int s n prec rnd) := by
  unfold mpf_mul_int
  rcases hs.cases with rfl | ⟨hsm, hss, hso, hsb⟩
  · have h0 : fzero.man = 0 := rfl
    simp only [h0, if_true]
    have := mpf_mul_spec canonFin_fzero (from_int_canon n) hp.le rnd
    rwa [from_int_val] at this
  · simp only [hsm, if_false]
    by_cases hn : n = 0
    · simp only [hn, if_true, Int.cast_zero, mul_zero]; exact roundOK_fzero hp.le rnd
    · simp only [hn, if_false]
      have hn0 : n.natAbs ≠ 0 := by omega
      have hbc := mul_bc_fast hsm hn0
      rw [hsb, hbc]
      obtain ⟨hsle, hsgn⟩ := int_sign_mag hss n
      have := normalize_spec hsle (s.man * n.natAbs) s.exp hp rnd
      convert this using 1
      rw [val_def]; push_cast
      linear_combination (-(s.man : ℚ) * 2 ^ s.exp) * hsgn

/-- the two integer-multiplication variants agree on canonical finite operands -/
theorem gmpy_mpf_mul_int_eq {s : Mpf} (hs : CanonFin s) (n : ℤ) (prec : ℤ) (rnd : Rnd) :
    gmpy_mpf_mul_int s n prec rnd = mpf_mul_int s n prec rnd := by
  unfold gmpy_mpf_mul_int mpf_mul_int
  rcases hs.cases with rfl | ⟨hsm, hss, hso, hsb⟩
  · simp [fzero]
  · simp only [hsm, if_false]
    by_cases hn : n = 0
    · simp [hn]
    · simp only [hn, if_false]
      have hn0 : n.natAbs ≠ 0 := by omega
      have hbc := mul_bc_fast hsm hn0
      rw [hsb, hbc]

end Mp

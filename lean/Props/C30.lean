/-
  Props/C30.lean — C30: linear algebra results are accurate and factorizations are consistent.

  Technique: VERIFIED CERTIFICATE CHECKING.  The harness runs the real mpmath routine (`lu_solve`,
  `qr_solve`, `cholesky_solve`, `inverse`, `det`, `lu`, `qr`, `cholesky`), reads input and output
  exactly, and the compiled checker of `MpModel/Cert.lean` decides the property instance in exact
  dyadic arithmetic.  The theorems say what an answer of the checker means for the complex matrices
  denoted by the data (`toMat r c M : Matrix (Fin r) (Fin c) ℂ`); `‖·‖` is the ∞-operator norm
  (maximal absolute row sum; for a column vector the max-norm), `frob` the Frobenius norm, `p` the
  working precision.

  * accuracy ("agree with the exact results to within cond(A)·2^(10−p) relative error"):
      SolveAccurate p A B X  :=  ‖A⁻¹·B − X‖ ≤ ‖A‖·‖A⁻¹‖·2^(10−p)·‖A⁻¹·B‖
      and for `det`              ‖d − det A‖ ≤ ‖A‖·‖A⁻¹‖·2^(10−p)·‖det A‖
    The certificate is an arbitrary matrix R (the harness passes mpmath's own inverse at higher
    precision): if the exactly computed α ≥ ‖I − R·A‖ is < 1 then A is nonsingular (elementary
    Neumann argument) and ‖R(B − AX)‖/(1+α) ≤ ‖A⁻¹B − X‖ ≤ ‖R(B − AX)‖/(1−α),
    ‖R‖/(1+α) ≤ ‖A⁻¹‖ ≤ ‖R‖/(1−α)  (`solve_certificate`).  Hence
      solveCert = ok        → A nonsingular ∧ SolveAccurate          (`solveCert_sound`)
      solveCert = violates  → A nonsingular ∧ ¬ SolveAccurate        (`solveCert_violates_sound`)
    and likewise for `inverse` (B = I), least squares (normal equations), `det`.
    `detCert = singular ↔ det A = 0` decides exact singularity (Laplace expansion, `toC_detN`).
  * factorizations: structure is checked exactly, the identity up to a Frobenius residual:
      luCheck = true       → P permutation, L unit lower, U upper, ‖P·A − L·U‖_F ≤ 2^(10−p)·‖L‖_F·‖U‖_F
      qrCheck = true       → ‖QᴴQ − I‖_F ≤ 2^(10−p)·√q, R upper, ‖Q·R − A‖_F ≤ 2^(10−p)·‖A‖_F
      choleskyCheck = true → L lower, diagonal real and > 0, ‖L·Lᴴ − A‖_F ≤ 2^(10−p)·‖A‖_F
  Matrix + − * transpose/conjugate-transpose/norms are checked in the harness against exact
  arithmetic rounded once (no theorem here).  The exact-arithmetic model of LU_decomp's pivoting
  is NOT part of this file.
-/
import MpProofs.CertResid
import MpProofs.CertSolve

namespace Mp

open Mp.Cert Matrix

/-! ## factorizations -/

/-- `lu`: the returned factors have the required structure exactly and reproduce P·A up to the residual. -/
theorem luCheck_sound (n : ℕ) (p : ℤ) (P A L U : Mat) (h : luCheck n p P A L U = true) :
    IsPermMatrix (toMat n n P) ∧ IsLowerTri (toMat n n L) ∧ (∀ i, toMat n n L i i = 1) ∧
    IsUpperBand 0 (toMat n n U) ∧
    frob (toMat n n P * toMat n n A - toMat n n L * toMat n n U)
      ≤ (2:ℝ) ^ (10 - p) * (frob (toMat n n L) * frob (toMat n n U)) := by
  rw [luCheck, Bool.and_eq_true, Bool.and_eq_true, Bool.and_eq_true, Bool.and_eq_true] at h
  obtain ⟨⟨⟨⟨h1, h2⟩, h3⟩, h4⟩, h5⟩ := h
  refine ⟨isPerm_sound h1, isLower_sound h2, unitDiag_sound h3, isUpperBand_sound h4, ?_⟩
  have := frobLe_sound h5
  rwa [luResid, toMat_msub, toMat_mmul, toMat_mmul, sqrt_frob2_mul] at this

/-- `qr` (A m×n, Q m×q, R q×n; q = m for mode 'full', q = n for 'skinny'). -/
theorem qrCheck_sound (m n q : ℕ) (p : ℤ) (A Q R : Mat) (h : qrCheck m n q p A Q R = true) :
    frob ((toMat m q Q)ᴴ * toMat m q Q - 1) ≤ (2:ℝ) ^ (10 - p) * Real.sqrt q ∧
    IsUpperBand 0 (toMat q n R) ∧
    frob (toMat m q Q * toMat q n R - toMat m n A) ≤ (2:ℝ) ^ (10 - p) * frob (toMat m n A) := by
  rw [qrCheck, Bool.and_eq_true, Bool.and_eq_true] at h
  obtain ⟨⟨h1, h2⟩, h3⟩ := h
  refine ⟨orthCheck_sound h1, isUpperBand_sound h2, ?_⟩
  have := frobLe_sound h3
  rwa [qrResid, toMat_msub, toMat_mmul, sqrt_frob2] at this

/-- `cholesky`: L lower triangular with real positive diagonal and L·Lᴴ ≈ A. -/
theorem choleskyCheck_sound (n : ℕ) (p : ℤ) (A L : Mat) (h : choleskyCheck n p A L = true) :
    IsLowerTri (toMat n n L) ∧ (∀ i, (toMat n n L i i).im = 0 ∧ 0 < (toMat n n L i i).re) ∧
    frob (toMat n n L * (toMat n n L)ᴴ - toMat n n A) ≤ (2:ℝ) ^ (10 - p) * frob (toMat n n A) := by
  rw [choleskyCheck, Bool.and_eq_true, Bool.and_eq_true] at h
  obtain ⟨⟨h1, h2⟩, h3⟩ := h
  refine ⟨isLower_sound h1, posRealDiag_sound h2, ?_⟩
  have := frobLe_sound h3
  rwa [cholResid, toMat_msub, toMat_mmul, toMat_conjT, sqrt_frob2] at this

/-! ## accuracy of solve / inverse / det through a certificate -/

section Accuracy

open scoped Matrix.Norms.Operator

/-- The certificate argument itself (∞-operator norm on complex matrices): ANY matrix R with
`‖I − R·A‖ ≤ α < 1` proves that A is nonsingular and turns the residual `R·(B − A·X)` into two-sided
bounds of the forward error of X and of `‖A⁻¹‖`. -/
theorem solve_certificate {n k : ℕ} (A R : Matrix (Fin n) (Fin n) ℂ) (B X : Matrix (Fin n) (Fin k) ℂ)
    (α : ℝ) (hα : ‖1 - R * A‖ ≤ α) (hα1 : α < 1) :
    IsUnit A.det ∧
    ‖A⁻¹ * B - X‖ ≤ ‖R * (B - A * X)‖ / (1 - α) ∧
    ‖R * (B - A * X)‖ / (1 + α) ≤ ‖A⁻¹ * B - X‖ ∧
    ‖A⁻¹‖ ≤ ‖R‖ / (1 - α) ∧ ‖R‖ / (1 + α) ≤ ‖A⁻¹‖ := by
  have hU := cert_isUnit A R α hα hα1
  have h1m : 0 < 1 - α := sub_pos.2 hα1
  have h1p : 0 < 1 + α := add_pos_of_pos_of_nonneg one_pos ((norm_nonneg _).trans hα)
  obtain ⟨he, he'⟩ := cert_err_bounds A R B X α hα hU
  obtain ⟨hi, hi'⟩ := cert_inv_bounds A R α hα hU
  exact ⟨hU, (le_div_iff₀' h1m).2 he, (div_le_iff₀' h1p).2 he', (le_div_iff₀' h1m).2 hi,
    (div_le_iff₀' h1p).2 hi'⟩

/-- `lu_solve` / `qr_solve` / `cholesky_solve` (square systems, k right-hand sides): verdict `ok` means that
A is nonsingular and the returned X is within cond(A)·2^(10−p) relative error of the exact solution:
`‖A⁻¹B − X‖ ≤ ‖A‖·‖A⁻¹‖·2^(10−p)·‖A⁻¹B‖`. -/
theorem solveCert_sound {n k : ℕ} {p : ℤ} {A B X R : Mat} (h : solveCert n k p A B X R = .ok) :
    IsUnit (toMat n n A).det ∧
    ‖(toMat n n A)⁻¹ * toMat n k B - toMat n k X‖
      ≤ ‖toMat n n A‖ * ‖(toMat n n A)⁻¹‖ * (2:ℝ) ^ (10 - p) * ‖(toMat n n A)⁻¹ * toMat n k B‖ :=
  solveCert_ok h

/-- verdict `violates` means that A is nonsingular and the accuracy statement is FALSE for the returned X. -/
theorem solveCert_violates_sound {n k : ℕ} {p : ℤ} {A B X R : Mat}
    (h : solveCert n k p A B X R = .violates) :
    IsUnit (toMat n n A).det ∧
    ¬ ‖(toMat n n A)⁻¹ * toMat n k B - toMat n k X‖
      ≤ ‖toMat n n A‖ * ‖(toMat n n A)⁻¹‖ * (2:ℝ) ^ (10 - p) * ‖(toMat n n A)⁻¹ * toMat n k B‖ :=
  solveCert_violates h

/-- `inverse`: verdict `ok` means `‖A⁻¹ − X‖ ≤ ‖A‖·‖A⁻¹‖·2^(10−p)·‖A⁻¹‖`. -/
theorem invCert_sound {n : ℕ} {p : ℤ} {A X R : Mat} (h : invCert n p A X R = .ok) :
    IsUnit (toMat n n A).det ∧
    ‖(toMat n n A)⁻¹ - toMat n n X‖
      ≤ ‖toMat n n A‖ * ‖(toMat n n A)⁻¹‖ * (2:ℝ) ^ (10 - p) * ‖(toMat n n A)⁻¹‖ := by
  have := solveCert_ok (show solveCert n n p A (ident n) X R = .ok from h)
  rwa [toMat_ident, SolveAccurate, Matrix.mul_one] at this

theorem invCert_violates_sound {n : ℕ} {p : ℤ} {A X R : Mat} (h : invCert n p A X R = .violates) :
    IsUnit (toMat n n A).det ∧
    ¬ ‖(toMat n n A)⁻¹ - toMat n n X‖
      ≤ ‖toMat n n A‖ * ‖(toMat n n A)⁻¹‖ * (2:ℝ) ^ (10 - p) * ‖(toMat n n A)⁻¹‖ := by
  have := solveCert_violates (show solveCert n n p A (ident n) X R = .violates from h)
  rwa [toMat_ident, SolveAccurate, Matrix.mul_one] at this

/-- overdetermined `lu_solve` / `qr_solve` (A m×n): verdict `ok` means that AᴴA is nonsingular (full column
rank) and X is accurate as a solution of the normal equations `AᴴA·x = AᴴB` (formed exactly). -/
theorem lsqCert_sound {m n k : ℕ} {p : ℤ} {A B X R : Mat} (h : lsqCert m n k p A B X R = .ok) :
    IsUnit ((toMat m n A)ᴴ * toMat m n A).det ∧
    SolveAccurate p ((toMat m n A)ᴴ * toMat m n A) ((toMat m n A)ᴴ * toMat m k B) (toMat n k X) := by
  have := solveCert_ok (show solveCert n k p (mmul n m n (conjT m n A) A)
    (mmul n m k (conjT m n A) B) X R = .ok from h)
  rwa [toMat_mmul, toMat_mmul, toMat_conjT] at this

theorem lsqCert_violates_sound {m n k : ℕ} {p : ℤ} {A B X R : Mat}
    (h : lsqCert m n k p A B X R = .violates) :
    IsUnit ((toMat m n A)ᴴ * toMat m n A).det ∧
    ¬ SolveAccurate p ((toMat m n A)ᴴ * toMat m n A) ((toMat m n A)ᴴ * toMat m k B) (toMat n k X) := by
  have := solveCert_violates (show solveCert n k p (mmul n m n (conjT m n A) A)
    (mmul n m k (conjT m n A) B) X R = .violates from h)
  rwa [toMat_mmul, toMat_mmul, toMat_conjT] at this

/-- exact singularity is decided by the exact determinant (Laplace expansion in Gaussian dyadics). -/
theorem detCert_singular {n : ℕ} {p : ℤ} {A : Mat} {d : G} {R : Mat} :
    detCert n p A d R = .singular ↔ (toMat n n A).det = 0 := by
  rw [← detN_isZero_iff]
  exact verdict_det_singular_iff

/-- the driver op `cert_detexact` prints `detN`, which IS the determinant. -/
theorem detexact_correct (n : ℕ) (A : Mat) : (detN n A).toC = (toMat n n A).det := toC_detN n A

/-- `det`: verdict `ok` means det A ≠ 0 and `|d − det A| ≤ ‖A‖·‖A⁻¹‖·2^(10−p)·|det A|`. -/
theorem detCert_sound {n : ℕ} {p : ℤ} {A : Mat} {d : G} {R : Mat} (h : detCert n p A d R = .ok) :
    (toMat n n A).det ≠ 0 ∧
    ‖d.toC - (toMat n n A).det‖
      ≤ ‖toMat n n A‖ * ‖(toMat n n A)⁻¹‖ * (2:ℝ) ^ (10 - p) * ‖(toMat n n A).det‖ := by
  obtain ⟨hz, h'⟩ := of_ite_singular (by decide) h
  obtain ⟨h1, h2⟩ := verdict_ok_of h'
  simp only [Dy.lt_iff, Dy.le_iff, Dy.toReal_mul, Dy.toReal_add, Dy.toReal_one, toReal_tol1,
    G.toReal_normSq, G.toC_sub, toC_detN, Complex.normSq_eq_norm_sq] at h1 h2
  have ht : (0:ℝ) ≤ 2 ^ (10 - p) := by positivity
  refine ⟨fun h0 => Bool.false_ne_true (hz ▸ (detN_isZero_iff n A).2 h0), ?_⟩
  exact det_ok_arith (rowSumU_nonneg _ _ _)
    (mul_nonneg (mul_nonneg (rowSumL_nonneg _ _ _) (rowSumL_nonneg _ _ _)) ht)
    (norm_nonneg _) (norm_nonneg _) (cond_bounds ht h1).2.1 h2

theorem detCert_violates_sound {n : ℕ} {p : ℤ} {A : Mat} {d : G} {R : Mat}
    (h : detCert n p A d R = .violates) :
    (toMat n n A).det ≠ 0 ∧
    ¬ ‖d.toC - (toMat n n A).det‖
      ≤ ‖toMat n n A‖ * ‖(toMat n n A)⁻¹‖ * (2:ℝ) ^ (10 - p) * ‖(toMat n n A).det‖ := by
  obtain ⟨hz, h'⟩ := of_ite_singular (by decide) h
  obtain ⟨h1, h2⟩ := verdict_violates_of h'
  simp only [Dy.lt_iff, Dy.toReal_mul, Dy.toReal_sub, Dy.toReal_one, toReal_tol1,
    G.toReal_normSq, G.toC_sub, toC_detN, Complex.normSq_eq_norm_sq] at h1 h2
  have ht : (0:ℝ) ≤ 2 ^ (10 - p) := by positivity
  refine ⟨fun h0 => Bool.false_ne_true (hz ▸ (detN_isZero_iff n A).2 h0), ?_⟩
  exact det_viol_arith h1 (mul_nonneg (mul_nonneg (norm_nonneg _) (norm_nonneg _)) ht)
    (norm_nonneg _) (norm_nonneg _) (cond_bounds ht h1).2.2 h2

/-- "moderate condition number", as used by the harness to decide whether an exception counts. -/
theorem condModerate_meaning {n : ℕ} {p : ℤ} {A R : Mat} (h : condModerate n p A R = true) :
    IsUnit (toMat n n A).det ∧ ‖toMat n n A‖ * ‖(toMat n n A)⁻¹‖ * (2:ℝ) ^ (10 - p) < 1 := by
  simp only [condModerate, Bool.and_eq_true, Dy.lt_iff, Dy.toReal_mul, Dy.toReal_sub,
    Dy.toReal_one, toReal_tol1] at h
  obtain ⟨hU, -, hc⟩ := cond_bounds (t := (2:ℝ) ^ (10 - p)) (by positivity) h.1
  refine ⟨hU, lt_of_mul_lt_mul_left ?_ (sub_pos.2 h.1).le⟩
  rw [mul_one]
  exact hc.trans_lt h.2

end Accuracy

/-- non-vacuity of the certificate theorems: the doctest system [[1,2],[3,4]]·x = (−10,10) with the exact
solution (30,−20) and R the exact inverse is accepted; the wrong solution (30,−21) is rejected; det −2 is
accepted and det −3 rejected; [[1,2],[2,4]] is singular. -/
example : solveCert 2 1 53
    [[⟨⟨1,0⟩,⟨0,0⟩⟩, ⟨⟨2,0⟩,⟨0,0⟩⟩], [⟨⟨3,0⟩,⟨0,0⟩⟩, ⟨⟨4,0⟩,⟨0,0⟩⟩]]
    [[⟨⟨-10,0⟩,⟨0,0⟩⟩], [⟨⟨10,0⟩,⟨0,0⟩⟩]] [[⟨⟨30,0⟩,⟨0,0⟩⟩], [⟨⟨-20,0⟩,⟨0,0⟩⟩]]
    [[⟨⟨-2,0⟩,⟨0,0⟩⟩, ⟨⟨1,0⟩,⟨0,0⟩⟩], [⟨⟨3,-1⟩,⟨0,0⟩⟩, ⟨⟨-1,-1⟩,⟨0,0⟩⟩]] = .ok := by decide +kernel
example : solveCert 2 1 53
    [[⟨⟨1,0⟩,⟨0,0⟩⟩, ⟨⟨2,0⟩,⟨0,0⟩⟩], [⟨⟨3,0⟩,⟨0,0⟩⟩, ⟨⟨4,0⟩,⟨0,0⟩⟩]]
    [[⟨⟨-10,0⟩,⟨0,0⟩⟩], [⟨⟨10,0⟩,⟨0,0⟩⟩]] [[⟨⟨30,0⟩,⟨0,0⟩⟩], [⟨⟨-21,0⟩,⟨0,0⟩⟩]]
    [[⟨⟨-2,0⟩,⟨0,0⟩⟩, ⟨⟨1,0⟩,⟨0,0⟩⟩], [⟨⟨3,-1⟩,⟨0,0⟩⟩, ⟨⟨-1,-1⟩,⟨0,0⟩⟩]] = .violates := by decide +kernel
example : detCert 2 53 [[⟨⟨1,0⟩,⟨0,0⟩⟩, ⟨⟨2,0⟩,⟨0,0⟩⟩], [⟨⟨3,0⟩,⟨0,0⟩⟩, ⟨⟨4,0⟩,⟨0,0⟩⟩]] ⟨⟨-3,0⟩,⟨0,0⟩⟩
    [[⟨⟨-2,0⟩,⟨0,0⟩⟩, ⟨⟨1,0⟩,⟨0,0⟩⟩], [⟨⟨3,-1⟩,⟨0,0⟩⟩, ⟨⟨-1,-1⟩,⟨0,0⟩⟩]] = .violates := by decide +kernel
example : detCert 2 53 [[⟨⟨1,0⟩,⟨0,0⟩⟩, ⟨⟨2,0⟩,⟨0,0⟩⟩], [⟨⟨2,0⟩,⟨0,0⟩⟩, ⟨⟨4,0⟩,⟨0,0⟩⟩]] ⟨⟨0,0⟩,⟨0,0⟩⟩
    [] = .singular := by decide +kernel

/-- non-vacuity: the doctest factorization of [[0,2],[4,5]] (P swaps the rows, L = I, U = [[4,5],[0,2]]) passes -/
example : luCheck 2 53
    [[G.zero, G.one], [G.one, G.zero]]
    [[G.zero, ⟨⟨2,0⟩,⟨0,0⟩⟩], [⟨⟨4,0⟩,⟨0,0⟩⟩, ⟨⟨5,0⟩,⟨0,0⟩⟩]]
    [[G.one, G.zero], [G.zero, G.one]]
    [[⟨⟨4,0⟩,⟨0,0⟩⟩, ⟨⟨5,0⟩,⟨0,0⟩⟩], [G.zero, ⟨⟨2,0⟩,⟨0,0⟩⟩]] = true := by decide +kernel

end Mp

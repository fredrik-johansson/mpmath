/-
  Props/C14pow.lean — C14, the clause on `**` with integer exponents: `iv` integer powers contain `x^n` for every point of
  the input interval.

  For intervals with finite canonical endpoints of ANY bit length, every precision ≥ 1 and EVERY exponent n ≥ 0:
  `x^n ∈ mpi_pow_int(I, n)` for all `x ∈ I` — odd exponents (monotone), even exponents on nonnegative, nonpositive and
  zero-straddling intervals (`[0, max(−a, b)^n]`); the endpoints come from `mpf_pow_int` with round_floor / round_ceiling,
  which never rounds past the exact power (C03, including the truncating binary-exponentiation regime).
  Negative exponents: `1 / I^n` with the power at `prec + 20`; whenever the power interval excludes zero the result
  contains `x^(−n)` (`C14_pow_int_neg`).
-/
import MpProofs.IntervalPow
import MpProofs.IntervalDiv

namespace Mp

theorem C14_pow_int_nonneg {s : Mpi} (hs : FinIv s) (n : ℕ) {prec : ℤ} (hp : 0 < prec) {x : ℚ} (hx : MemIv x s) :
    ∃ r, mpi_pow_int s (n : ℤ) prec = .ok r ∧ FinIv r ∧ MemIv (x ^ n) r := by
  rw [mpi_pow_int_nonneg s n prec (by omega), Int.toNat_natCast]
  exact mpiPowNat_sound hs n hp hx

theorem C14_pow_int_neg {s : Mpi} (hs : FinIv s) {n : ℕ} (hn : 0 < n) {prec : ℤ} (hp : 0 < prec) {x : ℚ}
    (hx : MemIv x s) :
    ∃ p, mpiPowNat s n (prec + 20) = .ok p ∧ FinIv p ∧ MemIv (x ^ n) p ∧
      ((0 < val p.1 ∨ val p.2 < 0) →
        ∃ r, mpi_pow_int s (-(n : ℤ)) prec = .ok r ∧ FinIv r ∧ MemIv ((x ^ n)⁻¹) r) := by
  obtain ⟨p, hpow, hfin, hmem⟩ := mpiPowNat_sound hs n (by omega : (0 : ℤ) < prec + 20) hx
  refine ⟨p, hpow, hfin, hmem, fun h0 => ?_⟩
  have hneg : -(n : ℤ) < 0 := by omega
  unfold mpi_pow_int
  rw [if_pos hneg, neg_neg, Int.toNat_natCast, hpow, ← one_div]
  rcases h0 with h | h
  · exact mpi_div_pos_sound one_encl.1 hfin h hp one_encl.2 hmem
  · exact mpi_div_neg_sound one_encl.1 hfin h hp one_encl.2 hmem

/-! non-vacuity: [-3, 2]^4 = [0, 81], [-3, 2]^3 = [-27, 8] at 53 bits -/
example : mpi_pow_int (⟨1, 3, 0, 2⟩, ⟨0, 1, 1, 1⟩) 4 53 = .ok (fzero, ⟨0, 81, 0, 7⟩) := by decide
example : mpi_pow_int (⟨1, 3, 0, 2⟩, ⟨0, 1, 1, 1⟩) 3 53 = .ok (⟨1, 27, 0, 5⟩, ⟨0, 1, 3, 1⟩) := by decide

end Mp

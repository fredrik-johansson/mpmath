/-
  Props/C40.lean — pickling and copying preserve values exactly.
  Model: MpModel/Helpers.lean (`to_pickable`, `from_pickable`, `mpf/mpc_getstate/setstate`, heap model of
  `matrix.copy`).  The pickle machinery itself (`__reduce_ex__`, copyreg, class lookup) is tied by the harness.
-/
import MpProofs.Helpers

namespace Mp
open H

/-- The hexadecimal mantissa string decodes to the mantissa, for every natural number (any length, incl. 0). -/
theorem hex_roundtrip (n : Nat) : ofHex (toHex n) = some n := by
  unfold ofHex toHex
  rw [String.toList_ofList]
  have hne := toHexDigits_ne_nil n
  have : ofHexList (toHexDigits n) 0 = some n := by
    apply ofHexList_toHexDigitsAux
    have h1 := bitcount_lt n
    have h2 : 2 ^ bitcount n ≤ 16 ^ bitcount n := Nat.pow_le_pow_left (by norm_num) _
    omega
  cases hl : toHexDigits n with
  | nil => exact absurd hl hne
  | cons c cs => simp only; rw [← hl]; exact this

/-- `from_pickable (to_pickable x)` gives back exactly the tuple `x` — for EVERY raw tuple: any mantissa
length, zero, the specials inf, -inf, nan, and non-canonical tuples alike (no hypothesis on `x`). -/
theorem pickle_roundtrip (x : Mpf) : from_pickable (to_pickable x) = .ok x := by
  simp [from_pickable, to_pickable, hex_roundtrip]

/-- `mpf.__setstate__(mpf.__getstate__())` restores `_mpf_` exactly. -/
theorem mpf_state_roundtrip (x : Mpf) : mpf_setstate (mpf_getstate x) = .ok x := pickle_roundtrip x

/-- `mpc.__setstate__(mpc.__getstate__())` restores `_mpc_` exactly. -/
theorem mpc_state_roundtrip (z : Mpf × Mpf) : mpc_setstate (mpc_getstate z) = .ok z := by
  simp [mpc_setstate, mpc_getstate, pickle_roundtrip, bind, Except.bind, pure, Except.pure]

/-- the special values and zero survive (instances, checked by evaluation) -/
example : from_pickable (to_pickable finf) = .ok finf ∧ from_pickable (to_pickable fninf) = .ok fninf ∧
    from_pickable (to_pickable fnan) = .ok fnan ∧ from_pickable (to_pickable fzero) = .ok fzero ∧
    (to_pickable fzero).man = "0" ∧ (to_pickable ⟨1, 0xdeadbeef, -7, 32⟩).man = "deadbeef" := by
  refine ⟨pickle_roundtrip _, pickle_roundtrip _, pickle_roundtrip _, pickle_roundtrip _, by decide, by decide⟩

/-- `matrix.copy` preserves the shape and every entry, allocates a NEW dict, and leaves the original
readable as before.  Hypothesis: the matrix's `__data` dict is an object of the heap. -/
theorem copy_preserves (h : Heap) (m : Mat) (hm : m.ref < h.objs.length) :
    (matCopy h m).2.rows = m.rows ∧ (matCopy h m).2.cols = m.cols ∧ (matCopy h m).2.ref ≠ m.ref ∧
    ∀ i j, matGet (matCopy h m).1 (matCopy h m).2 i j = matGet h m i j ∧
           matGet (matCopy h m).1 m i j = matGet h m i j := by
  obtain ⟨hr, hc, href, _, hd1, hd2⟩ := matCopy_facts h m hm
  refine ⟨hr, hc, by omega, fun i j => ⟨matGet_congr _ _ _ _ hr hc hd1 i j, matGet_congr _ _ _ _ rfl rfl hd2 i j⟩⟩

/-- Independence: any successful element assignment to the COPY leaves every entry of the ORIGINAL
unchanged (and the copy reads back the assigned value, zero if a zero was assigned), and any successful
assignment to the ORIGINAL leaves every entry of the COPY equal to what the original held at copy time. -/
theorem matrix_copy_independent (h : Heap) (m : Mat) (hm : m.ref < h.objs.length)
    (i j : Nat) (v : Entry) (h'' : Heap) :
    (matSet (matCopy h m).1 (matCopy h m).2 i j v = .ok h'' →
      (∀ a b, matGet h'' m a b = matGet h m a b) ∧
      matGet h'' (matCopy h m).2 i j = .ok (if v.truthy then v else .mpf fzero) ∧
      (∀ a b, (i, j) ≠ (a, b) → matGet h'' (matCopy h m).2 a b = matGet h m a b)) ∧
    (matSet (matCopy h m).1 m i j v = .ok h'' →
      (∀ a b, matGet h'' (matCopy h m).2 a b = matGet h m a b) ∧
      matGet h'' m i j = .ok (if v.truthy then v else .mpf fzero)) := by
  obtain ⟨hr, hc, href, hlen, hd1, hd2⟩ := matCopy_facts h m hm
  have hne : m.ref ≠ (matCopy h m).2.ref := by omega
  have hm1 : m.ref < (matCopy h m).1.objs.length := by omega
  have hm2 : (matCopy h m).2.ref < (matCopy h m).1.objs.length := by omega
  constructor
  · intro hs
    refine ⟨fun a b => ?_, matSet_get_same _ _ _ _ _ _ hm2 hs, fun a b hab => ?_⟩
    · exact matGet_congr _ _ _ _ rfl rfl
        ((matSet_read_other _ _ _ _ _ _ _ hne hs).trans hd2) a b
    · rw [matSet_get_other _ _ _ _ _ _ _ _ hm2 hab hs]
      exact matGet_congr _ _ _ _ hr hc hd1 a b
  · intro hs
    refine ⟨fun a b => ?_, matSet_get_same _ _ _ _ _ _ hm1 hs⟩
    exact matGet_congr _ _ _ _ hr hc
      ((matSet_read_other _ _ _ _ _ _ _ (Ne.symm hne) hs).trans hd1) a b

/-- non-vacuity: a 2×2 matrix with two stored entries; the assignment to the copy succeeds. -/
example :
    let h : Heap := ⟨[[((0, 0), .mpf fone), ((1, 1), .mpc fone ftwo)]]⟩
    let m : Mat := ⟨2, 2, 0⟩
    m.ref < h.objs.length ∧
    (matSet (matCopy h m).1 (matCopy h m).2 0 1 (.mpf ften)).toOption.isSome = true ∧
    matGet h m 1 1 = .ok (.mpc fone ftwo) := by decide

/-- Control: the statement is about `dict.copy()`.  With the aliasing variant `new.__data = self.__data`
the original DOES change (so `matrix_copy_independent` is not a tautology of the model). -/
def matCopyAlias (h : Heap) (m : Mat) : Heap × Mat :=
  let (h, new) := matNew h m.rows m.cols
  (h, { new with ref := m.ref })

example :
    let h : Heap := ⟨[[((0, 0), .mpf fone)]]⟩
    let m : Mat := ⟨2, 2, 0⟩
    ∃ h'', matSet (matCopyAlias h m).1 (matCopyAlias h m).2 0 0 (.mpf ften) = .ok h'' ∧
      matGet h'' m 0 0 ≠ matGet h m 0 0 := by
  refine ⟨_, rfl, by decide⟩

end Mp

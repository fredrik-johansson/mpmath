/-
  MpProofs/RootCert.lean — soundness of the exact certificate checkers of MpModel/RootCert.lean: the
  inclusion theorem over ℂ, the casts of fractions and Gaussian rationals into ℝ and ℂ, the polynomial
  denoted by a coefficient list, and what the verdicts of `polyrootsReport` / `findrootCheck` mean.
-/
import MpModel.RootCert
import Mathlib.Analysis.Complex.Polynomial.Basic
import Mathlib.Algebra.Polynomial.Splits
import Mathlib.Analysis.Normed.Group.Basic
import Mathlib.Data.List.Forall2
import Mathlib.Tactic.Ring
import Mathlib.Tactic.Linarith
import Mathlib.Tactic.Positivity
import Mathlib.Tactic.FieldSimp
import Mathlib.Tactic.NormNum

open Polynomial

namespace Mp
namespace RootCert

theorem exists_le_norm_of_sum {E : Type*} [SeminormedAddCommGroup E] (s : Multiset E) {n : ℕ}
    (hs : s ≠ 0) (hn : s.card ≤ n) : ∃ x ∈ s, ‖s.sum‖ / n ≤ ‖x‖ := by
  by_contra hcon
  push Not at hcon
  have hnpos : (0 : ℝ) < n := Nat.cast_pos.2 ((Multiset.card_pos.2 hs).trans_le hn)
  refine lt_irrefl ‖s.sum‖ ?_
  calc ‖s.sum‖ ≤ (s.map fun x => ‖x‖).sum := norm_multiset_sum_le s
    _ < (s.map fun _ => ‖s.sum‖ / n).sum := Multiset.sum_lt_sum_of_nonempty hs hcon
    _ = s.card * (‖s.sum‖ / n) := by rw [Multiset.map_const', Multiset.sum_replicate, nsmul_eq_mul]
    _ ≤ n * (‖s.sum‖ / n) :=
        mul_le_mul_of_nonneg_right (Nat.cast_le.2 hn) (div_nonneg (norm_nonneg _) hnpos.le)
    _ = ‖s.sum‖ := mul_div_cancel₀ _ hnpos.ne'

/-- For a complex polynomial `P` with `natDegree P ≤ n` and a point `r` with `P'(r) ≠ 0`,
some root of `P` lies in the closed disc of radius `n·|P(r)|/|P'(r)|` around `r`. -/
theorem rootIncl_complex (P : ℂ[X]) (n : ℕ) (hn : P.natDegree ≤ n) (r : ℂ)
    (hd : P.derivative.eval r ≠ 0) :
    ∃ z : ℂ, P.IsRoot z ∧ ‖z - r‖ ≤ n * ‖P.eval r‖ / ‖P.derivative.eval r‖ := by
  by_cases h0 : P.eval r = 0
  · refine ⟨r, h0, ?_⟩
    rw [sub_self, norm_zero]
    exact div_nonneg (mul_nonneg n.cast_nonneg (norm_nonneg _)) (norm_nonneg _)
  have hPne : P ≠ 0 := fun h => h0 (by rw [h, eval_zero])
  -- the logarithmic derivative is the sum of `1 / (r - z)` over the roots
  have key := (IsAlgClosed.splits P).eval_derivative_div_eval_of_ne_zero h0
  have hne : P.roots ≠ 0 := by
    intro he
    rw [he, Multiset.map_zero, Multiset.sum_zero, div_eq_zero_iff] at key
    exact key.elim hd h0
  have hcard : P.roots.card ≤ n := IsAlgClosed.card_roots_eq_natDegree.trans_le hn
  have hnpos : (0 : ℝ) < n := Nat.cast_pos.2 ((Multiset.card_pos.2 hne).trans_le hcard)
  obtain ⟨x, hx, hle⟩ := exists_le_norm_of_sum (P.roots.map fun z => 1 / (r - z)) (n := n)
    (by rwa [Ne, Multiset.map_eq_zero]) (by rwa [Multiset.card_map])
  obtain ⟨z, hz, rfl⟩ := Multiset.mem_map.1 hx
  have hz' : P.IsRoot z := (mem_roots hPne).1 hz
  have hzr : 0 < ‖z - r‖ := norm_pos_iff.2 (sub_ne_zero.2 fun h => h0 (h ▸ hz'))
  rw [← key, norm_div, norm_div, norm_one, norm_sub_rev,
    le_one_div (div_pos (div_pos (norm_pos_iff.2 hd) (norm_pos_iff.2 h0)) hnpos) hzr,
    one_div_div, div_div_eq_mul_div] at hle
  exact ⟨z, hz', hle⟩

/-- the real number denoted by a fraction -/
noncomputable def Q.toReal (a : Q) : ℝ := (a.num : ℝ) / (a.den : ℝ)

/-- the complex number denoted by a Gaussian rational -/
noncomputable def GQ.toC (a : GQ) : ℂ := ⟨a.re.toReal, a.im.toReal⟩

theorem Q.den_ne (a : Q) : (a.den : ℝ) ≠ 0 := by
  have := a.pos
  positivity

theorem Q.den_pos' (a : Q) : (0 : ℝ) < a.den := by exact_mod_cast a.pos

theorem Q.add_def (a b : Q) : a + b = Q.add a b := rfl
theorem Q.sub_def (a b : Q) : a - b = Q.sub a b := rfl
theorem Q.mul_def (a b : Q) : a * b = Q.mul a b := rfl

@[simp] theorem Q.toReal_ofInt (n : Int) : (Q.ofInt n).toReal = n := by simp [Q.ofInt, Q.toReal]
@[simp] theorem Q.toReal_zero : Q.zero.toReal = 0 := by simp [Q.zero]

theorem Q.toReal_norm (a : Q) : (Q.norm a).toReal = a.toReal := by
  have hg : ((Nat.gcd a.num.natAbs a.den : ℕ) : ℝ) ≠ 0 :=
    Nat.cast_ne_zero.2 (Nat.gcd_pos_of_pos_right _ a.pos).ne'
  have h1 : ((a.num / (Nat.gcd a.num.natAbs a.den : ℤ) : ℤ) : ℝ)
      = (a.num : ℝ) / (Nat.gcd a.num.natAbs a.den : ℝ) := by
    rw [Int.cast_div (Int.natCast_dvd.2 (Nat.gcd_dvd_left _ _)) (by exact_mod_cast hg),
      Int.cast_natCast]
  rw [Q.norm, Q.toReal, h1, Nat.cast_div (Nat.gcd_dvd_right _ _) hg,
    div_div_div_cancel_right₀ hg, Q.toReal]

@[simp] theorem Q.toReal_add (a b : Q) : (a + b).toReal = a.toReal + b.toReal := by
  rw [Q.add_def, Q.add, Q.toReal_norm, Q.toReal, Q.toReal, Q.toReal,
    div_add_div _ _ a.den_ne b.den_ne]
  push_cast
  rw [mul_comm (b.num : ℝ)]

@[simp] theorem Q.toReal_neg (a : Q) : (Q.neg a).toReal = -a.toReal := by
  simp only [Q.neg, Q.toReal]; push_cast; ring

@[simp] theorem Q.toReal_sub (a b : Q) : (a - b).toReal = a.toReal - b.toReal := by
  have h : a - b = a + Q.neg b := rfl
  rw [h, Q.toReal_add, Q.toReal_neg]; ring

@[simp] theorem Q.toReal_mul (a b : Q) : (a * b).toReal = a.toReal * b.toReal := by
  rw [Q.mul_def, Q.mul, Q.toReal_norm, Q.toReal, Q.toReal, Q.toReal, div_mul_div_comm]
  push_cast
  rfl

theorem Q.toReal_inv (a : Q) : (Q.inv a).toReal = (a.toReal)⁻¹ := by
  unfold Q.inv
  split
  · rename_i h
    rw [Q.toReal_zero, Q.toReal, h, Int.cast_zero, zero_div, inv_zero]
  · rename_i h
    -- `|n| = sign n * n` turns `(sign n * d) / |n|` into `d / n`
    have hs : ((Int.sign a.num : ℤ) : ℝ) ≠ 0 :=
      Int.cast_ne_zero.2 (mt Int.sign_eq_zero_iff_zero.1 h)
    rw [Q.toReal, Q.toReal, inv_div]
    simp only
    rw [← Int.cast_natCast a.num.natAbs, ← Int.sign_mul_self, Int.cast_mul, Int.cast_mul,
      Int.cast_natCast, mul_div_mul_left _ _ hs]

@[simp] theorem Q.toReal_div (a b : Q) : (Q.div a b).toReal = a.toReal / b.toReal := by
  have h : Q.div a b = a * Q.inv b := rfl
  rw [h, Q.toReal_mul, Q.toReal_inv, div_eq_mul_inv]

theorem Q.le_iff (a b : Q) : Q.le a b = true ↔ a.toReal ≤ b.toReal := by
  rw [Q.le, decide_eq_true_iff, Q.toReal, Q.toReal, div_le_div_iff₀ a.den_pos' b.den_pos']
  norm_cast

theorem Q.lt_iff (a b : Q) : Q.lt a b = true ↔ a.toReal < b.toReal := by
  rw [Q.lt, decide_eq_true_iff, Q.toReal, Q.toReal, div_lt_div_iff₀ a.den_pos' b.den_pos']
  norm_cast

theorem Q.isZero_iff (a : Q) : Q.isZero a = true ↔ a.toReal = 0 := by
  have ha := a.den_ne
  simp only [Q.isZero, decide_eq_true_eq, Q.toReal]
  constructor
  · intro h; simp [h]
  · intro h
    rcases div_eq_zero_iff.1 h with h | h
    · exact_mod_cast h
    · exact absurd h ha

theorem GQ.add_def (a b : GQ) : a + b = GQ.add a b := rfl
theorem GQ.sub_def (a b : GQ) : a - b = GQ.sub a b := rfl
theorem GQ.mul_def (a b : GQ) : a * b = GQ.mul a b := rfl

@[simp] theorem GQ.toC_zero : GQ.zero.toC = 0 := by
  apply Complex.ext <;> simp [GQ.zero, GQ.toC]

@[simp] theorem GQ.toC_add (a b : GQ) : (a + b).toC = a.toC + b.toC := by
  apply Complex.ext <;> simp [GQ.add_def, GQ.add, GQ.toC]

@[simp] theorem GQ.toC_sub (a b : GQ) : (a - b).toC = a.toC - b.toC := by
  apply Complex.ext <;> simp [GQ.sub_def, GQ.sub, GQ.toC]

@[simp] theorem GQ.toC_mul (a b : GQ) : (a * b).toC = a.toC * b.toC := by
  apply Complex.ext <;> simp [GQ.mul_def, GQ.mul, GQ.toC]

theorem GQ.toReal_normSq (a : GQ) : a.normSq.toReal = ‖a.toC‖ ^ 2 := by
  rw [← Complex.normSq_eq_norm_sq, Complex.normSq_apply]
  simp [GQ.normSq, GQ.toC]

theorem GQ.isZero_iff (a : GQ) : a.isZero = true ↔ a.toC = 0 := by
  simp only [GQ.isZero, Bool.and_eq_true, Q.isZero_iff, GQ.toC]
  constructor
  · rintro ⟨h1, h2⟩; apply Complex.ext <;> simp [h1, h2]
  · intro h
    have := congrArg Complex.re h
    have := congrArg Complex.im h
    simp_all

/-- coefficient list (highest degree first) ↦ polynomial over ℂ -/
noncomputable def polyOf (cs : List GQ) : ℂ[X] := cs.foldl (fun p c => p * X + C c.toC) 0

theorem horner_foldl (x : GQ) (cs : List GQ) (p : ℂ[X]) (pq : GQ × GQ)
    (h1 : pq.1.toC = p.eval x.toC) (h2 : pq.2.toC = p.derivative.eval x.toC) :
    ((cs.foldl (hornerStep x) pq).1.toC = (cs.foldl (fun p c => p * X + C c.toC) p).eval x.toC) ∧
    ((cs.foldl (hornerStep x) pq).2.toC = (cs.foldl (fun p c => p * X + C c.toC) p).derivative.eval x.toC) := by
  induction cs generalizing p pq with
  | nil => exact ⟨h1, h2⟩
  | cons c cs ih =>
    simp only [List.foldl_cons]
    apply ih
    · simp [hornerStep, h1]; ring
    · simp [hornerStep, h1, h2]; ring

theorem horner_eval (cs : List GQ) (x : GQ) :
    (horner cs x).1.toC = (polyOf cs).eval x.toC ∧
    (horner cs x).2.toC = (polyOf cs).derivative.eval x.toC := by
  unfold horner polyOf
  apply horner_foldl <;> simp

theorem natDegree_foldl_le (cs : List GQ) (p : ℂ[X]) :
    (cs.foldl (fun p c => p * X + C c.toC) p).natDegree ≤ p.natDegree + cs.length := by
  induction cs generalizing p with
  | nil => simp
  | cons c cs ih =>
    simp only [List.foldl_cons, List.length_cons]
    refine (ih _).trans ?_
    have : (p * X + C c.toC).natDegree ≤ p.natDegree + 1 := by
      refine (natDegree_add_le _ _).trans ?_
      simp only [natDegree_C, max_le_iff, Nat.zero_le, and_true]
      exact (natDegree_mul_le).trans (by simp)
    omega

theorem natDegree_polyOf_le (cs : List GQ) : (polyOf cs).natDegree ≤ degOf cs := by
  unfold polyOf degOf
  cases cs with
  | nil => simp
  | cons c cs =>
    simp only [List.foldl_cons, List.length_cons, Nat.add_sub_cancel]
    refine (natDegree_foldl_le cs _).trans ?_
    simp

/-- the inclusion radius `n·|P(r)|/|P'(r)|` (n = `len(cs)-1`) as a real number -/
noncomputable def radius (cs : List GQ) (r : GQ) : ℝ :=
  (degOf cs : ℝ) * ‖(polyOf cs).eval r.toC‖ / ‖(polyOf cs).derivative.eval r.toC‖

theorem radius_nonneg (cs : List GQ) (r : GQ) : 0 ≤ radius cs r := by
  unfold radius; positivity

theorem rootInclSq_toReal (cs : List GQ) (r : GQ) : (rootInclSq cs r).toReal = (radius cs r) ^ 2 := by
  unfold rootInclSq radius
  simp only [Q.toReal_div, Q.toReal_mul, Q.toReal_ofInt, GQ.toReal_normSq, (horner_eval cs r).1,
    (horner_eval cs r).2]
  push_cast
  rw [div_pow, mul_pow]
  ring

theorem derivNonzero_iff (cs : List GQ) (r : GQ) :
    derivNonzero cs r = true ↔ (polyOf cs).derivative.eval r.toC ≠ 0 := by
  unfold derivNonzero
  rw [← (horner_eval cs r).2, Ne, ← GQ.isZero_iff]
  simp

theorem exists_root_radius (cs : List GQ) (r : GQ) (hd : derivNonzero cs r = true) :
    ∃ z : ℂ, (polyOf cs).IsRoot z ∧ ‖z - r.toC‖ ≤ radius cs r :=
  rootIncl_complex (polyOf cs) (degOf cs) (natDegree_polyOf_le cs) r.toC ((derivNonzero_iff cs r).1 hd)

theorem inclVerdict_ok {cs : List GQ} {tol : Q} {r : GQ} (h : inclVerdict cs tol r = .ok) :
    Q.le Q.zero tol = true ∧ ((horner cs r).1.isZero = true ∨
      derivNonzero cs r = true ∧ Q.le (rootInclSq cs r) (tol * tol) = true) := by
  unfold inclVerdict at h
  revert h
  cases Q.le Q.zero tol <;> cases (horner cs r).1.isZero <;> cases derivNonzero cs r <;>
    cases Q.le (rootInclSq cs r) (tol * tol) <;> decide

theorem inclVerdict_sound (cs : List GQ) (tol : Q) (r : GQ) (h : inclVerdict cs tol r = .ok) :
    radius cs r ≤ tol.toReal ∧
    ∃ z : ℂ, (polyOf cs).IsRoot z ∧ ‖z - r.toC‖ ≤ tol.toReal := by
  obtain ⟨ht, h'⟩ := inclVerdict_ok h
  rw [Q.le_iff, Q.toReal_zero] at ht
  rcases h' with hz | ⟨hd, hc⟩
  · have h0 : (polyOf cs).eval r.toC = 0 := by
      rw [← (horner_eval cs r).1]; exact (GQ.isZero_iff _).1 hz
    refine ⟨?_, r.toC, h0, ?_⟩
    · rwa [radius, h0, norm_zero, mul_zero, zero_div]
    · rwa [sub_self, norm_zero]
  · rw [Q.le_iff, Q.toReal_mul, rootInclSq_toReal, ← sq] at hc
    have hr := (sq_le_sq₀ (radius_nonneg cs r) ht).1 hc
    obtain ⟨z, hz, hzr⟩ := exists_root_radius cs r hd
    exact ⟨hr, z, hz, hzr.trans hr⟩

/-- `b + c < a` on nonnegative reals, expressed through the squares `B, C, A` only: square once to get
`2bc < A - B - C`, and once more (the right side must then be positive) -/
theorem sqrt_sum_lt_iff {a b c A B C : ℝ} (ha : 0 ≤ a) (hb : 0 ≤ b) (hc : 0 ≤ c)
    (hB : B = b ^ 2) (hC : C = c ^ 2) (hA : A = a ^ 2) :
    B + C < A ∧ 4 * B * C < (A - B - C) * (A - B - C) ↔ b + c < a := by
  have hbc : 0 ≤ 2 * b * c := mul_nonneg (mul_nonneg zero_le_two hb) hc
  have e : 4 * B * C = 2 * b * c * (2 * b * c) := by rw [hB, hC]; ring
  have key : b + c < a ↔ 2 * b * c < A - B - C := by
    rw [mul_self_lt_mul_self_iff (add_nonneg hb hc) ha, ← sub_pos, ← sub_pos (b := 2 * b * c),
      show a * a - (b + c) * (b + c) = A - B - C - 2 * b * c by rw [hA, hB, hC]; ring]
  rw [key, e]
  constructor
  · rintro ⟨h1, h2⟩
    exact (mul_self_lt_mul_self_iff hbc (by linarith)).2 h2
  · intro h
    exact ⟨by linarith, (mul_self_lt_mul_self_iff hbc (hbc.trans h.le)).1 h⟩

/-- the squared form is exact, so it never causes an `undecided` matching -/
theorem sqrtSumLt_eq_true_iff (B C A : Q) (b c a : ℝ) (hb : 0 ≤ b) (hc : 0 ≤ c) (ha : 0 ≤ a)
    (hB : B.toReal = b ^ 2) (hC : C.toReal = c ^ 2) (hA : A.toReal = a ^ 2) :
    sqrtSumLt B C A = true ↔ b + c < a := by
  rw [← sqrt_sum_lt_iff ha hb hc hB hC hA, sqrtSumLt, Bool.and_eq_true, Q.lt_iff, Q.lt_iff]
  simp only [Q.toReal_add, Q.toReal_mul, Q.toReal_sub, Q.toReal_ofInt, Int.cast_ofNat]

theorem pairwiseAll_iff {α : Type} (f : α → α → Bool) (l : List α) :
    pairwiseAll f l = true ↔ l.Pairwise (fun a b => f a b = true) := by
  induction l with
  | nil => simp [pairwiseAll]
  | cons x xs ih => simp [pairwiseAll, List.pairwise_cons, ih, List.all_eq_true]

theorem discsDisjoint_sound (cs : List GQ) (a b : GQ) (h : discsDisjoint cs a b = true) :
    radius cs a + radius cs b < ‖a.toC - b.toC‖ := by
  unfold discsDisjoint at h
  refine (sqrtSumLt_eq_true_iff _ _ _ _ _ _ (radius_nonneg cs a) (radius_nonneg cs b) (norm_nonneg _)
    (rootInclSq_toReal cs a) (rootInclSq_toReal cs b) ?_).1 h
  rw [GQ.toReal_normSq, GQ.toC_sub]

theorem polyOf_ne_zero {cs : List GQ} {r : GQ} (h : derivNonzero cs r = true) : polyOf cs ≠ 0 :=
  fun h0 => (derivNonzero_iff cs r).1 h (by rw [h0, derivative_zero, eval_zero])

/-- pairwise disjoint inclusion discs and `len(roots) = len(cs)-1` give a one-to-one matching of the
returned roots with ALL the roots of the polynomial (with multiplicity): the multiset of roots of
`polyOf cs` is a list `zs` with `zs[i]` inside the disc of `roots[i]`. -/
theorem matching_sound (cs : List GQ) (roots : List GQ)
    (hlen : roots.length = degOf cs)
    (hd : roots.all (derivNonzero cs) = true)
    (hp : pairwiseAll (discsDisjoint cs) roots = true) :
    ∃ zs : List ℂ, (polyOf cs).roots = (zs : Multiset ℂ) ∧
      List.Forall₂ (fun z r => ‖z - r.toC‖ ≤ radius cs r) zs roots := by
  have hd' : ∀ r ∈ roots, derivNonzero cs r = true := List.all_eq_true.1 hd
  -- choose a root in every disc
  choose! g hg using fun r (h : derivNonzero cs r = true) => exists_root_radius cs r h
  refine ⟨roots.map g, ?_,
    List.forall₂_map_left_iff.2 (List.forall₂_same.2 fun r hr => (hg r (hd' r hr)).2)⟩
  -- a point lies in at most one of the discs, so the chosen roots are distinct
  have hnd : (roots.map g).Nodup := by
    rw [List.Nodup, List.pairwise_map]
    refine (List.Pairwise.and_mem.1 ((pairwiseAll_iff _ _).1 hp)).imp ?_
    rintro a b ⟨ha, hb, hab⟩ heq
    have h2 := (hg a (hd' a ha)).2
    rw [heq] at h2
    have h := norm_sub_le_norm_sub_add_norm_sub a.toC (g b) b.toC
    rw [norm_sub_rev a.toC (g b)] at h
    exact absurd (discsDisjoint_sound cs a b hab)
      (not_lt.2 (h.trans (add_le_add h2 (hg b (hd' b hb)).2)))
  -- and by counting they are all the roots
  refine (Multiset.eq_of_le_of_card_le ?_ ?_).symm
  · rw [Multiset.le_iff_subset (Multiset.coe_nodup.2 hnd)]
    intro z hz
    obtain ⟨r, hr, rfl⟩ := List.mem_map.1 (Multiset.mem_coe.1 hz)
    exact (mem_roots (polyOf_ne_zero (hd' r hr))).2 (hg r (hd' r hr)).1
  · rw [IsAlgClosed.card_roots_eq_natDegree, Multiset.coe_card, List.length_map, hlen]
    exact natDegree_polyOf_le cs

@[simp] theorem Q.toReal_one : Q.one.toReal = 1 := by simp [Q.one]

theorem GQ.toC_ofQ (a : Q) : (GQ.ofQ a).toC = (a.toReal : ℂ) := by
  apply Complex.ext <;> simp [GQ.ofQ, GQ.toC]

@[simp] theorem GQ.toC_pow (a : GQ) (k : ℕ) : (GQ.pow a k).toC = a.toC ^ k := by
  induction k with
  | zero => simp [GQ.pow, GQ.toC_ofQ]
  | succ k ih => simp [GQ.pow, ih, pow_succ]

/-- value of a monomial at a complex point (missing coordinates count as absent factors) -/
noncomputable def monoC : List ℕ → List ℂ → ℂ → ℂ
  | [], _, acc => acc
  | _ :: _, [], acc => acc
  | e :: es, x :: xs, acc => monoC es xs (acc * x ^ e)

/-- value of a polynomial (list of monomials) at a complex point -/
noncomputable def mpolyC (p : MPoly) (xs : List ℂ) : ℂ :=
  p.foldl (fun acc m => acc + monoC m.exps xs m.coef.toC) 0

theorem evalMonoAux_toC (es : List ℕ) (xs : List GQ) (acc : GQ) :
    (evalMonoAux es xs acc).toC = monoC es (xs.map GQ.toC) acc.toC := by
  induction es generalizing xs acc with
  | nil => simp [evalMonoAux, monoC]
  | cons e es ih =>
    cases xs with
    | nil => simp [evalMonoAux, monoC]
    | cons x xs => simp [evalMonoAux, monoC, ih]

theorem evalMPoly_toC (p : MPoly) (xs : List GQ) :
    (evalMPoly p xs).toC = mpolyC p (xs.map GQ.toC) := by
  unfold evalMPoly mpolyC
  have : ∀ (acc : GQ) (accC : ℂ), acc.toC = accC →
      (p.foldl (fun acc m => acc + evalMono m xs) acc).toC =
        p.foldl (fun acc m => acc + monoC m.exps (xs.map GQ.toC) m.coef.toC) accC := by
    induction p with
    | nil => intro acc accC h; simpa using h
    | cons m ms ih =>
      intro acc accC h
      simp only [List.foldl_cons]
      apply ih
      simp [evalMono, evalMonoAux_toC, h]
  exact this _ _ (by simp)

theorem residualVerdict_sound (tol : Q) (xs : List GQ) (f : RatFun) (h : residualVerdict tol xs f = .ok) :
    mpolyC f.denom (xs.map GQ.toC) ≠ 0 ∧
    ‖mpolyC f.numer (xs.map GQ.toC) / mpolyC f.denom (xs.map GQ.toC)‖ ^ 2 ≤ tol.toReal := by
  unfold residualVerdict at h
  simp only at h
  split at h
  · exact absurd h (by decide)
  · rename_i hd
    split at h
    · rename_i hc
      have hd' : mpolyC f.denom (xs.map GQ.toC) ≠ 0 := by
        rw [← evalMPoly_toC]
        intro h0
        exact hd ((GQ.isZero_iff _).2 h0)
      refine ⟨hd', ?_⟩
      rw [Q.le_iff, Q.toReal_mul, GQ.toReal_normSq, GQ.toReal_normSq, evalMPoly_toC, evalMPoly_toC] at hc
      rw [norm_div, div_pow, div_le_iff₀ (by positivity)]
      exact hc
    · exact absurd h (by decide)

theorem combineIncl_ok {vs : List Verdict} (h : combineIncl vs = .ok) : ∀ v ∈ vs, v = .ok := by
  unfold combineIncl at h
  split at h
  · exact absurd h (by decide)
  · split at h
    · exact absurd h (by decide)
    · rename_i h1 h2
      intro v hv
      cases v with
      | ok => rfl
      | fail => exact absurd (List.any_eq_true.2 ⟨_, hv, by decide⟩) h1
      | undecided => exact absurd (List.any_eq_true.2 ⟨_, hv, by decide⟩) h2

theorem polyrootsCheck_ok {cs roots : List GQ} {tol : Q} (h : polyrootsCheck cs roots tol = .ok) :
    (polyrootsReport cs roots tol).count = true ∧ (polyrootsReport cs roots tol).incl = .ok ∧
      (polyrootsReport cs roots tol).matching = .ok := by
  unfold polyrootsCheck at h
  generalize polyrootsReport cs roots tol = rep at h ⊢
  obtain ⟨c, i, _, m⟩ := rep
  cases c
  · simp at h
  cases i
  · exact ⟨rfl, rfl, h⟩
  · simp at h
  · simp at h

theorem incl_ok_sound {cs roots : List GQ} {tol : Q} (h : (polyrootsReport cs roots tol).incl = .ok) :
    ∀ r ∈ roots, radius cs r ≤ tol.toReal ∧
      ∃ z : ℂ, (polyOf cs).IsRoot z ∧ ‖z - r.toC‖ ≤ tol.toReal :=
  fun r hr => inclVerdict_sound cs tol r (combineIncl_ok h _ (List.mem_map.2 ⟨r, hr, rfl⟩))

theorem Q.toReal_min (a b : Q) : (Q.min a b).toReal = Min.min a.toReal b.toReal := by
  unfold Q.min
  split
  · rename_i h; rw [min_eq_left ((Q.le_iff a b).1 h)]
  · rename_i h; rw [min_eq_right (le_of_not_ge fun hc => h ((Q.le_iff a b).2 hc))]

theorem Q.toReal_max (a b : Q) : (Q.max a b).toReal = Max.max a.toReal b.toReal := by
  unfold Q.max
  split
  · rename_i h; rw [max_eq_right ((Q.le_iff a b).1 h)]
  · rename_i h; rw [max_eq_left (le_of_not_ge fun hc => h ((Q.le_iff a b).2 hc))]

theorem inBracket_sound (a b : Q) (x : GQ) (h : inBracket a b x = true) :
    x.toC.im = 0 ∧ min a.toReal b.toReal ≤ x.toC.re ∧ x.toC.re ≤ max a.toReal b.toReal := by
  unfold inBracket at h
  simp only [Bool.and_eq_true, Q.isZero_iff, Q.le_iff] at h
  rw [Q.toReal_min, Q.toReal_max] at h
  exact ⟨h.1.1, h.1.2, h.2⟩

theorem forall₂_radius_le (cs : List GQ) (tol : Q) (zs : List ℂ) (roots : List GQ)
    (h : List.Forall₂ (fun z r => ‖z - r.toC‖ ≤ radius cs r) zs roots)
    (hper : ∀ r ∈ roots, radius cs r ≤ tol.toReal) :
    List.Forall₂ (fun z r => ‖z - r.toC‖ ≤ tol.toReal) zs roots := by
  induction h with
  | nil => exact List.Forall₂.nil
  | cons hab _ ih =>
    exact List.Forall₂.cons (hab.trans (hper _ (by simp))) (ih (fun r hr => hper r (by simp [hr])))

end RootCert
end Mp

/-
  MpProofs/EnclDerived.lean — soundness of the derived point evaluators
  (tan, cot, sec, csc, sinh, cosh, tanh, expm1, log1p, asin, acos, asinh, acosh, atanh, sinpi, cospi).
-/
import MpProofs.EnclExp
import MpProofs.EnclLog
import MpProofs.EnclTrig
import Mathlib.Analysis.SpecialFunctions.Arsinh
import Mathlib.Analysis.SpecialFunctions.Arcosh
import Mathlib.Analysis.SpecialFunctions.Artanh
import Mathlib.Analysis.SpecialFunctions.Trigonometric.Inverse

namespace Mp.Encl

theorem half_zpow (a : ℝ) : a * (2 : ℝ) ^ (-1 : ℤ) = a / 2 := by
  rw [zpow_neg_one]; ring

theorem Dy.eqv_iff (x y : Dy) : x.eqv y = true ↔ x.val = y.val := by
  unfold Dy.eqv
  rw [Bool.and_eq_true, Dy.le_iff, Dy.le_iff, le_antisymm_iff]

theorem Dy.lt_one_iff (x : Dy) : x.lt Dy.one = true ↔ x.val < 1 := by rw [Dy.lt_iff, Dy.val_one]

theorem Dy.neg_one_lt_iff (x : Dy) : (Dy.ofInt (-1)).lt x = true ↔ -1 < x.val := by
  rw [Dy.lt_iff, Dy.val_ofInt, Int.cast_neg, Int.cast_one]

theorem Dy.eqv_one_iff (x : Dy) : x.eqv Dy.one = true ↔ x.val = 1 := by rw [Dy.eqv_iff, Dy.val_one]

theorem Dy.eqv_neg_one_iff (x : Dy) : x.eqv (Dy.ofInt (-1)) = true ↔ x.val = -1 := by
  rw [Dy.eqv_iff, Dy.val_ofInt, Int.cast_neg, Int.cast_one]

theorem mem_half_pi (wp : ℕ) : ((piI wp).shift (-1)).Mem (Real.pi / 2) := by
  rw [← half_zpow]; exact DI.mem_shift (piI_mem wp) (-1)

theorem tanPoint_sound (wp : ℕ) (x : Dy) : Encloses (tanPoint wp x) (Real.tan x.val) := by
  obtain ⟨hc, hs⟩ := cosSinI_mem (wp + 8) (DI.mem_point x)
  rw [tanPoint, Real.tan_eq_sin_div_cos]
  exact ((DI.encloses_divI _ hs hc).round wp).drop

theorem cotPoint_sound (wp : ℕ) (x : Dy) : Encloses (cotPoint wp x) (Real.cot x.val) := by
  obtain ⟨hc, hs⟩ := cosSinI_mem (wp + 8) (DI.mem_point x)
  rw [cotPoint, Real.cot_eq_cos_div_sin]
  exact ((DI.encloses_divI _ hc hs).round wp).drop

theorem secPoint_sound (wp : ℕ) (x : Dy) : Encloses (secPoint wp x) (1 / Real.cos x.val) := by
  unfold secPoint
  exact ((DI.encloses_divI _ DI.mem_one (cosSinI_mem (wp + 8) (DI.mem_point x)).1).round wp).drop

theorem cscPoint_sound (wp : ℕ) (x : Dy) : Encloses (cscPoint wp x) (1 / Real.sin x.val) := by
  unfold cscPoint
  exact ((DI.encloses_divI _ DI.mem_one (cosSinI_mem (wp + 8) (DI.mem_point x)).2).round wp).drop

theorem sinhPoint_sound (wp : ℕ) (x : Dy) : (sinhPoint wp x).Mem (Real.sinh x.val) := by
  have hX := DI.mem_point x
  rw [sinhPoint, Real.sinh_eq, ← half_zpow]
  exact DI.mem_round (DI.mem_shift (DI.mem_sub (expI_mem _ hX) (expI_mem _ (DI.mem_neg hX))) (-1)) wp

theorem coshPoint_sound (wp : ℕ) (x : Dy) : (coshPoint wp x).Mem (Real.cosh x.val) := by
  have hX := DI.mem_point x
  rw [coshPoint, Real.cosh_eq, ← half_zpow]
  exact DI.mem_round (DI.mem_shift (DI.mem_add (expI_mem _ hX) (expI_mem _ (DI.mem_neg hX))) (-1)) wp

theorem tanhPoint_sound (wp : ℕ) (x : Dy) : Encloses (tanhPoint wp x) (Real.tanh x.val) := by
  have ha := expI_mem (wp + x.lowBits + 8) (DI.mem_point x)
  have hb := expI_mem (wp + x.lowBits + 8) (DI.mem_neg (DI.mem_point x))
  rw [tanhPoint, Real.tanh_eq]
  exact ((DI.encloses_divI _ (DI.mem_sub ha hb) (DI.mem_add ha hb)).round wp).drop

theorem expm1Point_sound (wp : ℕ) (x : Dy) : (expm1Point wp x).Mem (Real.exp x.val - 1) := by
  unfold expm1Point
  exact DI.mem_round (DI.mem_sub (expI_mem _ (DI.mem_point x)) DI.mem_one) wp

theorem log1pPoint_sound (wp : ℕ) (x : Dy) :
    Encloses (log1pPoint wp x) (Real.log (1 + x.val)) (-1 < x.val) := by
  have hp := DI.mem_point (Dy.one.add x)
  rw [Dy.val_add, Dy.val_one] at hp
  exact (encloses_logI hp).imp neg_lt_iff_pos_add'.2

theorem asinhPos_sound (wp : ℕ) (x : Dy) : Encloses (asinhPos wp x) (Real.arsinh x.val) := by
  have hX := DI.mem_point x
  have hs := sqrtI_sound (wp + x.lowBits + 8) _ _
    (DI.mem_round (DI.mem_add DI.mem_one (DI.mem_mul hX hX)) (wp + x.lowBits + 8))
  rw [asinhPos, Real.arsinh, sq]
  exact ((encloses_logI (DI.mem_add hX hs)).round wp).drop

theorem asinhPoint_sound (wp : ℕ) (x : Dy) : Encloses (asinhPoint wp x) (Real.arsinh x.val) := by
  unfold asinhPoint
  split
  · refine (asinhPos_sound wp x.neg).map fun F hF => ?_
    rw [← neg_neg (Real.arsinh x.val), ← Real.arsinh_neg, ← Dy.val_neg]
    exact DI.mem_neg hF
  · exact asinhPos_sound wp x

theorem acoshPoint_sound (wp : ℕ) (x : Dy) :
    Encloses (acoshPoint wp x) (Real.arcosh x.val) (1 ≤ x.val) := by
  unfold acoshPoint
  split
  · exact .none
  · rename_i hlt
    have hX := DI.mem_point x
    have hs := sqrtI_sound (wp + (x.sub Dy.one).lowBits + 8) _ _
      (DI.mem_round (DI.mem_sub (DI.mem_mul hX hX) DI.mem_one) (wp + (x.sub Dy.one).lowBits + 8))
    rw [Real.arcosh, sq]
    exact ((encloses_logI (DI.mem_add hX hs)).round wp).imp fun _ => not_lt.1 (mt (Dy.lt_one_iff x).2 hlt)

theorem atanhPoint_sound (wp : ℕ) (x : Dy) :
    Encloses (atanhPoint wp x) (Real.artanh x.val) (-1 < x.val ∧ x.val < 1) := by
  unfold atanhPoint
  split
  · rename_i hc
    rw [Dy.neg_one_lt_iff, Dy.lt_one_iff] at hc
    have hX := DI.mem_point x
    rw [Real.artanh_eq_half_log ⟨hc.1.le, hc.2.le⟩, one_div, mul_comm, ← zpow_neg_one]
    exact (((DI.encloses_divI _ (DI.mem_add DI.mem_one hX) (DI.mem_sub DI.mem_one hX)).bind
      fun _ hq _ => encloses_logI hq).map fun _ hl => DI.mem_round (DI.mem_shift hl (-1)) wp).imp fun _ => hc
  · exact .none

theorem asinOpen_sound (wp : ℕ) (x : Dy) (h1 : -1 < x.val) (h2 : x.val < 1) :
    Encloses (asinOpen wp x) (Real.arcsin x.val) := by
  have hX := DI.mem_point x
  have hs := sqrtI_sound (wp + 8) _ _ (DI.mem_sub DI.mem_one (DI.mem_mul hX hX))
  rw [asinOpen, Real.arcsin_eq_arctan ⟨h1, h2⟩, sq]
  exact ((DI.encloses_divI _ hX hs).map fun _ hq => DI.mem_round (atanI_mem (wp + 8) hq) wp).drop

theorem asinPoint_sound (wp : ℕ) (x : Dy) :
    Encloses (asinPoint wp x) (Real.arcsin x.val) (-1 ≤ x.val ∧ x.val ≤ 1) := by
  unfold asinPoint
  split
  · rename_i hc
    rw [Dy.neg_one_lt_iff, Dy.lt_one_iff] at hc
    exact (asinOpen_sound wp x hc.1 hc.2).imp fun _ => ⟨hc.1.le, hc.2.le⟩
  · split
    · rename_i he
      rw [(Dy.eqv_one_iff x).1 he, Real.arcsin_one]
      exact .some (DI.mem_round (mem_half_pi _) wp) ⟨by norm_num, le_rfl⟩
    · split
      · rename_i he
        rw [(Dy.eqv_neg_one_iff x).1 he, Real.arcsin_neg_one]
        exact .some (DI.mem_round (DI.mem_neg (mem_half_pi _)) wp) ⟨le_rfl, by norm_num⟩
      · exact .none

theorem acosPoint_sound (wp : ℕ) (x : Dy) :
    Encloses (acosPoint wp x) (Real.arccos x.val) (-1 ≤ x.val ∧ x.val ≤ 1) := by
  have hX := DI.mem_point x
  unfold acosPoint
  split
  · rename_i hpos
    have hx0 : 0 < x.val := (Dy.val_pos_iff x).2 hpos
    split
    · rename_i hle
      rw [Dy.le_iff, Dy.val_one] at hle
      have hs := sqrtI_sound (wp + 8) _ _ (DI.mem_sub DI.mem_one (DI.mem_mul hX hX))
      rw [Real.arccos_eq_arctan hx0, sq]
      exact ((DI.encloses_divI _ hs hX).map fun _ hq => DI.mem_round (atanI_mem (wp + 8) hq) wp).imp
        fun _ => ⟨by linarith, hle⟩
    · exact .none
  · rename_i hnp
    have hx0 : x.val ≤ 0 := (Dy.val_nonpos_iff x).2 (not_lt.1 hnp)
    split
    · rename_i hgt
      rw [Dy.neg_one_lt_iff] at hgt
      rw [Real.arccos_eq_pi_div_two_sub_arcsin]
      exact ((asinOpen_sound (wp + 8) x hgt (by linarith)).map fun _ ha =>
        DI.mem_round (DI.mem_sub (mem_half_pi _) ha) wp).imp fun _ => ⟨hgt.le, by linarith⟩
    · split
      · rename_i he
        rw [(Dy.eqv_neg_one_iff x).1 he, Real.arccos_neg_one]
        exact .some (piI_mem wp) ⟨le_rfl, by norm_num⟩
      · exact .none

theorem cosSinPi_sound (wp : ℕ) (x : Dy) :
    (cosSinPi wp x).1.Mem (Real.cos (Real.pi * x.val)) ∧ (cosSinPi wp x).2.Mem (Real.sin (Real.pi * x.val)) := by
  unfold cosSinPi
  simp only
  generalize ((x.shift 1).add ⟨1, -1⟩).floor = n
  set r0 := x.sub ((Dy.ofInt n).shift (-1)) with hr0
  have hr0v : r0.val = x.val - (n : ℝ) / 2 := by
    rw [hr0, Dy.val_sub, Dy.val_shift, Dy.val_ofInt, half_zpow]
  set R := ((piI (wp + 16)).mul (DI.point r0)).round (wp + 16) with hR
  have hr : R.Mem (Real.pi * r0.val) := DI.mem_round (DI.mem_mul (piI_mem _) (DI.mem_point r0)) _
  have hsplit : Real.pi * x.val = Real.pi * r0.val + (n : ℝ) * (Real.pi / 2) := by
    rw [hr0v]; ring
  split
  · rename_i hmag
    rw [Dy.le_iff, Dy.val_one] at hmag
    have habs := le_trans (DI.abs_le_mag hr) hmag
    obtain ⟨hc, hs⟩ := cosSinSmall_sound (wp + 16) (nTerms (wp + 16) R.mag.lowBits / 2 + 1) R _ hr habs
      (by omega)
    rw [hsplit]
    exact quadrant_sound n _ _ _ hc hs
  · exact ⟨mem_full_cos _, mem_full_sin _⟩

end Mp.Encl

/-
  MpProofs/CalcOde.lean — the mathematics behind the reference values of `MpModel/CalcOde.lean`: the closed forms solve
  their initial value problems and are the only solutions on `[x0, T]`; what `polyCoeffDist` and `fourierRef` denote;
  value-level order independence of the `odefun` store model.
-/
import MpModel.CalcOde
import MpProofs.CalcFam
import MpProofs.CalcLogicB
import MpProofs.CalcOdeX
import Mathlib.Analysis.ODE.ExistUnique
import Mathlib.Analysis.Calculus.Deriv.Prod
import Mathlib.Analysis.Calculus.Deriv.Inv
import Mathlib.Analysis.Normed.Operator.NNNorm

namespace Mp.Calc
open Set

/-- component `i` of the solution of the initial value problem (`0` for `i ≥ dim`) -/
noncomputable def Ode.sol : Ode → ℕ → ℝ → ℝ
  | .lin a x0 y0, 0, x => (y0 : ℝ) * Real.exp ((a : ℝ) * (x - (x0 : ℝ)))
  | .osc w x0 c0 s0, 0, x =>
      (c0 : ℝ) * Real.cos ((w : ℝ) * (x - (x0 : ℝ))) + ((s0 : ℝ) / (w : ℝ)) * Real.sin ((w : ℝ) * (x - (x0 : ℝ)))
  | .osc w x0 c0 s0, 1, x =>
      -((c0 : ℝ) * (w : ℝ)) * Real.sin ((w : ℝ) * (x - (x0 : ℝ))) + (s0 : ℝ) * Real.cos ((w : ℝ) * (x - (x0 : ℝ)))
  | .riccati x0 y0, 0, x => (y0 : ℝ) / (1 + (y0 : ℝ) * (x - (x0 : ℝ)))
  | _, _, _ => 0

/-- component `i` of the right-hand side `F(y)` of the system `y' = F(y)`, as a function of the state
vector `y` (`0` for `i ≥ dim`) -/
noncomputable def Ode.rhs : Ode → ℕ → (ℕ → ℝ) → ℝ
  | .lin a _ _, 0, y => (a : ℝ) * y 0
  | .osc _ _ _ _, 0, y => y 1
  | .osc w _ _ _, 1, y => -((w : ℝ) ^ 2) * y 0
  | .riccati _ _, 0, y => -(y 0) ^ 2
  | _, _, _ => 0

/-- where the closed form is a solution: everywhere for the linear problems, right of the pole
`x0 − 1/y0` for `riccati` (this contains `[x0, ∞)`) -/
def Ode.inDomain : Ode → ℝ → Prop
  | .riccati x0 y0, x => (x0 : ℝ) - 1 / (y0 : ℝ) < x
  | _, _ => True

theorem Ode.ok_osc {w : ℚ} (hw : w ≠ 0) (x0 c0 s0 : ℚ) : (Ode.osc w x0 c0 s0).ok = true := bne_iff_ne.2 hw

theorem Ode.ok_riccati (x0 : ℚ) {y0 : ℚ} (hy : 0 < y0) : (Ode.riccati x0 y0).ok = true := decide_eq_true hy

theorem Ode.inDomain_of_ge (o : Ode) (hok : o.ok = true) (x : ℝ) (hx : (o.x0 : ℝ) ≤ x) : o.inDomain x := by
  cases o with
  | lin => trivial
  | osc => trivial
  | riccati x0 y0 =>
    simp only [Ode.ok, decide_eq_true_eq] at hok
    have hy : (0 : ℝ) < y0 := by exact_mod_cast hok
    show (x0 : ℝ) - 1 / (y0 : ℝ) < x
    have : 0 < 1 / (y0 : ℝ) := by positivity
    simp only [Ode.x0] at hx
    linarith

theorem Ode.solRef_sem (o : Ode) (i : ℕ) (x : ℚ) (r : Ref) (h : o.solRef i x = some r) :
    r.sem = o.sol i (x : ℝ) := by
  unfold Ode.solRef at h
  split at h
  · rename_i hc
    simp only [Bool.and_eq_true, decide_eq_true_eq] at hc
    obtain ⟨⟨_, hi⟩, _⟩ := hc
    simp only [Option.some.injEq] at h
    subst h
    cases o with
    | lin a x0 y0 =>
      have : i = 0 := by simp only [Ode.dim] at hi; omega
      subst this
      simp only [Ode.solRefRaw, Ode.sol, Ref.sem]
      push_cast; rfl
    | osc w x0 c0 s0 =>
      have : i = 0 ∨ i = 1 := by simp only [Ode.dim] at hi; omega
      rcases this with rfl | rfl
      · simp only [Ode.solRefRaw, Ode.sol, Ref.sem]
        push_cast; rfl
      · simp only [Ode.solRefRaw, Ode.sol, Ref.sem]
        push_cast; rfl
    | riccati x0 y0 =>
      have : i = 0 := by simp only [Ode.dim] at hi; omega
      subst this
      simp only [Ode.solRefRaw, Ode.sol, Ref.sem]
      push_cast; rfl
  · simp at h

theorem Ode.sol_init (o : Ode) (i : ℕ) (hi : i < o.dim) : o.sol i (o.x0 : ℝ) = (o.init i : ℝ) := by
  cases o with
  | lin a x0 y0 =>
    have : i = 0 := by simp only [Ode.dim] at hi; omega
    subst this
    simp [Ode.sol, Ode.x0, Ode.init]
  | osc w x0 c0 s0 =>
    have : i = 0 ∨ i = 1 := by simp only [Ode.dim] at hi; omega
    rcases this with rfl | rfl <;> simp [Ode.sol, Ode.x0, Ode.init]
  | riccati x0 y0 =>
    have : i = 0 := by simp only [Ode.dim] at hi; omega
    subst this
    simp [Ode.sol, Ode.x0, Ode.init]

/-- each component of `sol` satisfies its differential equation: `(sol i)'(x) = F_i(sol(x))` -/
theorem Ode.sol_hasDerivAt (o : Ode) (hok : o.ok = true) (i : ℕ) (hi : i < o.dim) (x : ℝ)
    (hx : o.inDomain x) : HasDerivAt (o.sol i) (o.rhs i fun j => o.sol j x) x := by
  cases o with
  | lin a x0 y0 =>
    obtain rfl : i = 0 := Nat.lt_one_iff.1 hi
    exact (((((hasDerivAt_id' x).sub_const (x0 : ℝ)).const_mul (a : ℝ)).exp).const_mul (y0 : ℝ)).congr_deriv
      (by show _ = (a : ℝ) * ((y0 : ℝ) * Real.exp ((a : ℝ) * (x - (x0 : ℝ)))); ring)
  | osc w x0 c0 s0 =>
    have hw : (w : ℝ) ≠ 0 := by exact_mod_cast (bne_iff_ne.1 hok : w ≠ 0)
    have e : (s0 : ℝ) / w * w = s0 := div_mul_cancel₀ _ hw
    have hin := ((hasDerivAt_id' x).sub_const (x0 : ℝ)).const_mul (w : ℝ)
    obtain rfl | rfl : i = 0 ∨ i = 1 := by have : i < 2 := hi; omega
    · exact ((hin.cos.const_mul (c0 : ℝ)).add (hin.sin.const_mul ((s0 : ℝ) / (w : ℝ)))).congr_deriv
        (by
          show _ = -((c0 : ℝ) * (w : ℝ)) * Real.sin ((w : ℝ) * (x - (x0 : ℝ))) +
            (s0 : ℝ) * Real.cos ((w : ℝ) * (x - (x0 : ℝ)))
          linear_combination Real.cos ((w : ℝ) * (x - (x0 : ℝ))) * e)
    · exact ((hin.sin.const_mul (-((c0 : ℝ) * (w : ℝ)))).add (hin.cos.const_mul (s0 : ℝ))).congr_deriv
        (by
          show _ = -((w : ℝ) ^ 2) * ((c0 : ℝ) * Real.cos ((w : ℝ) * (x - (x0 : ℝ))) +
            ((s0 : ℝ) / (w : ℝ)) * Real.sin ((w : ℝ) * (x - (x0 : ℝ))))
          linear_combination ((w : ℝ) * Real.sin ((w : ℝ) * (x - (x0 : ℝ)))) * e)
  | riccati x0 y0 =>
    obtain rfl : i = 0 := Nat.lt_one_iff.1 hi
    have hy : (0 : ℝ) < y0 := by exact_mod_cast (of_decide_eq_true hok : 0 < y0)
    -- `x0 − 1/y0 < x` says that the denominator `1 + y0·(x − x0)` is positive
    have hden : 1 + (y0 : ℝ) * (x - (x0 : ℝ)) ≠ 0 := by
      have h := mul_lt_mul_of_pos_left (show (x0 : ℝ) - 1 / (y0 : ℝ) < x from hx) hy
      rw [mul_sub, mul_one_div_cancel hy.ne'] at h
      exact ne_of_gt (by linarith)
    have hin := (((hasDerivAt_id' x).sub_const (x0 : ℝ)).const_mul (y0 : ℝ)).const_add 1
    exact ((hin.inv hden).const_mul (y0 : ℝ)).congr_deriv
      (by
        show _ = -((y0 : ℝ) / (1 + (y0 : ℝ) * (x - (x0 : ℝ)))) ^ 2
        rw [div_pow]; ring) |>.congr_of_eventuallyEq
      (Filter.Eventually.of_forall fun t => div_eq_mul_inv _ _)

theorem Ode.sol_continuousOn (o : Ode) (hok : o.ok = true) (i : ℕ) (hi : i < o.dim) (T : ℝ) :
    ContinuousOn (o.sol i) (Icc (o.x0 : ℝ) T) := fun t ht =>
  (o.sol_hasDerivAt hok i hi t (o.inDomain_of_ge hok t ht.1)).continuousAt.continuousWithinAt

theorem Ode.sol_unique_lin (a x0 y0 : ℚ) (T : ℝ) (f : ℝ → ℝ)
    (hc : ContinuousOn f (Icc (x0 : ℝ) T))
    (hd : ∀ t ∈ Ico (x0 : ℝ) T, HasDerivWithinAt f ((a : ℝ) * f t) (Ici t) t)
    (h0 : f (x0 : ℝ) = (y0 : ℝ)) :
    ∀ t ∈ Icc (x0 : ℝ) T, f t = (Ode.lin a x0 y0).sol 0 t := by
  have hL : ∀ _ : ℝ, LipschitzWith ⟨|(a : ℝ)|, abs_nonneg _⟩ (fun y : ℝ => (a : ℝ) * y) := fun _ =>
    LipschitzWith.of_dist_le_mul fun y z => by
      rw [Real.dist_eq, Real.dist_eq, ← mul_sub, abs_mul]; rfl
  have hs := Ode.sol_continuousOn (.lin a x0 y0) rfl 0 Nat.zero_lt_one T
  refine ODE_solution_unique (v := fun _ y => (a : ℝ) * y) hL hc hd hs (fun t ht => ?_) ?_
  · exact (Ode.sol_hasDerivAt (.lin a x0 y0) rfl 0 Nat.zero_lt_one t trivial).hasDerivWithinAt
  · rw [h0]; exact (Ode.sol_init (.lin a x0 y0) 0 Nat.zero_lt_one).symm

/-- the right-hand side of `osc` as a continuous linear map of `ℝ × ℝ` -/
noncomputable def oscMap (w : ℝ) : ℝ × ℝ →L[ℝ] ℝ × ℝ :=
  (ContinuousLinearMap.snd ℝ ℝ ℝ).prod ((-(w ^ 2)) • ContinuousLinearMap.fst ℝ ℝ ℝ)

theorem oscMap_apply (w : ℝ) (y : ℝ × ℝ) : oscMap w y = (y.2, -(w ^ 2) * y.1) := rfl

theorem Ode.sol_unique_osc (w x0 c0 s0 : ℚ) (hw : w ≠ 0) (T : ℝ) (f g : ℝ → ℝ)
    (hcf : ContinuousOn f (Icc (x0 : ℝ) T)) (hcg : ContinuousOn g (Icc (x0 : ℝ) T))
    (hdf : ∀ t ∈ Ico (x0 : ℝ) T, HasDerivWithinAt f (g t) (Ici t) t)
    (hdg : ∀ t ∈ Ico (x0 : ℝ) T, HasDerivWithinAt g (-((w : ℝ) ^ 2) * f t) (Ici t) t)
    (hf0 : f (x0 : ℝ) = (c0 : ℝ)) (hg0 : g (x0 : ℝ) = (s0 : ℝ)) :
    ∀ t ∈ Icc (x0 : ℝ) T, f t = (Ode.osc w x0 c0 s0).sol 0 t ∧ g t = (Ode.osc w x0 c0 s0).sol 1 t := by
  have hok := Ode.ok_osc hw x0 c0 s0
  set o := Ode.osc w x0 c0 s0 with ho
  have key : EqOn (fun t => (f t, g t)) (fun t => (o.sol 0 t, o.sol 1 t)) (Icc (x0 : ℝ) T) := by
    refine ODE_solution_unique (v := fun _ y => oscMap (w : ℝ) y) (fun _ => (oscMap (w : ℝ)).lipschitz)
      (hcf.prodMk hcg) (fun t ht => ?_)
      ((Ode.sol_continuousOn o hok 0 Nat.zero_lt_two T).prodMk (Ode.sol_continuousOn o hok 1 Nat.one_lt_two T))
      (fun t ht => ?_) ?_
    · rw [oscMap_apply]
      exact (hdf t ht).prodMk (hdg t ht)
    · rw [oscMap_apply]
      exact ((Ode.sol_hasDerivAt o hok 0 Nat.zero_lt_two t trivial).prodMk
        (Ode.sol_hasDerivAt o hok 1 Nat.one_lt_two t trivial)).hasDerivWithinAt
    · have h1 := Ode.sol_init o 0 Nat.zero_lt_two
      have h2 := Ode.sol_init o 1 Nat.one_lt_two
      simp only [ho, Ode.x0, Ode.init] at h1 h2
      simp only [hf0, hg0, ho, h1, h2]
  intro t ht
  have := key ht
  simp only [Prod.mk.injEq] at this
  exact this

/-- **uniqueness, `riccati`.**  Any function continuous on `[x0, T]` with right derivative `−f(t)²` on
`[x0, T)` and `f(x0) = y0 > 0` equals `y0/(1 + y0(t − x0))` on `[x0, T]` (no positivity assumption on `f`:
`y ↦ −y²` is Lipschitz on the bounded set in which both solutions stay). -/
theorem Ode.sol_unique_riccati (x0 y0 : ℚ) (hy : 0 < y0) (T : ℝ) (f : ℝ → ℝ)
    (hc : ContinuousOn f (Icc (x0 : ℝ) T))
    (hd : ∀ t ∈ Ico (x0 : ℝ) T, HasDerivWithinAt f (-(f t) ^ 2) (Ici t) t)
    (h0 : f (x0 : ℝ) = (y0 : ℝ)) :
    ∀ t ∈ Icc (x0 : ℝ) T, f t = (Ode.riccati x0 y0).sol 0 t := by
  have hok := Ode.ok_riccati x0 hy
  exact eqOn_of_deriv_eq_mul_sq (k := fun _ => -1) (M := 1) (fun _ _ => by simp) hc
    (fun t ht => (hd t ht).congr_deriv (neg_one_mul _).symm)
    (Ode.sol_continuousOn (.riccati x0 y0) hok 0 Nat.zero_lt_one T)
    (fun t ht => ((Ode.sol_hasDerivAt (.riccati x0 y0) hok 0 Nat.zero_lt_one t
      (Ode.inDomain_of_ge _ hok t ht.1)).hasDerivWithinAt).congr_deriv (neg_one_mul _).symm)
    (h0.trans (Ode.sol_init (.riccati x0 y0) 0 Nat.zero_lt_one).symm)

/-- value `Σ_j l[j]·x^j` of a coefficient list in increasing degree -/
noncomputable def listPolyFn (l : List ℚ) (x : ℝ) : ℝ :=
  ∑ j ∈ Finset.range l.length, (l.getD j 0 : ℝ) * x ^ j

theorem listPolyFn_nil (x : ℝ) : listPolyFn [] x = 0 := by simp [listPolyFn]

theorem listPolyFn_cons (c : ℚ) (cs : List ℚ) (x : ℝ) :
    listPolyFn (c :: cs) x = (c : ℝ) + x * listPolyFn cs x := by
  simp only [listPolyFn, List.length_cons, Finset.sum_range_succ', List.getD_cons_succ,
    List.getD_cons_zero, pow_zero, mul_one, Finset.mul_sum]
  rw [add_comm]
  congr 1
  apply Finset.sum_congr rfl
  intro j _
  ring

theorem ratAbs_cast (q : ℚ) : ((ratAbs q : ℚ) : ℝ) = |(q : ℝ)| := by
  rw [ratAbs, ite_neg_eq_abs, Rat.cast_abs]

theorem absHorner_bound (c : List ℚ) (M : ℚ) (hM : 0 ≤ M) (x : ℝ) (hx : |x| ≤ (M : ℝ)) :
    |listPolyFn c x| ≤ ((absHorner c M : ℚ) : ℝ) := by
  have hM' : (0 : ℝ) ≤ M := by exact_mod_cast hM
  induction c with
  | nil => simp [listPolyFn_nil, absHorner]
  | cons c cs ih =>
    rw [listPolyFn_cons, absHorner]
    push_cast
    rw [ratAbs_cast]
    have h1 : |(c : ℝ) + x * listPolyFn cs x| ≤ |(c : ℝ)| + |x| * |listPolyFn cs x| := by
      rw [← abs_mul]; exact abs_add_le _ _
    have h2 := mul_le_mul hx ih (abs_nonneg _) hM'
    linarith

theorem polyCoeffDist_nil_right (d : List ℚ) (M : ℚ) : polyCoeffDist d [] M = absHorner d M := by
  induction d with
  | nil => rfl
  | cons d ds ih => rw [polyCoeffDist, ih, absHorner]

/-- the exact rational `polyCoeffDist d c M` bounds the distance of the two polynomials on `[−M, M]` -/
theorem polyCoeffDist_bound (d c : List ℚ) (M : ℚ) (hM : 0 ≤ M) (x : ℝ) (hx : |x| ≤ (M : ℝ)) :
    |listPolyFn d x - listPolyFn c x| ≤ ((polyCoeffDist d c M : ℚ) : ℝ) := by
  have hM' : (0 : ℝ) ≤ M := by exact_mod_cast hM
  induction d generalizing c with
  | nil =>
    rw [listPolyFn_nil, zero_sub, abs_neg, polyCoeffDist]
    exact absHorner_bound c M hM x hx
  | cons d ds ih =>
    cases c with
    | nil =>
      rw [polyCoeffDist_nil_right, listPolyFn_nil, sub_zero]
      exact absHorner_bound _ M hM x hx
    | cons c cs =>
      rw [listPolyFn_cons, listPolyFn_cons, polyCoeffDist]
      push_cast
      rw [ratAbs_cast]
      have h1 : |(d : ℝ) + x * listPolyFn ds x - ((c : ℝ) + x * listPolyFn cs x)| ≤
          |((d - c : ℚ) : ℝ)| + |x| * |listPolyFn ds x - listPolyFn cs x| := by
        rw [← abs_mul]
        have : (d : ℝ) + x * listPolyFn ds x - ((c : ℝ) + x * listPolyFn cs x) =
            ((d - c : ℚ) : ℝ) + x * (listPolyFn ds x - listPolyFn cs x) := by push_cast; ring
        rw [this]; exact abs_add_le _ _
      have h2 := mul_le_mul hx (ih cs) (abs_nonneg _) hM'
      linarith

theorem absHorner_eq_sum (c : List ℚ) (M : ℚ) :
    ((absHorner c M : ℚ) : ℝ) = ∑ j ∈ Finset.range c.length, |(c.getD j 0 : ℝ)| * (M : ℝ) ^ j := by
  induction c with
  | nil => simp [absHorner]
  | cons c cs ih =>
    rw [absHorner]
    push_cast
    rw [ratAbs_cast, ih]
    simp only [List.length_cons, Finset.sum_range_succ', List.getD_cons_succ, List.getD_cons_zero,
      pow_zero, mul_one, Finset.mul_sum]
    rw [add_comm]
    congr 1
    apply Finset.sum_congr rfl
    intro j _
    ring

/-- the Horner form of the model is the sum `Σ_j |d[j] − c[j]|·M^j` -/
theorem polyCoeffDist_eq_sum (d c : List ℚ) (M : ℚ) :
    ((polyCoeffDist d c M : ℚ) : ℝ) = ∑ j ∈ Finset.range (max d.length c.length),
      |(d.getD j 0 : ℝ) - (c.getD j 0 : ℝ)| * (M : ℝ) ^ j := by
  induction d generalizing c with
  | nil =>
    rw [polyCoeffDist, absHorner_eq_sum]
    simp
  | cons d ds ih =>
    cases c with
    | nil =>
      rw [polyCoeffDist_nil_right, absHorner_eq_sum]
      simp
    | cons c cs =>
      rw [polyCoeffDist]
      push_cast
      rw [ratAbs_cast, ih]
      simp only [List.length_cons, Nat.add_max_add_right, Finset.sum_range_succ',
        List.getD_cons_succ, List.getD_cons_zero, pow_zero, mul_one, Finset.mul_sum]
      rw [add_comm]
      congr 1
      · apply Finset.sum_congr rfl
        intro j _
        ring
      · push_cast; rfl

theorem trigSumRef_sem (trig : Ref → Ref) (T : ℝ → ℝ) (hT : ∀ r, (trig r).sem = T r.sem) (m : Ref) (x : ℚ)
    (l : List ℚ) : ∀ n : ℕ, (trigSumRef trig m x l n).sem =
      ∑ k ∈ Finset.range l.length, (l.getD k 0 : ℝ) * T (m.sem * ((n + k : ℕ) : ℝ) * (x : ℝ)) := by
  induction l with
  | nil => intro n; simp [trigSumRef, Ref.sem]
  | cons c cs ih =>
    intro n
    simp only [trigSumRef, Ref.sem, hT, ih, List.length_cons, Finset.sum_range_succ',
      List.getD_cons_succ, List.getD_cons_zero, Nat.add_zero]
    rw [add_comm]
    congr 1
    apply Finset.sum_congr rfl
    intro k _
    have : n + 1 + k = n + (k + 1) := by omega
    rw [this]

/-- `fourierRef` denotes the trigonometric sum in the definition of `fourierval` -/
theorem fourierRef_sem (cs ss : List ℚ) (a b x : ℚ) (r : Ref) (h : fourierRef cs ss a b x = some r) :
    r.sem = ∑ n ∈ Finset.range cs.length,
        (cs.getD n 0 : ℝ) * Real.cos (2 * Real.pi / ((b : ℝ) - (a : ℝ)) * (n : ℝ) * (x : ℝ)) +
      ∑ n ∈ Finset.range ss.length,
        (ss.getD n 0 : ℝ) * Real.sin (2 * Real.pi / ((b : ℝ) - (a : ℝ)) * (n : ℝ) * (x : ℝ)) := by
  unfold fourierRef at h
  split at h
  · simp at h
  · simp only [Option.some.injEq] at h
    subst h
    have hm : (Ref.mul (.rat (2 / (b - a))) .pi).sem = 2 * Real.pi / ((b : ℝ) - (a : ℝ)) := by
      simp only [Ref.sem]; push_cast; ring
    simp only [Ref.sem, trigSumRef_sem Ref.cos Real.cos (fun _ => rfl),
      trigSumRef_sem Ref.sin Real.sin (fun _ => rfl), Nat.zero_add]
    rw [← hm]
    rfl

/-- the trigonometric sum `Σ_n cs[n]·cos(m·n·x) + Σ_n ss[n]·sin(m·n·x)`, `m = 2π/(b − a)`, that defines
`fourierval((cs, ss), [a, b], x)` -/
noncomputable def fourierSum (cs ss : List ℚ) (a b : ℚ) (x : ℝ) : ℝ :=
  ∑ n ∈ Finset.range cs.length,
      (cs.getD n 0 : ℝ) * Real.cos (2 * Real.pi / ((b : ℝ) - (a : ℝ)) * (n : ℝ) * x) +
    ∑ n ∈ Finset.range ss.length,
      (ss.getD n 0 : ℝ) * Real.sin (2 * Real.pi / ((b : ℝ) - (a : ℝ)) * (n : ℝ) * x)

theorem fourierRef_sem' (cs ss : List ℚ) (a b x : ℚ) (r : Ref) (h : fourierRef cs ss a b x = some r) :
    r.sem = fourierSum cs ss a b (x : ℝ) :=
  fourierRef_sem cs ss a b x r h

/-! ## test vectors

An accepted and a rejected value are checked against the same reference.  Each pair is one statement, so that
the kernel computes the enclosure of the reference once. -/

/-- `fourierval(([1, 2], [0, 3]), [0, 1], 1/4) = 1 + 2cos(π/2) + 3sin(π/2) = 4`: `4` is accepted, `4.5` is not -/
theorem Example.fourierval_verdicts :
    checkCloseTo ((fourierRef [1, 2] [0, 3] 0 1 (1 / 4)).getD (.rat 0))
      ((fourierRef [1, 2] [0, 3] 0 1 (1 / 4)).getD (.rat 0)) ⟨4, 0⟩ 53 10 1 false = .ok ∧
    checkCloseTo ((fourierRef [1, 2] [0, 3] 0 1 (1 / 4)).getD (.rat 0))
      ((fourierRef [1, 2] [0, 3] 0 1 (1 / 4)).getD (.rat 0)) ⟨9, -1⟩ 53 10 1 false = .violates := by
  decide +kernel

/-- `y' = y`, `y(0) = 1` at `x = 1`: the double nearest `e` is accepted, `87/32` is not -/
theorem Example.lin_verdicts :
    checkClose (((Ode.lin 1 0 1).solRef 0 1).getD (.rat 0)) ⟨6121026514868073, -51⟩ 53 10 1 false = .ok ∧
    checkClose (((Ode.lin 1 0 1).solRef 0 1).getD (.rat 0)) ⟨87, -5⟩ 53 10 1 false = .violates := by
  decide +kernel

/-! ## C34: value-level order independence of the interpolant model

`Example.history_independence_counterexample` shows that the SEGMENT answering a query at a boundary point
depends on the history.  The VALUE does not, provided the piecewise polynomial is continuous at the knots in
the exact (bitwise) sense `hknot` below.  In the code this holds because segment `k+1` is expanded around `xb_k`
from the state `y = mpolyval(ser_k, xb_k − xa_k)`, its constant Taylor coefficient is `y·1`, and every
`mpolyval` of `interpolant`/`get_series` runs at the same precision `workprec`. -/

section Value
variable {S X Y : Type} [LinearOrder X] {step : X → Y → S × X} {endval : S → X → X → Y} {x0 : X} {y0 : Y}

/-- **value-level order independence.**  Under progress and exact knot continuity, the value returned by the
interpolant model for a point `x` is the same in ANY two reachable stores (any two query histories, any fuel
that suffices), for EVERY `x ≥ x0` — boundary points included. -/
theorem interpolant_value_independent (evalAt : S → X → X → Y) (hprog : Progress step endval x0 y0)
    (hknot : KnotContinuous step endval evalAt x0 y0) {st₁ st₂ st₁' st₂' : Store S X}
    (hr₁ : Reachable step endval x0 y0 st₁) (hr₂ : Reachable step endval x0 y0 st₂) {x : X} {f₁ f₂ : ℕ}
    {v₁ v₂ : Y} (h₁ : interpolant step endval evalAt x0 f₁ st₁ x = .ok (st₁', v₁))
    (h₂ : interpolant step endval evalAt x0 f₂ st₂ x = .ok (st₂', v₂)) : v₁ = v₂ := by
  unfold interpolant at h₁ h₂
  split at h₁
  · cases h₁
  · rename_i hq₁
    split at h₂
    · cases h₂
    · rename_i hq₂
      injection h₁ with h₁; injection h₁ with _ h₁
      injection h₂ with h₂; injection h₂ with _ h₂
      obtain ⟨k₁, a₁, b₁, _, c₁⟩ := getSeries_value_of_knot hprog hknot hr₁ hq₁
      obtain ⟨k₂, a₂, b₂, _, c₂⟩ := getSeries_value_of_knot hprog hknot hr₂ hq₂
      rw [← h₁, ← h₂, c₁, c₂, seg_index_unique hprog a₁ b₁ a₂ b₂]

/-- non-vacuity: exact Taylor segments of length 2 for `y' = 1`, `y(0) = 7`: the series of a segment is
`(xa, ya)`, its value at `x` is `ya + (x − xa)`; the knots are continuous and progress holds -/
def Example.vstep : Int → Int → (Int × Int) × Int := fun x y => ((x, y), x + 2)
/-- `mpolyval` stand-in for `Example.vstep` -/
def Example.vend : Int × Int → Int → Int → Int := fun s _ x => s.2 + (x - s.1)

example : KnotContinuous Example.vstep Example.vend Example.vend 0 7 := by
  intro k
  simp [seg, nextSeg, Example.vstep, Example.vend, bd]

example : Progress Example.vstep Example.vend 0 7 := by
  intro k
  cases k <;> simp [seg, nextSeg, Example.vstep]

end Value

end Mp.Calc

section Audit
open Mp.Calc
#print axioms Ode.solRef_sem
#print axioms Ode.sol_init
#print axioms Ode.sol_hasDerivAt
#print axioms Ode.sol_unique_lin
#print axioms Ode.sol_unique_osc
#print axioms Ode.sol_unique_riccati
#print axioms polyCoeffDist_bound
#print axioms polyCoeffDist_eq_sum
#print axioms fourierRef_sem
#print axioms interpolant_value_independent
end Audit

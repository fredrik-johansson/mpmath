/-
  Props/C04powneg.lean — C04, negative integer powers: `z**(-m)` for a complex `z` with both components nonzero, `m ≥ 3`
  in the exact regime of `z**m` (`m·(|e_a − e_b| + max bc) < 10000`), every precision ≥ 3 and every rounding mode:
  EACH component of the result is within `6·2^(-prec)` relative — three units in the last place — of the exact component
  of `1/z^m` ("a few units in the last place", in modulus a fortiori: `modulus_of_componentwise`).
  The code computes `mpc_reciprocal(mpc_pow_int(z, m, prec+4, round_down), prec, rnd)`.
-/
import Props.C04pow
import Props.C04div
import MpProofs.CPowNeg

namespace Mp

theorem C04_pow_int_neg (fallback : Mpc → Int → Int → Rnd → Except Err Mpc)
    {z : Mpc} (hz : CanonFinC z) (ha : z.1 ≠ fzero) (hb : z.2 ≠ fzero) {m : ℕ} (hm : 3 ≤ m)
    (hsize : (m : ℤ) * (((z.1.exp - z.2.exp).natAbs : ℤ) + max z.1.bc z.2.bc) < 10000)
    {prec : ℤ} (hp : 3 ≤ prec) (rnd : Rnd) :
    ∃ re im, mpc_pow_int fallback z (-(m : ℤ)) prec rnd = .ok (re, im) ∧ CanonFin re ∧ CanonFin im ∧
      re.bc ≤ prec ∧ im.bc ≤ prec ∧
      |val re - (cpowQ (val z.1) (val z.2) m).1 / ((val z.1 * val z.1 + val z.2 * val z.2) ^ m)| ≤
        |(cpowQ (val z.1) (val z.2) m).1 / ((val z.1 * val z.1 + val z.2 * val z.2) ^ m)| * (6 * 2 ^ (-prec)) ∧
      |val im - (-((cpowQ (val z.1) (val z.2) m).2 / ((val z.1 * val z.1 + val z.2 * val z.2) ^ m)))| ≤
        |(cpowQ (val z.1) (val z.2) m).2 / ((val z.1 * val z.1 + val z.2 * val z.2) ^ m)| * (6 * 2 ^ (-prec)) := by
  -- the inner power `w` at prec + 4, rounded down: each component within `2^(-prec)/8`
  have hp4 : (0 : ℤ) < prec + 4 := by omega
  obtain ⟨wr, wi, hw, hwr, hwi⟩ :=
    C04_pow_int_exact fallback hz ha hb (n := (m : ℤ)) (by omega) hsize hp4.le .d
  rw [Int.toNat_natCast] at hwr hwi
  have eη : (2 : ℚ) ^ (1 - (prec + 4)) = 2 ^ (-prec) / 8 := by
    rw [show (1 : ℤ) - (prec + 4) = -prec + (-3) by ring, zpow_add₀ two_ne_zero]; norm_num; ring
  have rr := hwr.relerr hp4
  have ri := hwi.relerr hp4
  rw [eη] at rr ri
  -- its reciprocal, and `|z^m|² = |z|^(2m)`
  have hS := pow_pos (normsq_pos hz.1 hz.2 fun h => ha h.1) m
  rw [← cpowQ_normsq] at hS
  obtain ⟨re, im, hrec, rest⟩ := mpc_reciprocal_of_approx (w := (wr, wi)) hwr.canon hwi.canon hS hp rnd rr ri
  rw [cpowQ_normsq] at rest
  refine ⟨re, im, ?_, rest⟩
  rw [mpc_pow_int_neg_eq fallback ha hb (by omega), neg_neg, hw]
  exact hrec

end Mp

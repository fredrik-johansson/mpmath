/-
  MpProofs/StrFrom.lean — `from_str` on decimal literals: reduction to the exact branch and its rounding.
-/
import MpProofs.Str
import MpProofs.Arith
import MpProofs.Div

namespace Mp

/-- On a decimal literal with `|exp| ≤ 400`, `from_str` takes the exact branch with the parser's
`(man, exp)`. -/
theorem fromStr_plain {l : List Char} {v : ℚ} (h : decValueU l = some v)
    {man exp : Int} (hme : strToManExp l 0 = .ok (man, exp)) (hexp : exp.natAbs ≤ 400)
    (prec : Int) (rnd : Rnd) :
    fromStr l prec rnd 0 =
      if exp ≥ 0 then .ok (from_int (man * (10 : Int) ^ exp.toNat) prec rnd)
      else from_rational man ((10 : Int) ^ (-exp).toNat) prec rnd := by
  have hch := decValueU_chars h
  have hx : stripL isSpaceStrip (l.map lowerC) = l.map lowerC := by
    apply stripL_eq_self_of_forall
    intro c hc
    rcases hch c hc with rfl | hl
    · decide
    · exact hl.not_spaceStrip
  have hn : 'n' ∉ l.map lowerC := by
    intro hm
    rcases hch _ hm with hu | hl
    · exact absurd hu (by decide)
    · revert hl; unfold LitChar; decide
  have hs : '/' ∉ l.map lowerC := by
    intro hm
    rcases hch _ hm with hu | hl
    · exact absurd hu (by decide)
    · exact hl.ne_slash rfl
  have h1 : l.map lowerC ≠ "inf".toList := fun he => hn (by rw [he]; decide)
  have h2 : l.map lowerC ≠ "+inf".toList := fun he => hn (by rw [he]; decide)
  have h3 : l.map lowerC ≠ "-inf".toList := fun he => hn (by rw [he]; decide)
  have h4 : l.map lowerC ≠ "nan".toList := fun he => hn (by rw [he]; decide)
  have hc : (l.map lowerC).contains '/' = false := by simpa using hs
  unfold fromStr
  simp only [hx, h1, h2, h3, h4, hc, or_self, if_false, Bool.false_eq_true, strToManExp_lower, hme]
  rw [if_neg (by omega)]

/-- **Exact branch of `from_str`.** If the parser's exponent satisfies `|exp| ≤ 400`, the result is the
correctly rounded value of the literal, in every rounding mode. -/
theorem fromStr_exact_round {l : List Char} {v : ℚ} (h : decValueU l = some v)
    {man exp : Int} (hme : strToManExp l 0 = .ok (man, exp)) (hexp : exp.natAbs ≤ 400)
    (prec : Int) (rnd : Rnd) (hprec : 0 < prec) :
    ∃ r, fromStr l prec rnd 0 = .ok r ∧ RoundOK prec rnd v r := by
  obtain ⟨m', e', h', hval⟩ := strToManExp_value h
  rw [hme] at h'
  obtain ⟨rfl, rfl⟩ : man = m' ∧ exp = e' := by
    have := Except.ok.inj h'
    exact ⟨congrArg Prod.fst this, congrArg Prod.snd this⟩
  rw [fromStr_plain h hme hexp]
  by_cases he : exp ≥ 0
  · rw [if_pos he]
    refine ⟨_, rfl, ?_⟩
    have := from_int_spec (man * (10 : Int) ^ exp.toNat) (le_of_lt hprec) rnd
    have hcast : (((man * (10 : Int) ^ exp.toNat : Int)) : ℚ) = v := by
      rw [← hval]
      push_cast
      congr 1
      rw [← zpow_natCast, Int.toNat_of_nonneg he]
    rwa [hcast] at this
  · rw [if_neg he]
    have hq : ((10 : Int) ^ (-exp).toNat) ≠ 0 := by positivity
    obtain ⟨r, hr, hok⟩ := from_rational_spec man ((10 : Int) ^ (-exp).toNat) hq hprec rnd
    refine ⟨r, hr, ?_⟩
    have hcast : (man : ℚ) / (((10 : Int) ^ (-exp).toNat : Int) : ℚ) = v := by
      rw [← hval]
      push_cast
      rw [div_eq_mul_inv, ← zpow_natCast, ← zpow_neg, Int.toNat_of_nonneg (by omega)]
      simp
    rwa [hcast] at hok

end Mp

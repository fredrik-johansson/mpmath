/-
  MpProofs/RootOrder.lean — the ordering produced by the post-processing of polyroots: the stable
  insertion sort, the key order on canonical finite values, the pairing loop; witness data for D13.
-/
import MpModel.RootCert
import MpProofs.Spec
import MpProofs.Cmp
import MpProofs.Arith
import MpProofs.Faithful
import Mathlib.Data.List.Perm.Basic
import Mathlib.Data.List.Permutation
import Mathlib.Data.Prod.Lex
import Mathlib.Tactic.Linarith

namespace Mp
namespace RootCert

theorem insertBy_perm {α : Type} (lt : α → α → Bool) (x : α) (l : List α) :
    (insertBy lt x l).Perm (x :: l) := by
  induction l with
  | nil => simp [insertBy]
  | cons y ys ih =>
    simp only [insertBy]
    split
    · exact (List.Perm.cons y ih).trans (List.Perm.swap x y ys)
    · exact List.Perm.refl _

theorem sortBy_perm {α : Type} (lt : α → α → Bool) (l : List α) : (sortBy lt l).Perm l := by
  induction l with
  | nil => simp [sortBy]
  | cons x xs ih =>
    simp only [sortBy]
    exact (insertBy_perm lt x _).trans (List.Perm.cons x ih)

section sorted
variable {α : Type} {L : Type} [LinearOrder L] (lt : α → α → Bool) (f : α → L)

theorem insertBy_sorted (x : α) (l : List α) (hlt : ∀ y ∈ l, lt y x = true ↔ f y < f x)
    (hl : l.Pairwise (fun a b => f a ≤ f b)) :
    (insertBy lt x l).Pairwise (fun a b => f a ≤ f b) := by
  induction l with
  | nil => simp [insertBy]
  | cons y ys ih =>
    simp only [insertBy]
    rw [List.pairwise_cons] at hl
    have ih' := ih (fun z hz => hlt z (List.mem_cons_of_mem y hz)) hl.2
    split
    · rename_i h
      refine List.pairwise_cons.2 ⟨fun z hz => ?_, ih'⟩
      rcases List.mem_cons.1 ((insertBy_perm lt x ys).mem_iff.1 hz) with rfl | hz'
      · exact ((hlt y List.mem_cons_self).1 h).le
      · exact hl.1 z hz'
    · rename_i h
      have hxy : f x ≤ f y := not_lt.1 fun hc => h ((hlt y List.mem_cons_self).2 hc)
      refine List.pairwise_cons.2 ⟨fun z hz => ?_, List.pairwise_cons.2 hl⟩
      rcases List.mem_cons.1 hz with rfl | hz
      · exact hxy
      · exact hxy.trans (hl.1 z hz)

theorem sortBy_sorted_of (l : List α) (hlt : ∀ a ∈ l, ∀ b ∈ l, lt a b = true ↔ f a < f b) :
    (sortBy lt l).Pairwise (fun a b => f a ≤ f b) := by
  induction l with
  | nil => simp [sortBy]
  | cons x xs ih =>
    refine insertBy_sorted lt f x _ (fun y hy => ?_)
      (ih fun a ha b hb => hlt a (List.mem_cons_of_mem x ha) b (List.mem_cons_of_mem x hb))
    exact hlt y (List.mem_cons_of_mem x ((sortBy_perm lt xs).mem_iff.1 hy)) x List.mem_cons_self

theorem sortBy_sorted (hlt : ∀ a b, lt a b = true ↔ f a < f b) (l : List α) :
    (sortBy lt l).Pairwise (fun a b => f a ≤ f b) :=
  sortBy_sorted_of lt f l fun a _ b _ => hlt a b

/-- a list along which `p` can only switch from true to false is its `p` part followed by the rest -/
theorem filter_append_filter_not {α : Type} (p : α → Bool) (l : List α)
    (h : l.Pairwise fun a b => p b = true → p a = true) :
    l = l.filter p ++ l.filter (fun a => !p a) := by
  induction l with
  | nil => rfl
  | cons x xs ih =>
    rw [List.pairwise_cons] at h
    cases hx : p x
    · have hxs : ∀ a ∈ xs, p a = false := fun a ha =>
        Bool.eq_false_iff.2 fun hpa => Bool.false_ne_true (hx ▸ h.1 a ha hpa)
      have h1 : xs.filter p = [] := List.filter_eq_nil_iff.2 fun a ha => by simp [hxs a ha]
      have h2 : xs.filter (fun a => !p a) = xs := List.filter_eq_self.2 fun a ha => by simp [hxs a ha]
      simp [hx, h1, h2]
    · simp only [List.filter_cons, hx, if_true, Bool.not_true, Bool.false_eq_true, if_false,
        List.cons_append]
      rw [← ih h.2]

/-- a list sorted by `f` is its `< k` part, its `= k` part and its `> k` part, in this order -/
theorem sorted_three_parts (k : L) (l : List α) (hl : l.Pairwise (fun a b => f a ≤ f b)) :
    l = l.filter (fun a => decide (f a < k)) ++
      (l.filter (fun a => decide (f a = k)) ++ l.filter (fun a => decide (k < f a))) := by
  have h1 := filter_append_filter_not (fun a => decide (f a ≤ k)) l
    (hl.imp fun hab hb => decide_eq_true (hab.trans (of_decide_eq_true hb)))
  have h2 := filter_append_filter_not (fun a => decide (f a < k)) (l.filter fun a => decide (f a ≤ k))
    ((hl.sublist List.filter_sublist).imp fun hab hb =>
      decide_eq_true (hab.trans_lt (of_decide_eq_true hb)))
  rw [List.filter_filter, List.filter_filter] at h2
  rw [h2, List.append_assoc] at h1
  convert h1 using 3
  · funext x
    by_cases h : f x < k <;> simp [h, le_of_lt]
  · congr 1; funext x
    rw [Bool.eq_iff_iff]
    simp only [decide_eq_true_eq, Bool.and_eq_true, Bool.not_eq_true', decide_eq_false_iff_not, not_lt]
    exact ⟨fun h => ⟨h.ge, h.le⟩, fun h => le_antisymm h.2 h.1⟩
  · congr 1; funext x
    rw [Bool.eq_iff_iff]
    simp only [decide_eq_true_eq, Bool.not_eq_true', decide_eq_false_iff_not, not_le]
end sorted

/-- both components are canonical finite mpf values (no inf/nan, normalised) -/
def Root.WF (r : Root) : Prop := CanonFin r.re ∧ CanonFin r.im

instance (r : Root) : Decidable r.WF := by unfold Root.WF; infer_instance

theorem Root.WF.imag {r : Root} (h : r.WF) : CanonFin r.imag := by
  unfold Root.imag; split
  · exact h.2
  · exact canonFin_fzero

/-- rounding `|s|` to `wp ≥ 1` bits never produces zero from a nonzero value -/
theorem mpf_abs_val_pos {s : Mpf} (hs : CanonFin s) (hne : s ≠ fzero) {wp : ℤ} (hp : 0 < wp) :
    0 < val (mpf_abs s wp .n) :=
  isRound_pos (p := wp.toNat) (by omega)
    (abs_pos.2 (val_ne_zero_of_ne_fzero hs hne)) (((mpf_abs_spec hs hp.le .n).2.2 hp).1)

/-- the value-level sort key: `(|Im| rounded to wp bits, Re)` in the lexicographic order -/
def keyVal (wp : ℤ) (r : Root) : ℚ ×ₗ ℚ := toLex (val (mpf_abs r.imag wp .n), val r.re)

/-- Python's tuple `<` on canonical finite mpf pairs is the lexicographic order of the values -/
theorem keyLt_iff {a1 a2 b1 b2 : Mpf} (ha1 : CanonFin a1) (ha2 : CanonFin a2) (hb1 : CanonFin b1)
    (hb2 : CanonFin b2) :
    keyLt (a1, a2) (b1, b2) = true ↔ (toLex (val a1, val a2) : ℚ ×ₗ ℚ) < toLex (val b1, val b2) := by
  rw [Prod.Lex.toLex_lt_toLex]
  simp only [keyLt, mpf_eq_spec ha1 hb1, mpf_eq_spec ha2 hb2, mpf_lt_spec ha1 hb1, mpf_lt_spec ha2 hb2]
  by_cases h1 : val a1 = val b1
  · by_cases h2 : val a2 = val b2
    · simp [h1, h2]
    · simp [h1, h2]
  · simp [h1]

theorem sortKey_lt_iff {wp : ℤ} (hp : 0 ≤ wp) {a b : Root} (ha : a.WF) (hb : b.WF) :
    keyLt (sortKey wp a) (sortKey wp b) = true ↔ keyVal wp a < keyVal wp b := by
  unfold sortKey keyVal
  exact keyLt_iff (mpf_abs_spec ha.imag hp .n).1 ha.1 (mpf_abs_spec hb.imag hp .n).1 hb.1

theorem polyrootsOrder_perm (wp : ℤ) (roots : List Root) : (polyrootsOrder wp roots).Perm roots :=
  sortBy_perm _ _

theorem polyrootsOrder_sorted {wp : ℤ} (hp : 0 ≤ wp) (roots : List Root) (hwf : ∀ r ∈ roots, r.WF) :
    (polyrootsOrder wp roots).Pairwise (fun a b => keyVal wp a ≤ keyVal wp b) :=
  sortBy_sorted_of _ (keyVal wp) roots fun a ha b hb => sortKey_lt_iff hp (hwf a ha) (hwf b hb)

theorem keyVal_real {wp : ℤ} {r : Root} (h : r.imag = fzero) :
    keyVal wp r = toLex (0, val r.re) := by
  unfold keyVal
  rw [h]
  have : mpf_abs fzero wp .n = fzero := by
    by_cases h0 : wp = 0 <;> simp [mpf_abs, fzero, isSpecial, h0]
  rw [this, val_fzero]

theorem getD_cons_eraseIdx_perm {α : Type} (d : α) (l : List α) (k : Nat) (hk : k < l.length) :
    (l.getD k d :: l.eraseIdx k).Perm l := by
  induction l generalizing k with
  | nil => simp at hk
  | cons x xs ih =>
    cases k with
    | zero => simp
    | succ k =>
      simp only [List.getD_cons_succ, List.eraseIdx_cons_succ]
      have := ih k (by simpa using hk)
      exact (List.Perm.swap x _ _).trans (List.Perm.cons x this)

theorem getD_mem {α : Type} (d : α) (l : List α) (k : Nat) (hk : k < l.length) : l.getD k d ∈ l :=
  (getD_cons_eraseIdx_perm d l k hk).mem_iff.1 (by simp)

theorem mapExcept_length {α β : Type} (f : α → Except Err β) (l : List α) (r : List β)
    (h : mapExcept f l = .ok r) : r.length = l.length := by
  induction l generalizing r with
  | nil => simp [mapExcept] at h; subst h; rfl
  | cons x xs ih =>
    simp only [mapExcept, bind, Except.bind] at h
    split at h
    · exact absurd h (by simp)
    · rename_i y hy
      split at h
      · exact absurd h (by simp)
      · rename_i ys hys
        simp only [pure, Except.pure, Except.ok.injEq] at h
        subst h
        simp [ih ys hys]

theorem argminAux_lt (ds : List Mpf) (i best : Nat) (bd : Mpf) (h : best < i) :
    argminAux ds i best bd < i + ds.length := by
  induction ds generalizing i best bd with
  | nil => simpa [argminAux] using h
  | cons d ds ih =>
    simp only [argminAux, List.length_cons]
    split
    · have := ih (i + 1) i d (by omega); omega
    · have := ih (i + 1) best bd (by omega); omega

theorem argmin_lt (ds : List Mpf) (h : ds ≠ []) : argmin ds < ds.length := by
  cases ds with
  | nil => exact absurd rfl h
  | cons d ds =>
    simp only [argmin, List.length_cons]
    have := argminAux_lt ds 1 0 d (by omega)
    omega

theorem indexFrom_map_snd {α : Type} (k : Nat) (l : List α) : (indexFrom k l).map (·.2) = l := by
  induction l generalizing k with
  | nil => rfl
  | cons x xs ih => simp [indexFrom, ih]

theorem indexFrom_filter_map {α : Type} (p : α → Bool) (k : Nat) (l : List α) :
    ((indexFrom k l).filter (fun r => p r.2)).map (·.2) = l.filter p := by
  induction l generalizing k with
  | nil => rfl
  | cons x xs ih =>
    simp only [indexFrom, List.filter_cons]
    split <;> simp [ih]

/-- one round of the pairing loop: some lower root (position `k`) is taken out and emitted next to `u`,
in either order -/
theorem pairUp_cons {wp : Int} {u l : Nat × Root} {us ls : List (Nat × Root)} {out : List Root}
    (h : pairUp wp (u :: us) (l :: ls) = .ok out) :
    ∃ k rest, k < (l :: ls).length ∧ pairUp wp us ((l :: ls).eraseIdx k) = .ok rest ∧
      (out = ((l :: ls).getD k u).2 :: u.2 :: rest ∨ out = u.2 :: ((l :: ls).getD k u).2 :: rest) := by
  simp only [pairUp] at h
  split at h
  · exact absurd h (by simp)
  · rename_i ds hds
    split at h
    · exact absurd h (by simp)
    · rename_i rest hrest
      have hlen := mapExcept_length _ _ _ hds
      refine ⟨argmin ds, rest, ?_, hrest, ?_⟩
      · rw [← hlen]; apply argmin_lt; intro h0; rw [h0] at hlen; simp at hlen
      · rw [Except.ok.injEq] at h
        subst h
        split
        · exact Or.inl rfl
        · exact Or.inr rfl

/-- the pairing loop returns a permutation of `upper ++ lower` -/
theorem pairUp_perm (wp : Int) (us lower : List (Nat × Root)) (out : List Root)
    (h : pairUp wp us lower = .ok out) : out.Perm ((us ++ lower).map (·.2)) := by
  induction us generalizing lower out with
  | nil => simp [pairUp] at h; subst h; simp
  | cons u us ih =>
    cases lower with
    | nil => simp [pairUp] at h; subst h; simp
    | cons l ls =>
      obtain ⟨k, rest, hk, hrest, hout⟩ := pairUp_cons h
      have h3 : (u :: ((l :: ls).getD k u) :: (us ++ (l :: ls).eraseIdx k)).Perm
          ((u :: us) ++ (l :: ls)) :=
        List.Perm.cons u (List.perm_middle.symm.trans
          (List.Perm.append_left us (getD_cons_eraseIdx_perm u (l :: ls) k hk)))
      have h4 := h3.map (·.2)
      rw [List.map_cons, List.map_cons] at h4
      have hmain := (List.Perm.cons u.2 (List.Perm.cons _ (ih _ _ hrest))).trans h4
      rcases hout with rfl | rfl
      · exact (List.Perm.swap _ _ _).trans hmain
      · exact hmain

/-- with as many upper as lower roots the pairing loop output is a sequence of pairs of opposite half planes -/
theorem pairUp_opposite (wp : Int) (us lower : List (Nat × Root)) (out : List Root)
    (h : pairUp wp us lower = .ok out) (hlen : us.length = lower.length)
    (hu : ∀ r ∈ us, mpfPos r.2.imag = true) (hl : ∀ r ∈ lower, mpfPos r.2.imag = false) :
    oppositePairs out = true := by
  induction us generalizing lower out with
  | nil =>
    cases lower with
    | nil => simp [pairUp] at h; subst h; rfl
    | cons l ls => simp at hlen
  | cons u us ih =>
    cases lower with
    | nil => simp at hlen
    | cons l ls =>
      obtain ⟨k, rest, hk, hrest, hout⟩ := pairUp_cons h
      have h1 := ih ((l :: ls).eraseIdx k) rest hrest
        (by rw [List.length_eraseIdx_of_lt hk]; simp at hlen ⊢; omega)
        (fun r hr => hu r (by simp [hr]))
        (fun r hr => hl r (List.mem_of_mem_eraseIdx hr))
      have hU := hu u (by simp)
      have hL := hl _ (getD_mem u _ _ hk)
      rcases hout with rfl | rfl <;> simp only [oppositePairs, hU, hL, h1] <;> decide

/-- a successful run of the sort and pairing pass: the real roots of the sorted list, then the output of the
pairing loop on its non-real roots with positive (`us`) and with non-positive (`ls`) imaginary part -/
theorem polyrootsOrderPatched_ok {wp : Int} {roots out : List Root}
    (h : polyrootsOrderPatched wp roots = .ok out) :
    ∃ us ls paired, pairUp wp us ls = .ok paired ∧
      out = (polyrootsOrder wp roots).filter (fun r => r.imag == fzero) ++ paired ∧
      us.map (·.2) = ((polyrootsOrder wp roots).filter fun r => !(r.imag == fzero)).filter
        (fun r => mpfPos r.imag) ∧
      ls.map (·.2) = ((polyrootsOrder wp roots).filter fun r => !(r.imag == fzero)).filter
        (fun r => !mpfPos r.imag) ∧
      (∀ r ∈ us, mpfPos r.2.imag = true) ∧ (∀ r ∈ ls, mpfPos r.2.imag = false) := by
  unfold polyrootsOrderPatched at h
  simp only at h
  split at h
  · exact absurd h (by simp)
  · rename_i paired hp
    refine ⟨_, _, paired, hp, (Except.ok.inj h).symm, ?_, ?_, fun r hr => (List.mem_filter.1 hr).2,
      fun r hr => by simpa using (List.mem_filter.1 hr).2⟩
    · rw [List.filter_filter, List.filter_filter]
      exact indexFrom_filter_map (fun r : Root => mpfPos r.imag && !(r.imag == fzero)) 0 _
    · rw [List.filter_filter, List.filter_filter]
      exact indexFrom_filter_map (fun r : Root => !mpfPos r.imag && !(r.imag == fzero)) 0 _

/-- complex root from raw components -/
def C29c (re im : Mpf) : Root := ⟨true, re, im⟩

/-- the six roots held by `polyroots([1,-4,5,0,4,-16,20])` (= (x²−2x+2)(x²+2x+2)(x²−4x+5)) at 53 bits
just before the sort, at the working precision 63: `2−i, 1−i, 1+i, −1−i, −1+i, 2+(1−2⁻⁶²)i` -/
def C29d13 : List Root :=
  [C29c ftwo fnone, C29c fone fnone, C29c fone fone, C29c fnone fnone, C29c fnone fone,
   C29c ftwo ⟨0, 4611686018427387903, -62, 62⟩]

/-- what the post-processing that only sorts (`polyPost`) returns for them: `2+i, −1−i, −1+i, 1−i, 1+i, 2−i` -/
def C29d13Out : List Root :=
  [C29c ftwo fone, C29c fnone fnone, C29c fnone fone, C29c fone fnone, C29c fone fone, C29c ftwo fnone]

end RootCert
end Mp

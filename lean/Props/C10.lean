/-
  Props/C10.lean — C10: rounded operations never return more bits than the working precision
  (core operations; the wrapper layer is covered by the API sweep of the check).
-/
import MpProofs.Div

namespace Mp

theorem C10_bc_of_roundOK {prec : ℤ} (hp : 0 < prec) {rnd : Rnd} {x : ℚ} {r : Mpf} (h : RoundOK prec rnd x r) :
    r.bc ≤ prec ∧ (bitcount r.man : ℤ) ≤ prec := by
  have h2 := h.bc_le hp
  refine ⟨h2, ?_⟩
  rcases h.1 with h0 | ⟨_, _, hb⟩
  · rw [h0]; simp [fzero]; omega
  · rw [← hb]; exact h2

theorem C10_add {s t : Mpf} (hs : CanonFin s) (ht : CanonFin t) {prec : ℤ} (hp : 0 < prec) (rnd : Rnd)
    (sub : Bool) : (bitcount (mpf_add s t prec rnd sub).man : ℤ) ≤ prec :=
  (C10_bc_of_roundOK hp (mpf_add_spec hs ht hp.le rnd sub)).2

theorem C10_mul {s t : Mpf} (hs : CanonFin s) (ht : CanonFin t) {prec : ℤ} (hp : 0 < prec) (rnd : Rnd) :
    (bitcount (mpf_mul s t prec rnd).man : ℤ) ≤ prec :=
  (C10_bc_of_roundOK hp (mpf_mul_spec hs ht hp.le rnd)).2

theorem C10_div {s t : Mpf} (hs : CanonFin s) (ht : CanonFin t) (ht0 : t ≠ fzero) {prec : ℤ} (hp : 0 < prec)
    (rnd : Rnd) : ∃ r, mpf_div s t prec rnd = .ok r ∧ (bitcount r.man : ℤ) ≤ prec := by
  obtain ⟨r, h1, h2⟩ := mpf_div_spec hs ht ht0 hp rnd
  exact ⟨r, h1, (C10_bc_of_roundOK hp h2).2⟩

theorem C10_pos_neg_abs {s : Mpf} (hs : CanonFin s) {prec : ℤ} (hp : 0 < prec) (rnd : Rnd) :
    (bitcount (mpf_pos s prec rnd).man : ℤ) ≤ prec ∧ (bitcount (mpf_neg s prec rnd).man : ℤ) ≤ prec ∧
    (bitcount (mpf_abs s prec rnd).man : ℤ) ≤ prec :=
  ⟨(C10_bc_of_roundOK hp (mpf_pos_spec hs hp.le rnd)).2, (C10_bc_of_roundOK hp (mpf_neg_spec hs hp.le rnd)).2,
   (C10_bc_of_roundOK hp (mpf_abs_spec hs hp.le rnd)).2⟩

end Mp

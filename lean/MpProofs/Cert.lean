/-
  MpProofs/Cert.lean — the lemmas under the certificate checkers of MpModel/Cert.lean:
  evaluation of dyadics `Dy` in ℝ and Gaussian dyadics `G` in ℂ (ring homomorphisms, order),
  bounded sums / maxima, list matrices as Mathlib matrices (`toMat`), Frobenius norm, ∞-operator
  norm bounds and the Laplace determinant.
-/
import MpModel.Cert
import Mathlib.Analysis.Matrix.Normed
import Mathlib.Analysis.Complex.Norm
import Mathlib.Analysis.Real.Sqrt
import Mathlib.LinearAlgebra.Matrix.Determinant.Basic
import Mathlib.Tactic.Ring
import Mathlib.Tactic.Linarith
import Mathlib.Tactic.Positivity
import Mathlib.Tactic.NormNum

namespace Mp.Cert

namespace Dy

/-- the real number denoted by a dyadic -/
noncomputable def toReal (a : Dy) : ℝ := (a.man : ℝ) * (2:ℝ) ^ a.exp

@[simp] theorem toReal_zero : Dy.zero.toReal = 0 := by simp [toReal, zero]
@[simp] theorem toReal_one : Dy.one.toReal = 1 := by simp [toReal, one]
@[simp] theorem toReal_ofNat (n : ℕ) : (Dy.ofNat n).toReal = n := by simp [toReal, ofNat]
@[simp] theorem toReal_ofInt (n : ℤ) : (Dy.ofInt n).toReal = n := by simp [toReal, ofInt]
@[simp] theorem toReal_pow2 (e : ℤ) : (Dy.pow2 e).toReal = (2:ℝ) ^ e := by simp [toReal, pow2]

theorem two_zpow_split (x e : ℤ) (h : e ≤ x) :
    (2:ℝ) ^ x = (2:ℝ) ^ (x - e).toNat * (2:ℝ) ^ e := by
  rw [← zpow_natCast, Int.toNat_of_nonneg (by omega), ← zpow_add₀ (by norm_num)]
  congr 1; ring

/-! The operations of `Dy` occur in the model both as `Dy.add a b` and as `a + b`; the cast lemmas are
stated on the notation, which the other spelling is by `rfl` (`show`). -/

@[simp] theorem toReal_add (a b : Dy) : (a + b).toReal = a.toReal + b.toReal := by
  show (Dy.add a b).toReal = _
  have ha := two_zpow_split a.exp (min a.exp b.exp) (min_le_left _ _)
  have hb := two_zpow_split b.exp (min a.exp b.exp) (min_le_right _ _)
  unfold Dy.add toReal
  simp only
  conv_rhs => rw [ha, hb]
  push_cast
  ring

@[simp] theorem toReal_neg (a : Dy) : (-a).toReal = - a.toReal := by
  show (Dy.neg a).toReal = _
  simp [toReal, neg]

@[simp] theorem toReal_sub (a b : Dy) : (a - b).toReal = a.toReal - b.toReal := by
  show (a + -b).toReal = _
  rw [toReal_add, toReal_neg]; ring

@[simp] theorem toReal_mul (a b : Dy) : (a * b).toReal = a.toReal * b.toReal := by
  show (Dy.mul a b).toReal = _
  unfold Dy.mul toReal
  simp only
  rw [zpow_add₀ (by norm_num)]
  push_cast
  ring

@[simp] theorem toReal_sq (a : Dy) : (Dy.sq a).toReal = a.toReal ^ 2 := by
  show (a * a).toReal = _
  rw [toReal_mul]; ring

@[simp] theorem toReal_abs (a : Dy) : (Dy.abs a).toReal = |a.toReal| := by
  have h2 : (0:ℝ) < (2:ℝ) ^ a.exp := by positivity
  unfold Dy.abs toReal
  simp only
  rw [abs_mul, abs_of_pos h2, Int.natCast_natAbs]
  push_cast
  rfl

@[simp] theorem toReal_pow (a : Dy) (k : ℕ) : (Dy.pow a k).toReal = a.toReal ^ k := by
  induction k with
  | zero => simp [Dy.pow]
  | succ k ih =>
    show (Dy.pow a k * a).toReal = _
    rw [toReal_mul, ih, pow_succ]

theorem toReal_pos_iff (a : Dy) : 0 < a.toReal ↔ 0 < a.man := by
  rw [toReal, mul_pos_iff_of_pos_right (by positivity), Int.cast_pos]

theorem toReal_nonneg_iff (a : Dy) : 0 ≤ a.toReal ↔ 0 ≤ a.man := by
  rw [toReal, mul_nonneg_iff_of_pos_right (by positivity), Int.cast_nonneg_iff]

theorem le_iff (a b : Dy) : Dy.le a b = true ↔ a.toReal ≤ b.toReal := by
  show decide ((a - b).man ≤ 0) = true ↔ _
  rw [decide_eq_true_iff, ← not_lt, ← toReal_pos_iff, toReal_sub, sub_pos, not_lt]

theorem lt_iff (a b : Dy) : Dy.lt a b = true ↔ a.toReal < b.toReal := by
  show decide ((a - b).man < 0) = true ↔ _
  rw [decide_eq_true_iff, ← not_le, ← toReal_nonneg_iff, toReal_sub, sub_nonneg, not_le]

theorem le_eq_false_iff (a b : Dy) : Dy.le a b = false ↔ b.toReal < a.toReal := by
  rw [← not_le, ← le_iff, Bool.not_eq_true]

theorem lt_eq_false_iff (a b : Dy) : Dy.lt a b = false ↔ b.toReal ≤ a.toReal := by
  rw [← not_lt, ← lt_iff, Bool.not_eq_true]

theorem isZero_iff (a : Dy) : a.isZero = true ↔ a.toReal = 0 := by
  rw [Dy.isZero, decide_eq_true_iff, toReal, mul_eq_zero_iff_right (by positivity), Int.cast_eq_zero]

@[simp] theorem toReal_max (a b : Dy) : (Dy.max a b).toReal = Max.max a.toReal b.toReal := by
  unfold Dy.max
  by_cases h : Dy.le a b = true
  · rw [if_pos h, max_eq_right ((le_iff a b).1 h)]
  · rw [if_neg h]
    rw [Bool.not_eq_true, le_eq_false_iff] at h
    rw [max_eq_left h.le]

end Dy

namespace G

/-- the complex number denoted by a Gaussian dyadic -/
noncomputable def toC (a : G) : ℂ := ⟨a.re.toReal, a.im.toReal⟩

@[simp] theorem toC_re (a : G) : a.toC.re = a.re.toReal := rfl
@[simp] theorem toC_im (a : G) : a.toC.im = a.im.toReal := rfl

@[simp] theorem toC_zero : G.zero.toC = 0 := by
  apply Complex.ext <;> simp [G.zero]
@[simp] theorem toC_one : G.one.toC = 1 := by
  apply Complex.ext <;> simp [G.one]
@[simp] theorem toC_ofDy (a : Dy) : (G.ofDy a).toC = (a.toReal : ℂ) := by
  apply Complex.ext <;> simp [G.ofDy]

@[simp] theorem toC_add (a b : G) : (a + b).toC = a.toC + b.toC := by
  show (G.add a b).toC = _
  apply Complex.ext <;> simp [G.add]

@[simp] theorem toC_neg (a : G) : (-a).toC = - a.toC := by
  show (G.neg a).toC = _
  apply Complex.ext <;> simp [G.neg]

@[simp] theorem toC_sub (a b : G) : (a - b).toC = a.toC - b.toC := by
  show (G.sub a b).toC = _
  apply Complex.ext <;> simp [G.sub]

@[simp] theorem toC_mul (a b : G) : (a * b).toC = a.toC * b.toC := by
  show (G.mul a b).toC = _
  apply Complex.ext <;> simp [G.mul]

@[simp] theorem toC_conj (a : G) : (G.conj a).toC = (starRingEnd ℂ) a.toC := by
  apply Complex.ext <;> simp [G.conj]

@[simp] theorem toReal_normSq (a : G) : (G.normSq a).toReal = Complex.normSq a.toC := by
  simp [G.normSq, Complex.normSq_apply]

theorem norm_le_absU (a : G) : ‖a.toC‖ ≤ (G.absU a).toReal := by
  have := Complex.norm_le_abs_re_add_abs_im a.toC
  simpa [G.absU] using this

theorem absL_le_norm (a : G) : (G.absL a).toReal ≤ ‖a.toC‖ := by
  have h1 := Complex.abs_re_le_norm a.toC
  have h2 := Complex.abs_im_le_norm a.toC
  simpa [G.absL] using And.intro h1 h2

theorem isZero_iff (a : G) : a.isZero = true ↔ a.toC = 0 := by
  rw [G.isZero, Bool.and_eq_true, Dy.isZero_iff, Dy.isZero_iff, Complex.ext_iff]
  simp

theorem eqv_iff (a b : G) : G.eqv a b = true ↔ a.toC = b.toC := by
  rw [G.eqv, isZero_iff, toC_sub, sub_eq_zero]

theorem isReal_iff (a : G) : a.isReal = true ↔ a.toC.im = 0 := by
  rw [G.isReal, Dy.isZero_iff, toC_im]

end G

@[simp] theorem toC_sumG (k : ℕ) (f : ℕ → G) :
    (sumG k f).toC = ∑ l ∈ Finset.range k, (f l).toC := by
  induction k with
  | zero => simp [sumG]
  | succ k ih => rw [sumG, G.toC_add, ih, Finset.sum_range_succ]

@[simp] theorem toReal_sumD (k : ℕ) (f : ℕ → Dy) :
    (sumD k f).toReal = ∑ l ∈ Finset.range k, (f l).toReal := by
  induction k with
  | zero => simp [sumD]
  | succ k ih => rw [sumD, Dy.toReal_add, ih, Finset.sum_range_succ]

theorem maxD_nonneg (k : ℕ) (f : ℕ → Dy) : 0 ≤ (maxD k f).toReal := by
  induction k with
  | zero => simp [maxD]
  | succ k ih => rw [maxD, Dy.toReal_max]; exact le_max_of_le_left ih

theorem le_maxD {k : ℕ} {f : ℕ → Dy} {i : ℕ} (h : i < k) :
    (f i).toReal ≤ (maxD k f).toReal := by
  induction k with
  | zero => exact absurd h (Nat.not_lt_zero _)
  | succ k ih =>
    rw [maxD, Dy.toReal_max]
    rcases Nat.lt_succ_iff_lt_or_eq.1 h with h' | h'
    · exact le_max_of_le_left (ih h')
    · subst h'; exact le_max_right _ _

theorem maxD_le {k : ℕ} {f : ℕ → Dy} {B : ℝ} (hB : 0 ≤ B)
    (h : ∀ i, i < k → (f i).toReal ≤ B) : (maxD k f).toReal ≤ B := by
  induction k with
  | zero => simpa [maxD] using hB
  | succ k ih =>
    rw [maxD, Dy.toReal_max]
    exact max_le (ih fun i hi => h i (Nat.lt_succ_of_lt hi)) (h k (Nat.lt_succ_self k))

theorem allTo_iff (k : ℕ) (f : ℕ → Bool) : allTo k f = true ↔ ∀ i, i < k → f i = true := by
  induction k with
  | zero => simp [allTo]
  | succ k ih =>
    rw [allTo, Bool.and_eq_true, ih]
    constructor
    · rintro ⟨h1, h2⟩ i hi
      rcases Nat.lt_succ_iff_lt_or_eq.1 hi with h' | h'
      · exact h1 i h'
      · subst h'; exact h2
    · intro h
      exact ⟨fun i hi => h i (Nat.lt_succ_of_lt hi), h k (Nat.lt_succ_self k)⟩

theorem get_build {r c : ℕ} {f : ℕ → ℕ → G} {i j : ℕ} (hi : i < r) (hj : j < c) :
    get (build r c f) i j = f i j := by
  simp [get, build, List.getD_eq_getElem?_getD, hi, hj]

/-- the `r × c` complex matrix denoted by a list matrix (entries outside the lists are 0) -/
noncomputable def toMat (r c : ℕ) (M : Mat) : Matrix (Fin r) (Fin c) ℂ :=
  fun i j => (get M i j).toC

@[simp] theorem toMat_apply (r c : ℕ) (M : Mat) (i : Fin r) (j : Fin c) :
    toMat r c M i j = (get M i j).toC := rfl

theorem toMat_build (r c : ℕ) (f : ℕ → ℕ → G) :
    toMat r c (build r c f) = Matrix.of fun (i : Fin r) (j : Fin c) => (f i j).toC := by
  ext i j
  simp [get_build i.2 j.2]

theorem toMat_mmul (r k c : ℕ) (A B : Mat) :
    toMat r c (mmul r k c A B) = toMat r k A * toMat k c B := by
  ext i j
  rw [toMat_apply, mmul, get_build i.2 j.2, toC_sumG, Matrix.mul_apply, Finset.sum_range]
  simp only [G.toC_mul, toMat_apply]

theorem toMat_madd (r c : ℕ) (A B : Mat) :
    toMat r c (madd r c A B) = toMat r c A + toMat r c B := by
  ext i j
  simp [madd, get_build i.2 j.2]

theorem toMat_msub (r c : ℕ) (A B : Mat) :
    toMat r c (msub r c A B) = toMat r c A - toMat r c B := by
  ext i j
  simp [msub, get_build i.2 j.2]

theorem toMat_ident (n : ℕ) : toMat n n (ident n) = 1 := by
  ext i j
  by_cases h : i = j
  · subst h; simp [ident, get_build i.2 i.2]
  · have h' : (i : ℕ) ≠ j := fun e => h (Fin.ext e)
    simp [ident, get_build i.2 j.2, h, h']

theorem toMat_transpose (r c : ℕ) (A : Mat) :
    toMat c r (transpose r c A) = (toMat r c A).transpose := by
  ext i j
  simp [transpose, get_build i.2 j.2]

theorem toMat_conjT (r c : ℕ) (A : Mat) :
    toMat c r (conjT r c A) = (toMat r c A).conjTranspose := by
  ext i j
  simp [conjT, get_build i.2 j.2]

theorem toMat_mpow (n : ℕ) (A : Mat) (k : ℕ) : toMat n n (mpow n A k) = (toMat n n A) ^ k := by
  induction k with
  | zero => rw [mpow, toMat_ident, pow_zero]
  | succ k ih => rw [mpow, toMat_mmul, ih, pow_succ]

/-- Frobenius norm of a complex matrix -/
noncomputable def frob {r c : ℕ} (M : Matrix (Fin r) (Fin c) ℂ) : ℝ :=
  Real.sqrt (∑ i, ∑ j, Complex.normSq (M i j))

theorem toReal_frob2 (r c : ℕ) (M : Mat) :
    (frob2 r c M).toReal = ∑ i : Fin r, ∑ j : Fin c, Complex.normSq (toMat r c M i j) := by
  rw [frob2, toReal_sumD, Finset.sum_range]
  refine Finset.sum_congr rfl fun i _ => ?_
  rw [toReal_sumD, Finset.sum_range]
  exact Finset.sum_congr rfl fun j _ => G.toReal_normSq _

theorem frob_sum_nonneg {r c : ℕ} (M : Matrix (Fin r) (Fin c) ℂ) :
    0 ≤ ∑ i, ∑ j, Complex.normSq (M i j) :=
  Finset.sum_nonneg fun _ _ => Finset.sum_nonneg fun _ _ => Complex.normSq_nonneg _

theorem frob2_nonneg (r c : ℕ) (M : Mat) : 0 ≤ (frob2 r c M).toReal := by
  rw [toReal_frob2]; exact frob_sum_nonneg _

theorem frob_sq {r c : ℕ} (M : Matrix (Fin r) (Fin c) ℂ) :
    frob M ^ 2 = ∑ i, ∑ j, Complex.normSq (M i j) :=
  Real.sq_sqrt (frob_sum_nonneg M)

theorem frob_nonneg {r c : ℕ} (M : Matrix (Fin r) (Fin c) ℂ) : 0 ≤ frob M :=
  Real.sqrt_nonneg _

theorem sqrt_frob2 (r c : ℕ) (M : Mat) :
    Real.sqrt (frob2 r c M).toReal = frob (toMat r c M) := by
  rw [toReal_frob2, frob]

theorem toReal_tol2 (p : ℤ) : (tol2 p).toReal = ((2:ℝ) ^ (10 - p)) ^ 2 := by
  rw [tol2, Dy.toReal_pow2, ← zpow_natCast, ← zpow_mul]
  congr 1; push_cast; ring

theorem toReal_tol1 (p : ℤ) : (tol1 p).toReal = (2:ℝ) ^ (10 - p) := by
  rw [tol1, Dy.toReal_pow2]

theorem sqrt_tol2_mul (p : ℤ) (s : ℝ) :
    Real.sqrt ((tol2 p).toReal * s) = (2:ℝ) ^ (10 - p) * Real.sqrt s := by
  have ht : (0:ℝ) ≤ (2:ℝ) ^ (10 - p) := by positivity
  rw [toReal_tol2, Real.sqrt_mul (sq_nonneg _), Real.sqrt_sq ht]

theorem frobLe_sound {r c : ℕ} {p : ℤ} {M : Mat} {S : Dy} (h : frobLe r c p M S = true) :
    frob (toMat r c M) ≤ (2:ℝ) ^ (10 - p) * Real.sqrt S.toReal := by
  rw [frobLe, Dy.le_iff, Dy.toReal_mul] at h
  rw [← sqrt_frob2, ← sqrt_tol2_mul]
  exact Real.sqrt_le_sqrt h

theorem frobLe_iff {r c : ℕ} {p : ℤ} {M : Mat} {S : Dy} (hS : 0 ≤ S.toReal) :
    frobLe r c p M S = true ↔ frob (toMat r c M) ≤ (2:ℝ) ^ (10 - p) * Real.sqrt S.toReal := by
  rw [frobLe, Dy.le_iff, Dy.toReal_mul, ← sqrt_frob2, ← sqrt_tol2_mul,
    Real.sqrt_le_sqrt_iff (mul_nonneg (toReal_tol2 p ▸ sq_nonneg _) hS)]

section Linf

open scoped Matrix.Norms.Operator NNReal

theorem linf_le_iff {r c : ℕ} (A : Matrix (Fin r) (Fin c) ℂ) {B : ℝ} (hB : 0 ≤ B) :
    ‖A‖ ≤ B ↔ ∀ i, ∑ j, ‖A i j‖ ≤ B := by
  lift B to ℝ≥0 using hB
  rw [Matrix.linfty_opNorm_def, NNReal.coe_le_coe, Finset.sup_le_iff]
  refine forall_congr' fun i => ?_
  rw [← NNReal.coe_le_coe, NNReal.coe_sum]
  simp only [Finset.mem_univ, true_imp_iff, coe_nnnorm]

theorem row_le_linf {r c : ℕ} (A : Matrix (Fin r) (Fin c) ℂ) (i : Fin r) :
    ∑ j, ‖A i j‖ ≤ ‖A‖ :=
  (linf_le_iff A (norm_nonneg A)).1 le_rfl i

theorem linf_le_rowSumU (r c : ℕ) (M : Mat) : ‖toMat r c M‖ ≤ (rowSumU r c M).toReal := by
  refine (linf_le_iff _ (maxD_nonneg _ _)).2 fun i => ?_
  refine le_trans ?_ (le_maxD (f := fun i => sumD c fun j => (get M i j).absU) i.2)
  rw [toReal_sumD, Finset.sum_range]
  exact Finset.sum_le_sum fun j _ => G.norm_le_absU _

theorem rowSumL_le_linf (r c : ℕ) (M : Mat) : (rowSumL r c M).toReal ≤ ‖toMat r c M‖ := by
  refine maxD_le (norm_nonneg _) fun i hi => ?_
  refine le_trans ?_ (row_le_linf (toMat r c M) ⟨i, hi⟩)
  rw [toReal_sumD, Finset.sum_range]
  exact Finset.sum_le_sum fun j _ => G.absL_le_norm _

end Linf

theorem succAbove_val {n : ℕ} (j : Fin (n + 1)) (b : Fin n) :
    ((j.succAbove b : Fin (n + 1)) : ℕ) = if (b : ℕ) < j then (b : ℕ) else b + 1 := by
  unfold Fin.succAbove
  by_cases h : b.castSucc < j
  · have h' : (b : ℕ) < j := by simpa [Fin.lt_def] using h
    rw [if_pos h, if_pos h']; rfl
  · have h' : ¬ (b : ℕ) < j := by simpa [Fin.lt_def] using h
    rw [if_neg h, if_neg h']; rfl

theorem toMat_minor (n : ℕ) (M : Mat) (j : Fin (n + 1)) :
    toMat n n (minor n M j) = (toMat (n + 1) (n + 1) M).submatrix Fin.succ j.succAbove := by
  ext a b
  rw [toMat_apply, minor, get_build a.2 b.2, Matrix.submatrix_apply, toMat_apply, succAbove_val]
  rfl

theorem toC_detN (n : ℕ) (M : Mat) : (detN n M).toC = (toMat n n M).det := by
  induction n generalizing M with
  | zero => simp [detN]
  | succ n ih =>
    rw [detN, toC_sumG, Finset.sum_range, Matrix.det_succ_row_zero]
    refine Finset.sum_congr rfl fun j _ => ?_
    rw [G.toC_mul, ih, toMat_minor]
    congr 1
    rcases Nat.even_or_odd (j : ℕ) with he | ho
    · rw [if_pos (Nat.even_iff.1 he), he.neg_one_pow, one_mul]; rfl
    · have : ¬ (j : ℕ) % 2 = 0 := by rw [Nat.odd_iff.1 ho]; decide
      rw [if_neg this, ho.neg_one_pow, G.toC_neg]
      simp

end Mp.Cert

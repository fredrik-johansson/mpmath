/-
  Props/C26.lean — C26 (numerical integration), level: translation validation with a PROVED validator.

  The quantifier "for all integrands / intervals / precisions" is sampled: the harness runs the real
  `quad` / `quadts` / `quadgl` on members of the integrand families `Mp.Calc.Fam` (polynomials, `e^{cx}`,
  `sin cx`, `cos cx`, `x e^{cx}`, `e^{ax} cos bx`, `e^{ax} sin bx`, `1/(1+x²)`, `1/(x+c)`; separable products of
  these in 2 and 3 dimensions) and `Mp.Calc.FamInf` (`x^n e^{-x}` on (0,∞), `e^{-cx}` on (a,∞), Gaussians),
  reads the result exactly as a dyadic `y` and asks the compiled checker.  What is proved here:
    * the closed form used as reference IS the integral (Mathlib: FTC with the antiderivative checked by
      differentiation, Γ(n+1) = n!, the Gaussian integral);
    * a verdict `ok` / `violates` of the executable checker is a theorem about that integral:
      `|y − ∫| < 2^(10−p)·max(|∫|, 1)` ("relative or absolute error below 2^(10−p)") resp. its negation;
    * the driver logic (limit reversal, interior split points) over any additive rule: `Props/C26` imports
      `MpProofs/CalcLogicB` for `reverse_limits_neg`, `split_additive`;
    * the node cache never serves nodes of another `(a, b, degree, prec)`: `Mp.quadNodes_refines` (Props/C33).
  Not claimed: a theorem about tanh-sinh / Gauss-Legendre convergence; complex paths.
-/
import MpProofs.CalcFam
import MpProofs.CalcLogicB

namespace Mp
open Mp.Calc Mp.Encl MeasureTheory

/-- the 1-D closed form is the integral: `∫_a^b f = (f.integralRef a b).sem` for rational limits in either order -/
theorem C26_integral_1d (f : Fam) (a b : ℚ) (r : Ref) (h : f.integralRef a b = some r) :
    ∫ x in (a : ℝ)..(b : ℝ), f.fn x = r.sem :=
  Fam.integral_eq f a b r h

/-- infinite ranges: `∫_0^∞ x^n e^{-x} = n!`, `∫_a^∞ e^{-cx} = e^{-ca}/c`, `∫_ℝ e^{-bx²} = √(π/b)`,
`∫_0^∞ e^{-bx²} = √(π/b)/2` -/
theorem C26_integral_infinite (f : FamInf) (r : Ref) (h : f.integralRef = some r) :
    ∫ x in f.dom, f.fn x = r.sem :=
  FamInf.integral_eq f r h

/-- 2-D: the iterated integral (as `quad` nests it) of a separable integrand `c·f(x)·g(y)` over a rectangle -/
theorem C26_integral_2d (c : ℚ) (F G : Factor) (r : Ref) (h : sepIntegralRef c [F, G] = some r) :
    ∫ x in (F.a : ℝ)..(F.b : ℝ), ∫ y in (G.a : ℝ)..(G.b : ℝ), (c : ℝ) * (F.f.fn x * G.f.fn y) = r.sem := by
  simp only [sepIntegralRef, List.mapM_cons, List.mapM_nil, Option.pure_def, Option.bind_eq_bind] at h
  cases hF : F.f.integralRef F.a F.b with
  | none => simp [hF] at h
  | some rF =>
    cases hG : G.f.integralRef G.a G.b with
    | none => simp [hF, hG] at h
    | some rG =>
      simp only [hF, hG, Option.bind_some, Option.some.injEq] at h
      subst h
      simp only [Ref.sem, Ref.sem_prod, List.map_cons, List.map_nil, List.prod_cons, List.prod_nil, mul_one]
      rw [← Fam.integral_eq F.f F.a F.b rF hF, ← Fam.integral_eq G.f G.a G.b rG hG]
      simp only [intervalIntegral.integral_const_mul, intervalIntegral.integral_mul_const]

/-- 3-D: the iterated integral of `c·f(x)·g(y)·h(z)` over a cuboid -/
theorem C26_integral_3d (c : ℚ) (F G H : Factor) (r : Ref) (h : sepIntegralRef c [F, G, H] = some r) :
    ∫ x in (F.a : ℝ)..(F.b : ℝ), ∫ y in (G.a : ℝ)..(G.b : ℝ), ∫ z in (H.a : ℝ)..(H.b : ℝ),
      (c : ℝ) * (F.f.fn x * G.f.fn y * H.f.fn z) = r.sem := by
  simp only [sepIntegralRef, List.mapM_cons, List.mapM_nil, Option.pure_def, Option.bind_eq_bind] at h
  cases hF : F.f.integralRef F.a F.b with
  | none => simp [hF] at h
  | some rF =>
    cases hG : G.f.integralRef G.a G.b with
    | none => simp [hF, hG] at h
    | some rG =>
      cases hH : H.f.integralRef H.a H.b with
      | none => simp [hF, hG, hH] at h
      | some rH =>
        simp only [hF, hG, hH, Option.bind_some, Option.some.injEq] at h
        subst h
        simp only [Ref.sem, Ref.sem_prod, List.map_cons, List.map_nil, List.prod_cons, List.prod_nil, mul_one]
        rw [← Fam.integral_eq F.f F.a F.b rF hF, ← Fam.integral_eq G.f G.a G.b rG hG,
          ← Fam.integral_eq H.f H.a H.b rH hH]
        simp only [intervalIntegral.integral_const_mul, intervalIntegral.integral_mul_const]
        ring

/-- 1-D with a constant factor (the shape the driver ops `quadfin` / `quadinf` check) -/
theorem C26_integral_1d_scaled (c : ℚ) (F : Factor) (r : Ref) (h : sepIntegralRef c [F] = some r) :
    ∫ x in (F.a : ℝ)..(F.b : ℝ), (c : ℝ) * F.f.fn x = r.sem := by
  simp only [sepIntegralRef, List.mapM_cons, List.mapM_nil, Option.pure_def, Option.bind_eq_bind] at h
  cases hF : F.f.integralRef F.a F.b with
  | none => simp [hF] at h
  | some rF =>
    simp only [hF, Option.bind_some, Option.some.injEq] at h
    subst h
    simp only [Ref.sem, Ref.sem_prod, List.map_cons, List.map_nil, List.prod_cons, List.prod_nil, mul_one]
    rw [← Fam.integral_eq F.f F.a F.b rF hF, intervalIntegral.integral_const_mul]

/-- verdict `ok` of the checker in the mode used for C26 (`fl = 1`, strict): the dyadic `y` has
"relative or absolute error below `2^(k−p)`" w.r.t. the exact value `v` of the reference -/
theorem C26_checker_ok (r : Ref) (y : Dy) (p k : ℕ) (h : checkClose r y p k 1 true = .ok) :
    |y.val - r.sem| < (2 : ℝ) ^ ((k : ℤ) - (p : ℤ)) * max |r.sem| 1 := by
  have := (checkClose_sound_ok r y p k 1 true h).2 rfl
  simpa only [tol, Rat.cast_one] using this

/-- verdict `violates` ⇒ the error is NOT below the tolerance -/
theorem C26_checker_violates (r : Ref) (y : Dy) (p k : ℕ) (h : checkClose r y p k 1 true = .violates) :
    ¬ |y.val - r.sem| < (2 : ℝ) ^ ((k : ℤ) - (p : ℤ)) * max |r.sem| 1 := by
  have := (checkClose_sound_violates r y p k 1 true h).2 rfl
  simp only [tol, Rat.cast_one] at this
  exact not_lt.2 this

/-- the combined statement for a finite 1-D integral: checker `ok` on the family's closed form ⇒ the value
returned by `quad` is within the property's tolerance of the true integral -/
theorem C26_quadCheck_sound (f : Fam) (a b : ℚ) (r : Ref) (y : Dy) (p : ℕ)
    (hr : f.integralRef a b = some r) (h : checkClose r y p 10 1 true = .ok) :
    |y.val - ∫ x in (a : ℝ)..(b : ℝ), f.fn x| <
      (2 : ℝ) ^ ((10 : ℤ) - (p : ℤ)) * max |∫ x in (a : ℝ)..(b : ℝ), f.fn x| 1 := by
  rw [C26_integral_1d f a b r hr]
  simpa using C26_checker_ok r y p 10 h

/-- … and `violates` ⇒ it is not -/
theorem C26_quadCheck_violates (f : Fam) (a b : ℚ) (r : Ref) (y : Dy) (p : ℕ)
    (hr : f.integralRef a b = some r) (h : checkClose r y p 10 1 true = .violates) :
    ¬ |y.val - ∫ x in (a : ℝ)..(b : ℝ), f.fn x| <
      (2 : ℝ) ^ ((10 : ℤ) - (p : ℤ)) * max |∫ x in (a : ℝ)..(b : ℝ), f.fn x| 1 := by
  rw [C26_integral_1d f a b r hr]
  simpa using C26_checker_violates r y p 10 h

/-! ### driver logic of `QuadratureRule.summation` over an abstract rule (exact model `MpModel/CalcLogicB.lean`) -/

/-- `split_additive`: if the converged sub-interval result `rule a b` is additive (`rule a b + rule b c = rule a c`, as the exact
integral is), the driver's sum over consecutive pairs of `points` (skipping `a == b`) is `rule first last`: interior split points
and repeated points do not change the result -/
theorem C26_split_additive {X V : Type} [DecidableEq X] [AddCommGroup V] (rule : X → X → V)
    (h : ∀ a b c, rule a b + rule b c = rule a c) (a : X) (l : List X) :
    quadSum rule (a :: l) = rule a ((a :: l).getLast (List.cons_ne_nil _ _)) :=
  split_additive h a l

/-- `reverse_limits_neg`: reversing the list of points negates the driver's result -/
theorem C26_reverse_limits_neg {X V : Type} [DecidableEq X] [AddCommGroup V] (rule : X → X → V)
    (h : ∀ a b c, rule a b + rule b c = rule a c) (points : List X) :
    quadSum rule points.reverse = - quadSum rule points :=
  reverse_limits_neg h points

-- non-vacuity: rule a b = b² − a² on the points [0, 3, 3, 7, 2]
example : quadSum (fun a b : ℤ => b ^ 2 - a ^ 2) [0, 3, 3, 7, 2] = 4 := by decide


-- non-vacuity: ∫_0^1 x² dx = 1/3 against the 53-bit double nearest 1/3, and against 0.34
example : (Fam.poly [(1, 2)]).integralRef 0 1 ≠ none := by decide
example : checkClose (((Fam.poly [(1, 2)]).integralRef 0 1).getD (.rat 0)) ⟨6004799503160661, -54⟩ 53 10 1 true = .ok := by
  decide +kernel
example : checkClose (((Fam.poly [(1, 2)]).integralRef 0 1).getD (.rat 0)) ⟨17, -50 + 44⟩ 53 10 1 true = .violates := by
  decide +kernel

end Mp

/-
  MpProofs/IntervalMore.lean — containment for mpi_abs, mpi_square (over ℚ) and mpi_sqrt (over ℝ).
-/
import MpProofs.IntervalSound
import MpProofs.Sqrt

namespace Mp

theorem val_mpf_neg_exact {s : Mpf} (hs : CanonFin s) : CanonFin (mpf_neg s) ∧ val (mpf_neg s) = -val s := by
  have := mpf_neg_spec hs (le_refl 0) .d
  exact ⟨this.canon, this.exact⟩

/-- `|x|` for every `x` of the interval -/
theorem mpi_abs_sound {s : Mpi} (hs : FinIv s) {prec : ℤ} (hp : 0 ≤ prec) {x : ℚ} (hx : MemIv x s) :
    FinIv (mpi_abs s prec) ∧ MemIv |x| (mpi_abs s prec) := by
  obtain ⟨ha, hb, hab⟩ := hs
  obtain ⟨hx1, hx2⟩ := hx
  unfold mpi_abs
  dsimp only
  by_cases h1 : mpf_sign s.1 ≥ 0
  · rw [if_pos h1, abs_of_nonneg (((sign_nonneg_iff ha).1 h1).trans hx1)]
    exact encl_of_round hp (mpf_pos_spec ha hp .f) (mpf_pos_spec hb hp .c) hx1 hx2
  rw [if_neg h1]
  by_cases h2 : mpf_sign s.2 ≥ 0
  · -- the interval straddles zero: `[0, max(-a, b)]`
    obtain ⟨hnc, hnv⟩ := val_mpf_neg_exact ha
    rw [if_pos h2, mpf_lt_spec hnc hb, hnv]
    by_cases h3 : -val s.1 < val s.2
    · rw [if_pos (decide_eq_true h3)]
      exact encl_of_round hp (roundOK_fzero hp .f) (mpf_pos_spec hb hp .c) (abs_nonneg x)
        (abs_le.2 ⟨(neg_le.1 h3.le).trans hx1, hx2⟩)
    · have hb' := mpf_pos_spec hnc hp .c
      rw [hnv] at hb'
      rw [if_neg (mt of_decide_eq_true h3)]
      exact encl_of_round hp (roundOK_fzero hp .f) hb' (abs_nonneg x)
        (abs_le.2 ⟨(neg_neg _).le.trans hx1, hx2.trans (not_lt.1 h3)⟩)
  · have hb0 : val s.2 ≤ 0 := (not_le.1 (mt (sign_nonneg_iff hb).2 h2)).le
    rw [if_neg h2, abs_of_nonpos (hx2.trans hb0)]
    exact encl_of_round hp (mpf_neg_spec hb hp .f) (mpf_neg_spec ha hp .c) (neg_le_neg hx2) (neg_le_neg hx1)

/-- `x²` for every `x` of the interval -/
theorem mpi_square_sound {s : Mpi} (hs : FinIv s) {prec : ℤ} (hp : 0 ≤ prec) {x : ℚ} (hx : MemIv x s) :
    FinIv (mpi_square s prec) ∧ MemIv (x * x) (mpi_square s prec) := by
  obtain ⟨ha, hb, hab⟩ := hs
  obtain ⟨hx1, hx2⟩ := hx
  unfold mpi_square
  dsimp only
  rw [mpf_ge_spec ha canonFin_fzero, mpf_le_spec hb canonFin_fzero, val_fzero]
  by_cases h1 : val s.1 ≥ 0
  · have B := mul_bounds_nonneg (h1.trans hx1) hx1 hx2 hx1 hx2
    rw [if_pos (decide_eq_true h1)]
    exact encl_of_round hp (mpf_mul_spec ha ha hp .f) (mpf_mul_spec hb hb hp .c) (B.1.1 h1) (B.2.1 (h1.trans hab))
  rw [if_neg (mt of_decide_eq_true h1)]
  by_cases h2 : val s.2 ≤ 0
  · have B := mul_bounds_nonpos (hx2.trans h2) hx1 hx2 hx1 hx2
    rw [if_pos (decide_eq_true h2)]
    exact encl_of_round hp (mpf_mul_spec hb hb hp .f) (mpf_mul_spec ha ha hp .c) (B.1.2 h2) (B.2.2 (not_le.1 h1).le)
  · -- the interval straddles zero: `[0, m²]` with `m = max(-a, b)`, and `|x| ≤ m`
    obtain ⟨hnc, hnv⟩ := val_mpf_neg_exact ha
    obtain ⟨_, hmc, hmm, _, _⟩ := mpf_min_max_spec (mpf_neg s.1) [s.2] hnc (by simpa using hb)
    have hm1 := (hmm (mpf_neg s.1) (by simp)).2
    have hm2 := (hmm s.2 (by simp)).2
    rw [hnv] at hm1
    rw [if_neg (mt of_decide_eq_true h2)]
    exact encl_of_round hp (roundOK_fzero hp .f) (mpf_mul_spec hmc hmc hp .c) (mul_self_nonneg x)
      (mul_self_le_mul_self_of_le_of_neg_le (hx2.trans hm2) ((neg_le_neg hx1).trans hm1))

/-- `sqrt x` (real) for every `x` of a nonnegative interval -/
theorem mpi_sqrt_sound {s : Mpi} (hs : FinIv s) (hnn : 0 ≤ val s.1) {prec : ℤ} (hp : 0 < prec) {x : ℚ}
    (hx : MemIv x s) :
    ∃ r, mpi_sqrt s prec = .ok r ∧ CanonFin r.1 ∧ CanonFin r.2 ∧
      valR r.1 ≤ Real.sqrt (x : ℝ) ∧ Real.sqrt (x : ℝ) ≤ valR r.2 := by
  obtain ⟨ha, hb, hab⟩ := hs
  obtain ⟨hx1, hx2⟩ := hx
  have sign0 {t : Mpf} (ht : CanonFin t) (h0 : 0 ≤ val t) : t.sign = 0 := by
    rcases ht.cases with rfl | ⟨hm, hsg, _, _⟩
    · rfl
    · by_contra h
      exact absurd (val_neg_of_sign1 hm (by omega)) (not_lt.2 h0)
  have cast (t : Mpf) : valR t = ((val t : ℚ) : ℝ) := by simp [valR, valK, val]
  obtain ⟨r1, hr1, hc1, _, hround1⟩ := mpf_sqrt_spec ha (sign0 ha hnn) hp .f
  obtain ⟨r2, hr2, hc2, _, hround2⟩ := mpf_sqrt_spec hb (sign0 hb (hnn.trans hab)) hp .c
  refine ⟨(r1, r2), by unfold mpi_sqrt; rw [hr1, hr2]; rfl, hc1, hc2, ?_, ?_⟩
  · exact hround1.2.1.trans (Real.sqrt_le_sqrt (by rw [cast]; exact_mod_cast hx1))
  · exact (Real.sqrt_le_sqrt (by rw [cast]; exact_mod_cast hx2)).trans hround2.2.1

end Mp

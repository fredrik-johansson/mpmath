/-
  MpProofs/IntPart.lean — `mpf_round_int`, `mpf_floor/ceil/nint/frac`, `to_int`, `mpf_mod` (libmpf.py) against
  the mathematical floor / ceiling / round-half-even / remainder.
-/
import MpProofs.Add
import MpProofs.Faithful
import MpProofs.Cmp

namespace Mp

/-- `n` is `x` rounded to the nearest integer, ties to the even integer -/
def IsNint (x : ℚ) (n : ℤ) : Prop := |x - n| ≤ 1 / 2 ∧ (|x - n| = 1 / 2 → n % 2 = 0)

theorem IsNint.neg {x : ℚ} {n : ℤ} (h : IsNint x n) : IsNint (-x) (-n) := by
  have e : -x - ((-n : ℤ) : ℚ) = -(x - n) := by push_cast; ring
  refine ⟨by rw [e, abs_neg]; exact h.1, fun h' => ?_⟩
  rw [e, abs_neg] at h'
  have := h.2 h'
  omega

theorem eq_half_of_sum {a b d : ℚ} (ha : a ≤ 1 / 2) (hb : b ≤ 1 / 2) (h1 : 1 ≤ d) (h2 : d ≤ b + a) :
    d = 1 ∧ a = 1 / 2 ∧ b = 1 / 2 := by
  have hs : b + a ≤ 1 := (add_le_add hb ha).trans_eq (add_halves 1)
  have h3 : 1 / 2 + 1 / 2 ≤ b + a := (add_halves (1 : ℚ)).le.trans (h1.trans h2)
  exact ⟨le_antisymm (h2.trans hs) h1, le_antisymm ha (le_of_add_le_add_left (h3.trans (add_le_add_left hb a))),
    le_antisymm hb (le_of_add_le_add_right (h3.trans (add_le_add_right ha b)))⟩

/-- two distinct integers within one half of `x` would be the two candidates of a tie: one apart and both even -/
theorem IsNint.unique {x : ℚ} {n m : ℤ} (hn : IsNint x n) (hm : IsNint x m) : n = m := by
  by_contra hne
  have h1 : (1 : ℚ) ≤ |(n : ℚ) - m| := by exact_mod_cast Int.one_le_abs (sub_ne_zero.2 hne)
  have h2 : |(n : ℚ) - m| ≤ |x - m| + |x - n| := by
    rw [show (n : ℚ) - m = (x - m) - (x - n) by ring]; exact abs_sub _ _
  obtain ⟨hd, e1, e2⟩ := eq_half_of_sum hn.1 hm.1 h1 h2
  have hd' : |n - m| = 1 := by exact_mod_cast hd
  have p1 := hn.2 e1
  have p2 := hm.2 e2
  rcases (abs_eq (by norm_num)).1 hd' with h | h <;> omega

theorem isNint_of_le {x : ℚ} {n : ℤ} (h0 : (n : ℚ) ≤ x) (h : x - n ≤ 1 / 2) (he : x - n = 1 / 2 → n % 2 = 0) :
    IsNint x n := by
  unfold IsNint; rw [abs_of_nonneg (sub_nonneg.2 h0)]; exact ⟨h, he⟩

theorem isNint_of_ge {x : ℚ} {n : ℤ} (h0 : x ≤ (n : ℚ)) (h : n - x ≤ 1 / 2) (he : (n : ℚ) - x = 1 / 2 → n % 2 = 0) :
    IsNint x n := by
  unfold IsNint; rw [abs_sub_comm, abs_of_nonneg (sub_nonneg.2 h0)]; exact ⟨h, he⟩

theorem isNint_cell_lo {x : ℚ} {q : ℕ} (hle : (q : ℚ) ≤ x) (hc : x - q ≤ q + 1 - x)
    (he : x - q = q + 1 - x → q % 2 = 0) : IsNint x (q : ℤ) := by
  refine isNint_of_le ?_ ?_ fun h => ?_ <;> rw [Int.cast_natCast] at *
  · exact hle
  · linarith
  · have := he (by linarith); omega

theorem isNint_cell_hi {x : ℚ} {q : ℕ} (hlt : x ≤ (q : ℚ) + 1) (hc : q + 1 - x ≤ x - q)
    (he : x - q = q + 1 - x → q % 2 = 1) : IsNint x ((q : ℤ) + 1) := by
  refine isNint_of_ge ?_ ?_ fun h => ?_ <;> rw [Int.cast_add, Int.cast_natCast, Int.cast_one] at *
  · exact hlt
  · linarith
  · have := he (by linarith); omega

/-- the integer `n` is `x` rounded in the mode `rnd`: floor, ceiling or nearest-even, the three modes `mpf_round_int`
is used with (nothing is said for the other two) -/
def IsRoundInt (rnd : Rnd) (x : ℚ) (n : ℤ) : Prop :=
  match rnd with
  | .f => n = ⌊x⌋
  | .c => n = ⌈x⌉
  | .n => IsNint x n
  | _ => True

theorem IsRoundInt.neg {rnd : Rnd} {x : ℚ} {n : ℤ} (h : IsRoundInt (negativeRnd rnd) x n) :
    IsRoundInt rnd (-x) (-n) := by
  cases rnd <;> simp only [IsRoundInt, negativeRnd] at h ⊢
  · exact h.neg
  · rw [h, Int.floor_neg]
  · rw [h, Int.ceil_neg]

theorem isRoundInt_intCast (rnd : Rnd) (n : ℤ) : IsRoundInt rnd (n : ℚ) n := by
  cases rnd <;> simp only [IsRoundInt, Int.floor_intCast, Int.ceil_intCast]
  exact isNint_of_le (le_refl _) (by norm_num) (fun h => by norm_num at h)

section unit
variable {p : ℕ} (hp : 0 < p) {x : ℚ} (h1 : (2 : ℚ) ^ (p - 1) ≤ x) (h2 : x < 2 ^ p)
include hp h1 h2

theorem floor_cell : ∃ q : ℕ, ⌊x⌋ = (q : ℤ) ∧ 2 ^ (p - 1) ≤ q ∧ q < 2 ^ p ∧ (q : ℚ) ≤ x ∧ x < (q : ℚ) + 1 := by
  have hx0 : 0 ≤ x := le_trans (by positivity) h1
  obtain ⟨q, hq⟩ : ∃ q : ℕ, ⌊x⌋ = (q : ℤ) := ⟨⌊x⌋.toNat, by have := Int.floor_nonneg.2 hx0; omega⟩
  have hle : ((⌊x⌋ : ℤ) : ℚ) ≤ x := Int.floor_le x
  have hlt : x < ((⌊x⌋ : ℤ) : ℚ) + 1 := Int.lt_floor_add_one x
  rw [hq, Int.cast_natCast] at hle hlt
  refine ⟨q, hq, ?_, ?_, hle, hlt⟩
  · have : ((2 ^ (p - 1) : ℕ) : ℤ) ≤ ⌊x⌋ := by
      apply Int.le_floor.2; push_cast; exact h1
    rw [hq] at this; exact_mod_cast this
  · have : (q : ℚ) < 2 ^ p := lt_of_le_of_lt hle h2
    exact_mod_cast this

/-- the `p`-bit cell of `x` is the unit interval `[⌊x⌋, ⌊x⌋ + 1]`, so every mode rounds to one of its ends -/
theorem isRound_unit {rnd : Rnd} (hr : rnd = .f ∨ rnd = .c ∨ rnd = .n) {y : ℚ} (h : IsRound p rnd x y) :
    ∃ n : ℤ, y = (n : ℚ) ∧ IsRoundInt rnd x n := by
  obtain ⟨q, hq, hq1, hq2, hle, hlt⟩ := floor_cell hp h1 h2
  have hcq : x ≤ q → x = q := fun h => le_antisymm h hle
  have hceil : (q : ℚ) < x → ⌈x⌉ = (q : ℤ) + 1 := fun h => by
    rw [Int.ceil_eq_iff]; push_cast; constructor <;> linarith
  have cellF := isRoundF_of_cell (K := ℚ) hp hq1 hq2 (E := 0) (X := x)
  have cellC := isRoundC_of_cell (K := ℚ) hp hq1 hq2 (E := 0) (X := x)
  have lo := isRoundN_of_cell_lo (K := ℚ) hp hq1 hq2 (E := 0) (X := x)
  have hi := isRoundN_of_cell_hi (K := ℚ) hp hq1 hq2 (E := 0) (X := x)
  have tieE := isRoundN_of_cell_tie_even (K := ℚ) hp hq1 hq2 (E := 0) (X := x)
  have tieO := isRoundN_of_cell_tie_odd (K := ℚ) hp hq1 hq2 (E := 0) (X := x)
  simp only [zpow_zero, mul_one] at cellF cellC lo hi tieE tieO
  rcases hr with rfl | rfl | rfl <;> simp only [IsRound, IsRoundInt] at h ⊢
  · exact ⟨⌊x⌋, by rw [isRoundF_unique h (cellF hle hlt), hq]; simp, rfl⟩
  · refine ⟨⌈x⌉, ?_, rfl⟩
    rcases eq_or_lt_of_le hle with heq | hlt'
    · have hrep : Repb p x := by rw [← heq]; simpa using repb_nat (K := ℚ) hq2 0
      rw [isRoundC_unique h (isRoundC_self hrep), ← heq]; simp
    · rw [isRoundC_unique h (cellC hlt' hlt.le), hceil hlt']; simp
  · rcases lt_trichotomy (x - (q : ℚ)) ((q : ℚ) + 1 - x) with hc | hc | hc
    · exact ⟨q, by rw [isRoundN_unique h (lo hle hlt.le hc)]; simp, isNint_cell_lo hle hc.le fun h' => absurd h' hc.ne⟩
    · rcases Nat.mod_two_eq_zero_or_one q with he | ho
      · exact ⟨q, by rw [isRoundN_unique h (tieE hc he)]; simp, isNint_cell_lo hle hc.le fun _ => he⟩
      · exact ⟨q + 1, by rw [isRoundN_unique h (tieO hc ho)]; simp, isNint_cell_hi hlt.le hc.ge fun _ => ho⟩
    · exact ⟨q + 1, by rw [isRoundN_unique h (hi hle hlt.le hc)]; simp, isNint_cell_hi hlt.le hc.le fun h' => absurd h' hc.ne'⟩

end unit

theorem isRound_neg_of {p : ℕ} {rnd : Rnd} (hr : rnd = .f ∨ rnd = .c ∨ rnd = .n) {x y : ℚ} (h : IsRound p rnd (-x) y) :
    IsRound p (negativeRnd rnd) x (-y) := by
  rw [← neg_neg y] at h
  rcases hr with rfl | rfl | rfl
  exacts [isRoundF_neg.1 h, isRoundC_neg.1 h, isRoundN_neg.1 h]

/-- the contract of `mpf_round_int(s, rnd)`: a canonical result whose value is the integer `x` rounds to -/
def RoundIntOK (rnd : Rnd) (x : ℚ) (v : Mpf) : Prop :=
  CanonFin v ∧ ∃ n : ℤ, val v = (n : ℚ) ∧ IsRoundInt rnd x n

theorem val_fnone : val fnone = -1 := by simp [val, fnone]
theorem canonFin_fnone : CanonFin fnone := Or.inr ⟨by decide, by decide, by decide⟩

theorem isRoundInt_small {X : ℚ} (h0 : 0 < X) (h1 : X < 1) :
    IsRoundInt .f X 0 ∧ IsRoundInt .c X 1 ∧ (X ≤ 1 / 2 → IsRoundInt .n X 0) ∧ (1 / 2 < X → IsRoundInt .n X 1) := by
  refine ⟨?_, ?_, fun h => ?_, fun h => ?_⟩
  · exact (Int.floor_eq_iff.2 ⟨by simpa using h0.le, by simpa using h1⟩).symm
  · exact (Int.ceil_eq_iff.2 ⟨by simpa using h0, by simpa using h1.le⟩).symm
  · exact isNint_of_le (by simpa using h0.le) (by simpa using h) (fun _ => rfl)
  · exact isNint_of_ge (by simpa using h1.le) (by push_cast; linarith) (fun h' => by push_cast at h'; linarith)

/-- where a nonzero value of magnitude at most 0 lies relative to one half: the test `mag < 0 or man == 1` of the
nearest mode (an odd mantissa other than 1 is not a power of two) -/
theorem half_cases {m : ℕ} (hodd : m % 2 = 1) {e : ℤ} (hmag : e + bitcount m ≤ 0) :
    (e + bitcount m < 0 ∨ m = 1 → (m : ℚ) * 2 ^ e ≤ 1 / 2) ∧ (¬ (e + bitcount m < 0 ∨ m = 1) → 1 / 2 < (m : ℚ) * 2 ^ e) := by
  have hm0 : m ≠ 0 := by omega
  obtain ⟨hlo, hhi⟩ := mag_bounds m hm0 e
  have hE : (0 : ℚ) < 2 ^ e := by positivity
  have hhalf : (2 : ℚ) ^ (-1 : ℤ) = 1 / 2 := by norm_num
  constructor
  · rintro (h | rfl)
    · exact hhi.le.trans ((zpow_le_zpow_right₀ (by norm_num) (by omega)).trans_eq hhalf)
    · rw [bitcount_one] at hmag
      rw [Nat.cast_one, one_mul, ← hhalf]
      exact zpow_le_zpow_right₀ (by norm_num) (by omega)
  · intro h
    push Not at h
    have hpow : 2 ^ (bitcount m - 1) < m := by
      refine lt_of_le_of_ne (bitcount_le hm0) (fun heq => ?_)
      rcases Nat.eq_zero_or_pos (bitcount m - 1) with hz | hpos
      · rw [hz] at heq; exact h.2 heq.symm
      · have : 2 ∣ m := heq ▸ dvd_pow_self 2 hpos.ne'
        omega
    have hb := bitcount_pos hm0
    have : (2 : ℚ) ^ (e + bitcount m - 1) = ((2 ^ (bitcount m - 1) : ℕ) : ℚ) * 2 ^ e := by
      rw [Nat.cast_pow, Nat.cast_ofNat, ← zpow_natCast, ← zpow_add₀ (by norm_num)]; congr 1; omega
    have h2 : e + (bitcount m : ℤ) - 1 = -1 := by omega
    rw [← hhalf, ← h2, this]
    exact mul_lt_mul_of_pos_right (by exact_mod_cast hpow) hE

theorem mpf_round_int_spec {s : Mpf} (hs : CanonFin s) {rnd : Rnd} (hr : rnd = .f ∨ rnd = .c ∨ rnd = .n) :
    ∃ v, mpf_round_int s rnd = .ok v ∧ RoundIntOK rnd (val s) v := by
  unfold mpf_round_int
  simp only [hs.finite, Bool.false_eq_true, if_false]
  by_cases hexp : s.exp ≥ 0
  · simp only [hexp, if_true]
    obtain ⟨k, hk⟩ : ∃ k : ℕ, s.exp = k := ⟨s.exp.toNat, by omega⟩
    have hv : val s = (((-1) ^ s.sign * (s.man * 2 ^ k) : ℤ) : ℚ) := by
      rw [val_def, hk, zpow_natCast]; push_cast; ring
    exact ⟨s, rfl, hs, _, hv, by rw [hv]; exact isRoundInt_intCast rnd _⟩
  simp only [hexp, if_false]
  rcases hs.cases with rfl | ⟨hm0, hsg, hodd, hbc⟩
  · exact absurd (by simp [fzero]) hexp
  have hsg' : s.sign = 0 ∨ s.sign = 1 := by omega
  obtain ⟨hlo, hhi⟩ := mag_bounds s.man hm0 s.exp
  have hXpos : (0 : ℚ) < (s.man : ℚ) * 2 ^ s.exp := by
    have : (0 : ℚ) < s.man := by exact_mod_cast Nat.pos_of_ne_zero hm0
    positivity
  rw [val_def]
  by_cases hmag : s.exp + s.bc < 1
  · simp only [hmag, if_true]
    obtain ⟨hle, hgt⟩ := half_cases hodd (e := s.exp) (by omega)
    rw [← hbc] at hhi hle hgt
    generalize (s.man : ℚ) * 2 ^ s.exp = X at hhi hle hgt hXpos
    have hX1 : X < 1 := lt_of_lt_of_le hhi (zpow_le_one_of_nonpos₀ (by norm_num) (by omega))
    obtain ⟨fl, ce, nlo, nhi⟩ := isRoundInt_small hXpos hX1
    rcases hr with rfl | rfl | rfl <;> rcases hsg' with h0 | h0 <;>
      simp only [h0, pow_zero, pow_one, one_mul, neg_one_mul, ne_eq, not_true_eq_false, one_ne_zero,
        not_false_eq_true, if_true, if_false]
    · exact ⟨fzero, rfl, canonFin_fzero, 0, by simp [val_fzero], fl⟩
    · exact ⟨fnone, rfl, canonFin_fnone, -1, by simp [val_fnone], IsRoundInt.neg (rnd := .f) ce⟩
    · exact ⟨fone, rfl, canonFin_fone, 1, by simp [val_fone], ce⟩
    · exact ⟨fzero, rfl, canonFin_fzero, 0, by simp [val_fzero], by simpa using IsRoundInt.neg (rnd := .c) fl⟩
    · by_cases hz : s.exp + s.bc < 0 ∨ s.man = 1 <;> simp only [hz, if_true, if_false]
      · exact ⟨fzero, rfl, canonFin_fzero, 0, by simp [val_fzero], nlo (hle hz)⟩
      · exact ⟨fone, rfl, canonFin_fone, 1, by simp [val_fone], nhi (hgt hz)⟩
    · by_cases hz : s.exp + s.bc < 0 ∨ s.man = 1 <;> simp only [hz, if_true, if_false]
      · exact ⟨fzero, rfl, canonFin_fzero, 0, by simp [val_fzero], by simpa using IsRoundInt.neg (rnd := .n) (nlo (hle hz))⟩
      · exact ⟨fnone, rfl, canonFin_fnone, -1, by simp [val_fnone], IsRoundInt.neg (rnd := .n) (nhi (hgt hz))⟩
  · -- |x| ≥ 1: round to `mag` bits, that is to an integer
    simp only [hmag, if_false]
    rw [min_eq_right (by omega)]
    obtain ⟨pn, hpn⟩ : ∃ pn : ℕ, s.exp + s.bc = pn := ⟨(s.exp + s.bc).toNat, by omega⟩
    have hpn0 : 0 < pn := by omega
    have hspec := mpf_pos_spec hs (show 0 ≤ (pn : ℤ) by omega) rnd
    rw [hpn]
    refine ⟨_, rfl, hspec.1, ?_⟩
    obtain ⟨hround, _⟩ := hspec.2.2 (by omega)
    rw [Int.toNat_natCast, val_def] at hround
    rw [← hbc, show s.exp + s.bc - 1 = ((pn - 1 : ℕ) : ℤ) by omega, zpow_natCast] at hlo
    rw [← hbc, hpn, zpow_natCast] at hhi
    generalize val (mpf_pos s (pn : ℤ) rnd) = y at hround ⊢
    generalize (s.man : ℚ) * 2 ^ s.exp = X at hlo hhi hround ⊢
    rcases hsg' with h0 | h0 <;> rw [h0] at hround ⊢
    · rw [pow_zero, one_mul] at hround ⊢
      exact isRound_unit hpn0 hlo hhi hr hround
    · rw [pow_one, neg_one_mul] at hround ⊢
      obtain ⟨n, hn, hN⟩ := isRound_unit hpn0 hlo hhi (by rcases hr with rfl | rfl | rfl <;> simp [negativeRnd])
        (isRound_neg_of hr hround)
      exact ⟨-n, by rw [Int.cast_neg, ← hn, neg_neg], hN.neg⟩

/-- `mpf_floor`, `mpf_ceil` and `mpf_nint` are `mpf_round_int` in their mode followed, when `prec ≠ 0`, by one rounding -/
theorem round_int_then_pos {s : Mpf} (hs : CanonFin s) {rnd0 : Rnd} (hr : rnd0 = .f ∨ rnd0 = .c ∨ rnd0 = .n)
    {prec : Int} (hp : 0 ≤ prec) (rnd : Rnd) :
    ∃ r n, (do let v ← mpf_round_int s rnd0; pure (if prec ≠ 0 then mpf_pos v prec rnd else v)) = .ok r ∧
      IsRoundInt rnd0 (val s) n ∧ RoundOK prec rnd (n : ℚ) r := by
  obtain ⟨v, hv, hc, n, hval, hn⟩ := mpf_round_int_spec hs hr
  rw [hv]
  by_cases h0 : prec = 0
  · subst h0
    exact ⟨v, n, by simp [bind, Except.bind, pure, Except.pure], hn, roundOK_zero hc hval⟩
  · refine ⟨mpf_pos v prec rnd, n, by simp [bind, Except.bind, pure, Except.pure, h0], hn, ?_⟩
    rw [← hval]; exact mpf_pos_spec hc hp rnd

theorem mpf_floor_spec {s : Mpf} (hs : CanonFin s) {prec : Int} (hp : 0 ≤ prec) (rnd : Rnd) :
    ∃ r, mpf_floor s prec rnd = .ok r ∧ RoundOK prec rnd ((⌊val s⌋ : ℤ) : ℚ) r := by
  obtain ⟨r, n, hr, rfl, hok⟩ := round_int_then_pos hs (rnd0 := .f) (Or.inl rfl) hp rnd
  exact ⟨r, hr, hok⟩

theorem mpf_ceil_spec {s : Mpf} (hs : CanonFin s) {prec : Int} (hp : 0 ≤ prec) (rnd : Rnd) :
    ∃ r, mpf_ceil s prec rnd = .ok r ∧ RoundOK prec rnd ((⌈val s⌉ : ℤ) : ℚ) r := by
  obtain ⟨r, n, hr, rfl, hok⟩ := round_int_then_pos hs (rnd0 := .c) (Or.inr (Or.inl rfl)) hp rnd
  exact ⟨r, hr, hok⟩

theorem mpf_nint_spec {s : Mpf} (hs : CanonFin s) {prec : Int} (hp : 0 ≤ prec) (rnd : Rnd) :
    ∃ r n, mpf_nint s prec rnd = .ok r ∧ IsNint (val s) n ∧ RoundOK prec rnd (n : ℚ) r :=
  round_int_then_pos hs (rnd0 := .n) (Or.inr (Or.inr rfl)) hp rnd

/-- `frac(x) = x - floor(x)`, rounded once -/
theorem mpf_frac_spec {s : Mpf} (hs : CanonFin s) {prec : Int} (hp : 0 ≤ prec) (rnd : Rnd) :
    ∃ r, mpf_frac s prec rnd = .ok r ∧ RoundOK prec rnd (val s - ((⌊val s⌋ : ℤ) : ℚ)) r := by
  obtain ⟨v, hv, hok⟩ := mpf_floor_spec hs (le_refl 0) .d
  have hval : val v = ((⌊val s⌋ : ℤ) : ℚ) := hok.exact
  unfold mpf_frac
  rw [hv]
  refine ⟨mpf_sub s v prec rnd, by simp [bind, Except.bind, pure, Except.pure], ?_⟩
  rw [← hval]; exact mpf_sub_spec hs hok.1 hp rnd

theorem frac_range (x : ℚ) : 0 ≤ x - ((⌊x⌋ : ℤ) : ℚ) ∧ x - ((⌊x⌋ : ℤ) : ℚ) < 1 := by
  have h1 := Int.floor_le x
  have h2 := Int.lt_floor_add_one x
  constructor <;> linarith

/-- truncation toward zero of a rational -/
def truncQ (x : ℚ) : ℤ := if 0 ≤ x then ⌊x⌋ else ⌈x⌉

theorem truncQ_intCast (n : ℤ) : truncQ n = n := by
  unfold truncQ; split <;> simp

theorem truncQ_neg (x : ℚ) : truncQ (-x) = -truncQ x := by
  unfold truncQ
  rcases lt_trichotomy x 0 with h | rfl | h
  · rw [if_pos (by linarith), if_neg (by linarith), Int.floor_neg]
  · simp
  · rw [if_neg (by linarith), if_pos h.le, Int.ceil_neg]

theorem truncQ_natCast_div (m d : ℕ) : truncQ ((m : ℚ) / (d : ℚ)) = ((m / d : ℕ) : ℤ) := by
  unfold truncQ
  rw [if_pos (by positivity), Rat.floor_natCast_div_natCast]; norm_cast

theorem CanonFin.sign_le {s : Mpf} (hs : CanonFin s) : s.sign ≤ 1 := by
  rcases hs.cases with rfl | ⟨_, h, _⟩
  · exact Nat.zero_le 1
  · exact h

theorem to_int_spec {s : Mpf} (hs : CanonFin s) : to_int s none = .ok (truncQ (val s)) := by
  have hsg : s.sign = 0 ∨ s.sign = 1 := by have := hs.sign_le; omega
  unfold to_int
  simp only [hs.finite, Bool.false_eq_true, if_false]
  rw [val_def]
  by_cases hexp : s.exp ≥ 0
  · obtain ⟨k, hk⟩ : ∃ k : ℕ, s.exp = k := ⟨s.exp.toNat, by omega⟩
    simp only [hk, Int.toNat_natCast, zpow_natCast]
    rcases hsg with h | h <;>
      simp only [h, ne_eq, not_true_eq_false, one_ne_zero, not_false_eq_true, if_true, if_false]
    · rw [← truncQ_intCast (ishl _ k), ishl_cast]; simp
    · rw [← truncQ_intCast (ishl _ k), ishl_cast]; simp
  · obtain ⟨k, hk⟩ : ∃ k : ℕ, -s.exp = k := ⟨(-s.exp).toNat, by omega⟩
    have hE : (s.man : ℚ) * 2 ^ s.exp = (s.man : ℚ) / ((2 ^ k : ℕ) : ℚ) := by
      rw [show s.exp = -(k : ℤ) by omega, zpow_neg, zpow_natCast]; push_cast; ring
    simp only [hexp, if_false, hk, Int.toNat_natCast, Nat.shiftRight_eq_div_pow, hE]
    rcases hsg with h | h <;>
      simp only [h, ne_eq, not_true_eq_false, one_ne_zero, not_false_eq_true, if_true, if_false, pow_zero, pow_one,
        one_mul, neg_one_mul]
    · rw [truncQ_natCast_div]
    · rw [truncQ_neg, truncQ_natCast_div]

theorem fdiv_eq_floor (a b : ℤ) (hb : b ≠ 0) : (Int.fdiv a b : ℤ) = ⌊(a : ℚ) / (b : ℚ)⌋ := by
  have pos : ∀ a b : ℤ, 0 < b → Int.fdiv a b = ⌊(a : ℚ) / (b : ℚ)⌋ := fun a b hb => by
    obtain ⟨d, rfl⟩ := Int.eq_ofNat_of_zero_le hb.le
    rw [Int.fdiv_eq_ediv_of_nonneg a hb.le, Int.cast_natCast, Rat.floor_intCast_div_natCast]
  rcases lt_or_gt_of_ne hb with h | h
  · rw [← Int.neg_fdiv_neg, pos (-a) (-b) (by omega)]; push_cast; rw [neg_div_neg_eq]
  · exact pos a b h

theorem fmod_eq_sub_floor (a b : ℤ) (hb : b ≠ 0) :
    ((Int.fmod a b : ℤ) : ℚ) = (a : ℚ) - (b : ℚ) * ((⌊(a : ℚ) / (b : ℚ)⌋ : ℤ) : ℚ) := by
  rw [← fdiv_eq_floor a b hb, Int.fmod_def]; push_cast; ring

/-- the exact remainder with the sign of the divisor -/
def modQ (x y : ℚ) : ℚ := x - y * ((⌊x / y⌋ : ℤ) : ℚ)

theorem modQ_eq_self {x y : ℚ} (h0 : 0 ≤ x / y) (h1 : x / y < 1) : modQ x y = x := by
  unfold modQ; rw [Int.floor_eq_zero_iff.2 ⟨h0, h1⟩]; simp

theorem modQ_eq_zero {x y : ℚ} (hy : y ≠ 0) (n : ℤ) (h : x = n * y) : modQ x y = 0 := by
  unfold modQ; rw [h, mul_div_assoc, div_self hy, mul_one, Int.floor_intCast]; ring

/-- the signed mantissa as `mpf_mod` computes it -/
theorem manZ_eq_mod {s : Mpf} (hs : s.sign ≤ 1) :
    (if s.sign % 2 = 0 then (s.man : ℤ) else -(s.man : ℤ)) = manZ s := by
  have : s.sign = 0 ∨ s.sign = 1 := by omega
  rcases this with h | h <;> simp [manZ, h]

theorem CanonFin.mag_lt {s : Mpf} (hs : CanonFin s) : (s.man : ℚ) * 2 ^ s.exp < 2 ^ (s.exp + s.bc) := by
  rcases hs.cases with rfl | ⟨hm, _, _, hb⟩
  · simp [fzero]
  · rw [hb]; exact (mag_bounds s.man hm s.exp).2

theorem mpf_mod_spec {s t : Mpf} (hs : CanonFin s) (ht : CanonFin t) (ht0 : t ≠ fzero) {prec : Int}
    (hp : 0 < prec) (rnd : Rnd) :
    ∃ r, mpf_mod s t prec rnd = .ok r ∧ RoundOK prec rnd (modQ (val s) (val t)) r := by
  rcases ht.cases with rfl | ⟨htm, hts, hto, htb⟩
  · exact absurd rfl ht0
  have hss := hs.sign_le
  have htpos : (0 : ℚ) < (t.man : ℚ) * 2 ^ t.exp := by
    have : (0 : ℚ) < t.man := by exact_mod_cast Nat.pos_of_ne_zero htm
    positivity
  have hvt0 : val t ≠ 0 := by rw [val_def]; exact mul_ne_zero (pow_ne_zero _ (by norm_num)) htpos.ne'
  unfold mpf_mod
  simp only [hs.finite, ht.finite, Bool.false_eq_true, or_self, if_false, htm]
  by_cases hb1 : s.sign = t.sign ∧ t.exp > s.exp + s.bc
  · -- |s| < |t| with equal signs: the quotient floors to 0
    simp only [hb1, and_self, if_true]
    refine ⟨_, rfl, ?_⟩
    have hratio : val s / val t = ((s.man : ℚ) * 2 ^ s.exp) / ((t.man : ℚ) * 2 ^ t.exp) := by
      rw [val_def, val_def, hb1.1, mul_div_mul_left _ _ (pow_ne_zero _ (by norm_num))]
    rw [modQ_eq_self (by rw [hratio]; positivity) ?_]
    · exact mpf_pos_spec hs hp.le rnd
    · rw [hratio, div_lt_one htpos]
      calc (s.man : ℚ) * 2 ^ s.exp < 2 ^ (s.exp + s.bc) := hs.mag_lt
        _ ≤ 2 ^ t.exp := zpow_le_zpow_right₀ (by norm_num) (by omega)
        _ ≤ (t.man : ℚ) * 2 ^ t.exp :=
          le_mul_of_one_le_left (by positivity) (by exact_mod_cast Nat.pos_of_ne_zero htm)
  simp only [hb1, if_false]
  by_cases hb2 : t.man = 1 ∧ s.exp > t.exp + t.bc
  · -- power-of-two divisor far below: the dividend is an integer multiple of it
    simp only [hb2, and_self, if_true]
    refine ⟨fzero, rfl, ?_⟩
    obtain ⟨k, hk⟩ : ∃ k : ℕ, s.exp = t.exp + k := ⟨(s.exp - t.exp).toNat, by rw [htb, hb2.1, bitcount_one] at hb2; omega⟩
    have hunit : (manZ t : ℚ) * manZ t = 1 := by
      have : manZ t * manZ t = 1 := by unfold manZ; rw [hb2.1]; split <;> simp
      exact_mod_cast this
    rw [modQ_eq_zero hvt0 (manZ s * manZ t * 2 ^ k)]
    · exact roundOK_fzero hp.le rnd
    · rw [val_eq_manZ hss, val_eq_manZ hts, hk, zpow_add₀ (by norm_num), zpow_natCast]
      push_cast
      calc _ = (manZ s : ℚ) * ((manZ t : ℚ) * manZ t) * (2 ^ t.exp * 2 ^ k) := by rw [hunit]; ring
        _ = _ := by ring
  simp only [hb2, if_false]
  -- general case: exact integer remainder on the common exponent
  set base := min s.exp t.exp with hbase
  obtain ⟨ks, hks⟩ : ∃ k : ℕ, s.exp = base + k := ⟨(s.exp - base).toNat, by have := min_le_left s.exp t.exp; omega⟩
  obtain ⟨kt, hkt⟩ : ∃ k : ℕ, t.exp = base + k := ⟨(t.exp - base).toNat, by have := min_le_right s.exp t.exp; omega⟩
  rw [manZ_eq_mod hss, manZ_eq_mod hts, show s.exp - base = ks by omega, show t.exp - base = kt by omega,
    Int.toNat_natCast, Int.toNat_natCast]
  have hvs : val s = ((ishl (manZ s) ks : ℤ) : ℚ) * 2 ^ base := by
    rw [val_eq_manZ hss, ishl_cast, hks, zpow_add₀ (by norm_num), zpow_natCast]; ring
  have hvt : val t = ((ishl (manZ t) kt : ℤ) : ℚ) * 2 ^ base := by
    rw [val_eq_manZ hts, ishl_cast, hkt, zpow_add₀ (by norm_num), zpow_natCast]; ring
  have hb0 : ishl (manZ t) kt ≠ 0 := fun h0 => hvt0 (by rw [hvt, h0]; simp)
  generalize ishl (manZ s) ks = a at hvs ⊢
  generalize ishl (manZ t) kt = b at hvt hb0 ⊢
  simp only [hb0, if_false]
  refine ⟨_, rfl, ?_⟩
  have hmod : modQ (val s) (val t) = ((Int.fmod a b : ℤ) : ℚ) * 2 ^ base := by
    unfold modQ
    rw [hvs, hvt, mul_div_mul_right _ _ (by positivity : (2 : ℚ) ^ base ≠ 0), fmod_eq_sub_floor a b hb0]; ring
  rw [hmod]
  have hsign : (if Int.fmod a b ≥ 0 then 0 else 1 : ℕ) ≤ 1 := by split <;> omega
  have := normalize_spec hsign (Int.fmod a b).natAbs base hp rnd
  rwa [← mul_assoc, neg_one_pow_mul_natAbs] at this

end Mp

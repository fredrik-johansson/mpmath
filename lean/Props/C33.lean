/-
  Props/C33.lean — "Cached state never leaks stale or wrong results into later calls".

  For each cache C of MpModel/Cache.lean memoising a pure function F:
    C_invariant   the state invariant holds after EVERY history of requests (any arguments, any
                  precisions, in any order, any of them aborted at any crash point);
    C_refines     after every history, the answer to every probe is `F probe` (exact-key caches) or
                  `F` at a precision `≥` the requested one, shifted / rounded down exactly as the code
                  does it (precision-monotone caches);
    C_abort_safe  a request aborted at a crash point leaves a state satisfying the invariant.
  Where the code does NOT have the property the negation is proved on a witness
  (`…_counterexample`) and the statement that does hold is named `…_partial`.
-/
import MpProofs.Cache
import MpProofs.CacheOld

namespace Mp
open Mp.Cache

/-! ### constant_memo -/

/-- In every reachable state of a `constant_memo` cache (any history, with aborted calls) the cached
value is `F memo_prec`, or the cache is empty. -/
theorem constantMemo_invariant (F : Nat → Int) (np : Nat → Nat) (h : List (Nat × Bool)) :
    MemoInv F (memoAfter F np memoInit h) :=
  (memoAfter_invH F np h).toInv

/-- After every history `h`, a probe at `prec` returns `F P >> (P - prec)` for a `P ≥ prec` that is
`newprec prec` or `newprec q` of a completed earlier request `q` — exactly the value the code computes
from a value of `F` that is at least as precise as requested.
Hypothesis `hnp` is `prec ≤ int(prec*1.05+10)` (`Cache.le_newprec` proves it of the binary64 model
`newprec`; the harness validates `newprec` against CPython for every `prec ≤ 10^6`). -/
theorem constantMemo_refines (F : Nat → Int) (np : Nat → Nat) (hnp : ∀ p, p ≤ np p)
    (h : List (Nat × Bool)) (prec : Nat) :
    ∃ P : Nat, prec ≤ P ∧ (P = np prec ∨ ∃ q, (q, false) ∈ h ∧ P = np q) ∧
      (memoReq F np (memoAfter F np memoInit h) prec false).2 = .ok (shr (F P) (P - prec)) :=
  memoReq_answer F np hnp h _ prec (memoAfter_invH F np h)

/-- `prec ≤ int(prec*1.05+10)` in the binary64 model; the bound on `p` is not needed (`Cache.le_newprec`). -/
theorem newprec_ge_small : ∀ p < 4200, p ≤ newprec p := fun p _ => le_newprec p

example : newprec 53 = 65 ∧ newprec 1000 = 1060 ∧ newprec 0 = 10 := by decide +kernel

/-- A call whose computation `f(newprec)` raises leaves `memo_prec` / `memo_val` untouched. -/
theorem constantMemo_abort_safe (F : Nat → Int) (np : Nat → Nat) (h : List (Nat × Bool)) (prec : Nat) :
    (memoReq F np (memoAfter F np memoInit h) prec true).1 = memoAfter F np memoInit h ∧
    MemoInv F (memoReq F np (memoAfter F np memoInit h) prec true).1 := by
  rw [memoReq_fault_state]
  exact ⟨rfl, constantMemo_invariant F np h⟩

/-- Read / compute / write one by one: abandoning a request after ANY number `k` of micro-steps
leaves the invariant intact, except in the gap between the assignments `f.memo_val = …` and
`f.memo_prec = …` (program point `wroteVal`), where no call — hence no exception — can occur. -/
theorem constantMemo_abort_safe_micro (F : Nat → Int) (np : Nat → Nat) (h : List (Nat × Bool))
    (prec k : Nat) :
    (memoMicroN F np k (memoAfter F np memoInit h, .start prec)).2.safe →
    MemoInv F (memoMicroN F np k (memoAfter F np memoInit h, .start prec)).1 :=
  fun hs => (memoMicroN_ok F np k (memoAfter F np memoInit h, .start prec)
    (show MemoCfgOK F (memoAfter F np memoInit h, .start prec) from constantMemo_invariant F np h)).inv_of_safe hs

/-- the micro-step machine is the big-step request -/
theorem constantMemo_micro_eq_big (F : Nat → Int) (np : Nat → Nat) (s : MemoState) (prec : Nat) :
    memoMicroN F np 5 (s, .start prec) =
      ((memoReq F np s prec false).1, .done (memoReq F np s prec false).2) := by
  by_cases hle : (prec : Int) ≤ s.memo_prec
  · cases hv : s.memo_val with
    | none => simp [memoMicroN, memoMicro, memoReq, hle, hv]
    | some v => simp [memoMicroN, memoMicro, memoReq, hle, hv]
  · by_cases hlt : np prec < prec <;> simp [memoMicroN, memoMicro, memoReq, hle, hlt]

/-- An asynchronous interruption in the gap between the two assignments (outside the property's
crash-point quantifier) does break the invariant: new value, old precision. -/
theorem constantMemo_async_counterexample :
    ∃ (F : Nat → Int) (np : Nat → Nat) (prec k : Nat),
      ¬ MemoInv F (memoMicroN F np k (memoInit, .start prec)).1 := by
  refine ⟨fun P => P, fun p => p + 10, 5, 4, ?_⟩
  intro h
  rcases h with ⟨_, h2⟩ | ⟨P, h1, _⟩
  · simp [memoMicroN, memoMicro, memoInit] at h2
  · simp [memoMicroN, memoMicro, memoInit] at h1

/-! ### log_int_cache -/

/-- Every entry of `log_int_cache` after every history is `(F n vprec, vprec)` with `n < 2000`. -/
theorem logInt_invariant (F : Nat → Nat → Int) (h : List (Nat × Nat × Bool)) :
    ∀ n v vp, logIntAfter F FMap.empty h n = some (v, vp) → v = F n vp ∧ n < MAX_LOG_INT_CACHE :=
  fun n v vp e => let ⟨a, b, _⟩ := logIntAfter_inv F h n (v, vp) e; ⟨a, b⟩

/-- After every history, `log_int_fixed(n, prec)` returns `F n wp >> (wp - prec)` where the working
precision `wp ≥ prec` is `prec + 10` or `q + 10` for a completed earlier request `(n, q)`. -/
theorem logInt_refines (F : Nat → Nat → Int) (h : List (Nat × Nat × Bool)) (n prec : Nat) :
    ∃ (w : Served) (wp : Nat), prec ≤ wp ∧ (wp = prec + 10 ∨ ∃ q, (n, q, false) ∈ h ∧ wp = q + 10) ∧
      (logIntReq F (logIntAfter F FMap.empty h) n prec false).2 = .ok (w, shr (F n wp) (wp - prec)) :=
  logIntReq_answer F h _ n prec (logIntAfter_inv F h)

theorem logInt_abort_safe (F : Nat → Nat → Int) (s : LogIntState) (n prec : Nat) :
    (logIntReq F s n prec true).1 = s :=
  logIntReq_fault_state F s n prec

/-- If `F n ·` is shift-stable (e.g. a true floor) the answer does not depend on the history. -/
theorem logInt_history_independent (F : Nat → Nat → Int) (hF : ∀ n, ShiftStable (F n))
    (h : List (Nat × Nat × Bool)) (n prec : Nat) :
    ∃ w, (logIntReq F (logIntAfter F FMap.empty h) n prec false).2 = .ok (w, F n prec) := by
  obtain ⟨w, wp, hle, _, e⟩ := logInt_refines F h n prec
  exact ⟨w, by rw [e, hF n wp prec hle]⟩

/-! ### bernoulli_cache -/

/-- After every history — including requests aborted inside the recurrence at any iteration —
every entry `(numbers, [m, bin, bin1])` of `bernoulli_cache` is the result of a whole number of
completed iterations from the initial entry: `numbers` and `state` never get out of step. -/
theorem bernoulli_invariant (env : BernEnv) (h : List (Nat × Nat × Option Rnd × Option Nat)) :
    BernInv env (bernAfter env FMap.empty h) :=
  bernAfter_inv env _ h (bernInv_empty env)

/-- abort safety is the same statement for a single request with an arbitrary fault position -/
theorem bernoulli_abort_safe (env : BernEnv) (s : BernState) (n prec : Nat) (rnd : Option Rnd)
    (fault : Option Nat) (hi : BernInv env s) : BernInv env (bernReq env s n prec rnd fault).1 :=
  bernReq_inv env s n prec rnd fault hi

/-- After every history (any arguments, precisions, rounding modes, requests aborted at any iteration)
the answer of `mpf_bernoulli(n, prec, rnd)` for even `n` in the cached range is
`mpf_bernoulli_huge(n, prec, rnd)`, or an exception of the recurrence itself, or
`bernRound v prec rnd` — `mpf_pos(v, prec, rnd)`, resp. `v` itself for `rnd = None` — of the
history-independent table value `v = bernVal env wp n` (`wp = bernWp prec`), the SAME on the path that
computes the entry and on the path that finds it cached.  A `KeyError` on `numbers[n]` cannot happen.
(Before commit 8bbd625 the computing path returned `v` unrounded: defect D14,
`Mp.Cache.bernoulli_first_call_old_counterexample` in MpProofs/CacheOld.lean.) -/
theorem bernoulli_refines (env : BernEnv) (h : List (Nat × Nat × Option Rnd × Option Nat))
    (n prec : Nat) (rnd : Option Rnd) (h2 : n % 2 = 0) (hlo : 2 ≤ n) (hhi : n ≤ MAX_BERNOULLI_CACHE)
    (hfrac : env.useFrac n prec = false) :
    BernOutcome env n prec rnd (bernReq env (bernAfter env FMap.empty h) n prec rnd none).2 := by
  rw [bernReq_cached env _ prec rnd none h2 hlo hhi hfrac]
  exact bernCached_outcome env _ n prec rnd (bernoulli_invariant env h) h2 hlo

/-- non-vacuity and regression for D14: `bernoulli(8)` at 60 bits, rounding to nearest, twice from
an empty cache — the computing call and the cached call now return the same 60-bit value. -/
theorem bernoulli_first_call_rounded :
    (bernReq bernEnvSmall FMap.empty 8 60 (some .n) none).2
      = .ok (.computed, ⟨1, 0x888888888888889, -64, 60⟩) ∧
    (bernReq bernEnvSmall (bernReq bernEnvSmall FMap.empty 8 60 (some .n) none).1 8 60 (some .n) none).2
      = .ok (.cachedPos, ⟨1, 0x888888888888889, -64, 60⟩) := by
  decide +kernel

/-! ### exact-key caches: log_taylor_cache, atan_taylor_cache, cos_sin_cache, hyp_summators,
standard_cache -/

/-- After every history (with aborted computations) a lookup of key `k` answers `F k`. -/
theorem exactCache_refines {K V : Type} [DecidableEq K] (F : K → V) (h : List (K × Bool)) (k : K) :
    ∃ w, (exactReq F (exactAfter F FMap.empty h) k false).2 = .ok (w, F k) :=
  exactReq_answer F _ k (exactAfter_inv F _ h (by intro k v e; simp at e))

theorem exactCache_invariant {K V : Type} [DecidableEq K] (F : K → V) (h : List (K × Bool)) :
    ∀ k v, exactAfter F FMap.empty h k = some v → v = F k :=
  exactAfter_inv F _ h (by intro k v e; simp at e)

theorem exactCache_abort_safe {K V : Type} [DecidableEq K] (F : K → V) (s : FMap K V) (k : K) :
    (exactReq F s k true).1 = s :=
  exactReq_fault_state F s k

/-- `log_taylor_cached`: the table entry used for `(x, prec)` after any history of table accesses is
`F (x >> (prec-9), cache_prec_steps[prec])`, shifted down by `cached_prec - prec`. -/
theorem logTaylor_refines (F : Nat × Nat → Int × Int) (h : List ((Nat × Nat) × Bool)) (x prec : Nat) :
    ∃ w, (logTaylorLookup F (exactAfter F FMap.empty h) x prec false).2 =
      .ok (w, (shr (F (logTaylorKey x prec)).1 ((logTaylorKey x prec).2 - prec),
               shr (F (logTaylorKey x prec)).2 ((logTaylorKey x prec).2 - prec))) := by
  obtain ⟨w, e⟩ := exactCache_refines F h (logTaylorKey x prec)
  refine ⟨w, ?_⟩
  simp only [logTaylorLookup]
  rcases hx : exactReq F (exactAfter F FMap.empty h) (logTaylorKey x prec) false with ⟨s', r⟩
  rw [hx] at e
  subst e
  rfl

/-! ### quadrature nodes -/

/-- After every history of `get_nodes` calls — some aborted inside `calc_nodes` or inside
`transform_nodes` — `get_nodes(a, b, degree, prec)` returns
`transform_nodes(calc_nodes(degree, prec), a, b)` computed at `ctx.prec = prec + 20`,
whichever of the two caches serves it. -/
theorem quadNodes_refines {I N : Type} [DecidableEq I] (calcN : Nat → Nat → N) (tr : N → I → I → Nat → N)
    (p0 : Nat) (h : List (I × I × Nat × Nat × Option Nat)) (a b : I) (d p : Nat) :
    ∃ w, (quadReq calcN tr
      (h.foldl (fun s r => (quadReq calcN tr s r.1 r.2.1 r.2.2.1 r.2.2.2.1 r.2.2.2.2).1) (quadInit p0))
      a b d p none).2 = .ok (w, tr (calcN d p) a b (p + 20)) := by
  exact quadReq_answer calcN tr p0 _ a b d p
    (foldl_inv (QuadInv calcN tr p0) h (fun s r _ => quadReq_inv calcN tr p0 s _ _ _ _ _)
      ⟨by intro d p n e; simp [quadInit] at e, by intro a b d p n e; simp [quadInit] at e, rfl⟩)

/-- every request, completed or aborted at either crash point, preserves the invariant; in
particular `ctx.prec` is restored (`finally`). -/
theorem quadNodes_abort_safe {I N : Type} [DecidableEq I] (calcN : Nat → Nat → N)
    (tr : N → I → I → Nat → N) (p0 : Nat) (s : QuadState I N) (a b : I) (d p : Nat)
    (fault : Option Nat) (hi : QuadInv calcN tr p0 s) :
    QuadInv calcN tr p0 (quadReq calcN tr s a b d p fault).1 ∧
    (quadReq calcN tr s a b d p fault).1.ctxPrec = p0 :=
  ⟨quadReq_inv calcN tr p0 s a b d p fault hi, (quadReq_inv calcN tr p0 s a b d p fault hi).2.2⟩

/-! ### matrix `_LU` -/

/-- FULL statement (false): after every history of `LU_decomp` calls, element assignments, resizes and
precision changes, `LU_decomp(A)` returns the decomposition of the current contents at the current
precision.

PROVED (1): for histories WITHOUT resizing (`A.rows = k`, `A.cols = k`) and WITHOUT precision changes,
the cached decomposition is the decomposition of the current contents at the current precision. -/
theorem matrixLU_refines_partial {D R : Type} (LU : D → Nat → Option R) (d0 : D) (p0 : Nat)
    (h : List (LUOp D)) (ho : ∀ o ∈ h, o.isResize = false ∧ o.isSetPrec = false) :
    ∀ r, (luAfter LU ⟨d0, none, p0⟩ h).lu = some r →
      LU (luAfter LU ⟨d0, none, p0⟩ h).data (luAfter LU ⟨d0, none, p0⟩ h).prec = some r :=
  luAfter_invStrong LU _ h ho (by intro r hr; simp at hr)

/-- PROVED (2): without resizing but WITH precision changes the cached decomposition is still a
decomposition of the current contents — at SOME precision, not necessarily the current one. -/
theorem matrixLU_refines_upto_prec_partial {D R : Type} (LU : D → Nat → Option R) (d0 : D) (p0 : Nat)
    (h : List (LUOp D)) (ho : ∀ o ∈ h, o.isResize = false) :
    ∀ r, (luAfter LU ⟨d0, none, p0⟩ h).lu = some r →
      ∃ p, LU (luAfter LU ⟨d0, none, p0⟩ h).data p = some r :=
  luAfter_inv LU _ h ho (by intro r hr; simp at hr)

/-- the free instance: a decomposition is tagged with the contents and the precision it came from -/
def luTag : Nat → Nat → Option (Nat × Nat) := fun d p => some (d, p)

/-- `_LU` computed at 20 bits is served at 200 bits (replayed on the real code: `LU_decomp(A)`,
`lu(A)` return 20-bit factors at `mp.prec = 200`). -/
theorem matrixLU_stale_precision_counterexample :
    (luStep luTag (luAfter luTag ⟨0, none, 20⟩ [.decomp true false, .setPrec 200]) (.decomp true false)).2
      = some (.ok (.cache, (0, 20))) := by
  decide

/-- `_LU` survives `A.rows = k; A.cols = k` (contents 0 → contents 1): the decomposition of the OLD
contents is served (replayed: a 3×3 LU for a matrix that is now 2×2). -/
theorem matrixLU_stale_resize_counterexample :
    (luStep luTag (luAfter luTag ⟨0, none, 53⟩ [.decomp true false, .resize 1]) (.decomp true false)).2
      = some (.ok (.cache, (0, 53))) := by
  decide

/-- element assignment does invalidate -/
example : (luStep luTag (luAfter luTag ⟨0, none, 53⟩ [.decomp true false, .setItem 1]) (.decomp true false)).2
      = some (.ok (.computed, (1, 53))) := by decide

/-- slice assignment (`A[i,:] = M`, `A[:,j] = x`, `A[a:b,c:d] = M`) does invalidate as well -/
example : (luStep luTag (luAfter luTag ⟨0, none, 53⟩ [.decomp true false, .setSlice 1]) (.decomp true false)).2
      = some (.ok (.computed, (1, 53))) := by decide

/-- every assignment through `__setitem__` — element or slice — leaves `_LU` empty, whatever was cached before -/
theorem matrixLU_assignment_clears {D R : Type} (LU : D → Nat → Option R) (s : LUState D R) (d : D) :
    (luStep LU s (.setItem d)).1.lu = none ∧ (luStep LU s (.setSlice d)).1.lu = none ∧
    (luStep LU s (.setItem d)).1.data = d ∧ (luStep LU s (.setSlice d)).1.data = d := by
  simp [luStep]

/-- an aborted `LU_decomp` (injected, or ZeroDivisionError of the algorithm) leaves `_LU` as it was -/
theorem matrixLU_abort_safe {D R : Type} (LU : D → Nat → Option R) (s : LUState D R) (uc : Bool) :
    (luStep LU s (.decomp uc true)).2 = some .raised → (luStep LU s (.decomp uc true)).1 = s := by
  intro h
  simp only [luStep] at h ⊢
  split <;> simp_all

/-! ### memoize -/

/-- After every history, `f_cached(key)` at precision `prec` returns `F key prec`, or `+v` (rounding to
`prec`) of `v = F key cprec` computed by a completed earlier call at a precision `cprec ≥ prec`. -/
theorem memoize_refines {K V : Type} [DecidableEq K] (F : K → Nat → V) (pos : V → Nat → V)
    (h : List (K × Nat × Bool)) (k : K) (prec : Nat) :
    (memoizeReq F pos (memoizeAfter F pos FMap.empty h) k prec false).2 = .ok (.computed, F k prec) ∨
    ∃ cp, prec ≤ cp ∧ (k, cp, false) ∈ h ∧
      (memoizeReq F pos (memoizeAfter F pos FMap.empty h) k prec false).2 = .ok (.cache, pos (F k cp) prec) :=
  memoizeReq_answer F pos h _ k prec (memoizeAfter_inv F pos h)

theorem memoize_invariant {K V : Type} [DecidableEq K] (F : K → Nat → V) (pos : V → Nat → V)
    (h : List (K × Nat × Bool)) :
    ∀ k cp v, memoizeAfter F pos FMap.empty h k = some (cp, v) → v = F k cp :=
  fun k cp v e => (memoizeAfter_inv F pos h k (cp, v) e).1

theorem memoize_abort_safe {K V : Type} [DecidableEq K] (F : K → Nat → V) (pos : V → Nat → V)
    (s : MemoizeState K V) (k : K) (prec : Nat) : (memoizeReq F pos s k prec true).1 = s :=
  memoizeReq_fault_state F pos s k prec

end Mp

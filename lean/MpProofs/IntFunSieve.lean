/-
  MpProofs/IntFunSieve.lean — correctness of the sieve `list_primes` / `primepi`, and the cores of
  `stirling2` / `stirling1` of MpModel/IntFun.lean.
-/
import MpProofs.IntFun
import Mathlib.Data.Nat.Prime.Basic
import Mathlib.Data.Nat.Sqrt
import Mathlib.Tactic.Ring
import Mathlib.Tactic.Linarith
import Mathlib.Tactic.LinearCombination
import Mathlib.Data.Nat.Choose.Sum
import Mathlib.Combinatorics.Enumerative.Stirling

namespace Mp

/-! ## list_primes -/

/-- entry `x` of the sieve, `0` outside -/
def sv (s : Array Nat) (x : Nat) : Nat := s.getD x 0

theorem sv_set (s : Array Nat) (j x : Nat) :
    sv (s.setIfInBounds j 0) x = if x = j then 0 else sv s x := by
  unfold sv
  simp only [Array.getD_eq_getD_getElem?, Array.getElem?_setIfInBounds]
  by_cases h : j = x
  · subst h
    by_cases h2 : j < s.size <;> simp [h2]
  · have : ¬ x = j := fun e => h e.symm
    simp [h, this]

theorem foldl_set_size (l : List Nat) (s : Array Nat) :
    (l.foldl (fun s j => s.setIfInBounds j 0) s).size = s.size := by
  induction l generalizing s with
  | nil => rfl
  | cons a l ih => simp [List.foldl_cons, ih]

theorem foldl_set_sv (l : List Nat) (s : Array Nat) (x : Nat) :
    sv (l.foldl (fun s j => s.setIfInBounds j 0) s) x = if x ∈ l then 0 else sv s x := by
  induction l generalizing s with
  | nil => simp
  | cons a l ih =>
    rw [List.foldl_cons, ih, sv_set]
    by_cases h1 : x ∈ l
    · simp [h1]
    · by_cases h2 : x = a <;> simp [h1, h2]

theorem ceil_lt (A i t : Nat) (hi : 1 ≤ i) : t < (A + i - 1) / i ↔ i * t < A := by
  rw [show t < (A + i - 1) / i ↔ t + 1 ≤ (A + i - 1) / i from Iff.rfl,
    Nat.le_div_iff_mul_le (by omega)]
  have : (t + 1) * i = i * t + i := by ring
  omega

theorem mem_cross (N i x : Nat) (hi : 1 ≤ i) :
    x ∈ List.range' (i ^ 2) ((N - i ^ 2 + i - 1) / i) i ↔ i ^ 2 ≤ x ∧ i ∣ x ∧ x < N := by
  rw [List.mem_range']
  constructor
  · rintro ⟨t, ht, rfl⟩
    rw [ceil_lt _ _ _ hi] at ht
    refine ⟨by omega, ?_, by omega⟩
    exact Nat.dvd_add (Dvd.intro_left (i ^ 1) (by ring)) (Dvd.intro _ rfl)
  · rintro ⟨h1, ⟨c, rfl⟩, h3⟩
    have hci : i ≤ c := by
      by_contra hlt
      have : i * c < i * i := Nat.mul_lt_mul_of_pos_left (by omega) (by omega)
      rw [sq] at h1
      omega
    refine ⟨c - i, ?_, ?_⟩
    · rw [ceil_lt _ _ _ hi]
      have : i * (c - i) = i * c - i ^ 2 := by
        rw [Nat.mul_sub, pow_two]
      omega
    · have : i * (c - i) = i * c - i ^ 2 := by
        rw [Nat.mul_sub, pow_two]
      omega

theorem sieveCross_sv (N i : Nat) (s : Array Nat) (x : Nat) (hi : 1 ≤ i) :
    sv (sieveCross N i s) x = if i ^ 2 ≤ x ∧ i ∣ x ∧ x < N then 0 else sv s x := by
  unfold sieveCross
  rw [foldl_set_sv]
  simp only [mem_cross N i x hi]

open Classical in
/-- sieve state after all `i < I` have been processed -/
def SInv (N I : Nat) (s : Array Nat) : Prop :=
  ∀ x, sv s x = if 2 ≤ x ∧ x < N ∧ ¬ ∃ q, Nat.Prime q ∧ q < I ∧ q ∣ x ∧ q ^ 2 ≤ x then x else 0

theorem prime_of_no_small (i : Nat) (h2 : 2 ≤ i)
    (h : ¬ ∃ q, Nat.Prime q ∧ q < i ∧ q ∣ i ∧ q ^ 2 ≤ i) : Nat.Prime i := by
  by_contra hnp
  exact h ⟨i.minFac, Nat.minFac_prime (by omega), (Nat.not_prime_iff_minFac_lt h2).1 hnp,
    Nat.minFac_dvd i, Nat.minFac_sq_le_self (by omega) hnp⟩

theorem no_small_of_prime (i : Nat) (hp : Nat.Prime i) :
    ¬ ∃ q, Nat.Prime q ∧ q < i ∧ q ∣ i ∧ q ^ 2 ≤ i := by
  rintro ⟨q, hq, hlt, hd, _⟩
  rcases (Nat.dvd_prime hp).1 hd with h | h
  · exact hq.ne_one h
  · omega

theorem ex_succ (I x : Nat) :
    (∃ q, Nat.Prime q ∧ q < I + 1 ∧ q ∣ x ∧ q ^ 2 ≤ x) ↔
      (∃ q, Nat.Prime q ∧ q < I ∧ q ∣ x ∧ q ^ 2 ≤ x) ∨ (Nat.Prime I ∧ I ∣ x ∧ I ^ 2 ≤ x) := by
  constructor
  · rintro ⟨q, hq, hlt, hd, hs⟩
    by_cases h : q = I
    · subst h; exact Or.inr ⟨hq, hd, hs⟩
    · exact Or.inl ⟨q, hq, by omega, hd, hs⟩
  · rintro (⟨q, hq, hlt, hd, hs⟩ | ⟨hq, hd, hs⟩)
    · exact ⟨q, hq, by omega, hd, hs⟩
    · exact ⟨I, hq, by omega, hd, hs⟩

theorem SInv_step (N I : Nat) (s : Array Nat) (hI : 2 ≤ I) (h : SInv N I s) :
    SInv N (I + 1) (if s.getD I 0 ≠ 0 then sieveCross N I s else s) := by
  -- the entry of `I` is nonzero iff `I` is a prime below `N`
  have hIp : s.getD I 0 ≠ 0 ↔ I < N ∧ Nat.Prime I := by
    have hIv : s.getD I 0 = _ := h I
    rw [hIv]
    constructor
    · intro hne
      have hc : 2 ≤ I ∧ I < N ∧ ¬ ∃ q, Nat.Prime q ∧ q < I ∧ q ∣ I ∧ q ^ 2 ≤ I := by
        by_contra hc; rw [if_neg hc] at hne; exact hne rfl
      exact ⟨hc.2.1, prime_of_no_small I hI hc.2.2⟩
    · rintro ⟨hlt, hp⟩
      rw [if_pos ⟨hI, hlt, no_small_of_prime I hp⟩]
      omega
  intro x
  -- so in both branches `x` is zeroed iff such an `I` crosses it out
  have hsv : sv (if s.getD I 0 ≠ 0 then sieveCross N I s else s) x
      = if (I < N ∧ Nat.Prime I) ∧ I ^ 2 ≤ x ∧ I ∣ x ∧ x < N then 0 else sv s x := by
    by_cases hne : s.getD I 0 ≠ 0
    · rw [if_pos hne, sieveCross_sv N I s x (by omega)]
      exact if_congr (and_iff_right (hIp.1 hne)).symm rfl rfl
    · rw [if_neg hne, if_neg (fun hc => hne (hIp.2 hc.1))]
  rw [hsv, h x, ex_succ]
  by_cases hc : (I < N ∧ Nat.Prime I) ∧ I ^ 2 ≤ x ∧ I ∣ x ∧ x < N
  · rw [if_pos hc, if_neg (fun hr => hr.2.2 (Or.inr ⟨hc.1.2, hc.2.2.1, hc.2.1⟩))]
  · rw [if_neg hc]
    by_cases hl : 2 ≤ x ∧ x < N ∧ ¬ ∃ q, Nat.Prime q ∧ q < I ∧ q ∣ x ∧ q ^ 2 ≤ x
    · rw [if_pos hl, if_pos ⟨hl.1, hl.2.1, fun hab => hab.elim hl.2.2 fun hB =>
        hc ⟨⟨lt_of_le_of_lt ((Nat.le_self_pow (by norm_num) I).trans hB.2.2) hl.2.1, hB.1⟩, hB.2.2, hB.2.1, hl.2.1⟩⟩]
    · rw [if_neg hl, if_neg (fun hr => hl ⟨hr.1, hr.2.1, fun hA => hr.2.2 (Or.inl hA)⟩)]

theorem SInv_fold (N cnt : Nat) (s : Array Nat) (h : SInv N 2 s) :
    SInv N (2 + cnt) ((List.range' 2 cnt).foldl
      (fun s i => if s.getD i 0 ≠ 0 then sieveCross N i s else s) s) ∧
    ((List.range' 2 cnt).foldl
      (fun s i => if s.getD i 0 ≠ 0 then sieveCross N i s else s) s).size = s.size := by
  induction cnt with
  | zero => exact ⟨h, rfl⟩
  | succ c ih =>
    rw [List.range'_1_concat, List.foldl_append, List.foldl_cons, List.foldl_nil]
    refine ⟨SInv_step N (2 + c) _ (by omega) ih.1, ?_⟩
    split
    · exact (foldl_set_size _ _).trans ih.2
    · exact ih.2

theorem SInv_final (N I : Nat) (s : Array Nat) (hI : Nat.sqrt N < I) (h : SInv N I s) (x : Nat) :
    sv s x = if x < N ∧ Nat.Prime x then x else 0 := by
  rw [h x]
  by_cases hp : Nat.Prime x
  · by_cases hN : x < N
    · rw [if_pos (show x < N ∧ Nat.Prime x from ⟨hN, hp⟩), if_pos]
      refine ⟨hp.two_le, hN, ?_⟩
      rintro ⟨q, hq, _, hd, hs⟩
      rcases (Nat.dvd_prime hp).1 hd with e | e
      · exact hq.ne_one e
      · subst e
        have h2 := hq.two_le
        have : q * 2 ≤ q * q := Nat.mul_le_mul_left q h2
        rw [sq] at hs
        omega
    · rw [if_neg (fun h => hN h.2.1), if_neg (fun h => hN h.1)]
  · rw [if_neg (show ¬ (x < N ∧ Nat.Prime x) from fun h => hp h.2)]
    by_cases hb : 2 ≤ x ∧ x < N
    · rw [if_neg]
      rintro ⟨_, _, h3⟩
      apply h3
      refine ⟨x.minFac, Nat.minFac_prime (by omega), ?_, Nat.minFac_dvd x,
        Nat.minFac_sq_le_self (by omega) hp⟩
      have h1 := Nat.minFac_sq_le_self (n := x) (by omega) hp
      have : x.minFac ≤ Nat.sqrt N := Nat.le_sqrt'.2 (by omega)
      omega
    · rw [if_neg (fun h => hb ⟨h.1, h.2.1⟩)]

theorem sv_init (N x : Nat) :
    sv ([0, 0] ++ (List.range N).drop 2).toArray x = if 2 ≤ x ∧ x < N then x else 0 := by
  unfold sv
  rw [Array.getD_eq_getD_getElem?, List.getElem?_toArray]
  by_cases h2 : x < 2
  · rw [List.getElem?_append_left (by simpa using h2), if_neg (by omega)]
    obtain rfl | rfl : x = 0 ∨ x = 1 := by omega
    · rfl
    · rfl
  · rw [List.getElem?_append_right (by simp only [List.length_cons, List.length_nil]; omega),
      List.getElem?_drop]
    simp only [List.length_cons, List.length_nil]
    rw [show 2 + (x - (0 + 1 + 1)) = x by omega]
    by_cases hN : x < N
    · rw [List.getElem?_range hN, if_pos ⟨by omega, hN⟩]; rfl
    · rw [List.getElem?_eq_none (by simpa using hN), if_neg (by omega)]; rfl

theorem SInv_init (N : Nat) : SInv N 2 ([0, 0] ++ (List.range N).drop 2).toArray := by
  intro x
  rw [sv_init]
  have : ¬ ∃ q, Nat.Prime q ∧ q < 2 ∧ q ∣ x ∧ q ^ 2 ≤ x := by
    rintro ⟨q, hq, h2, _⟩
    have := hq.two_le
    omega
  simp only [this, not_false_eq_true, and_true]

theorem toList_eq_map_sv (s : Array Nat) : s.toList = (List.range s.size).map (sv s) := by
  apply List.ext_getElem
  · simp
  · intro i h1 h2
    have h3 : i < s.size := by simpa using h1
    simp [sv, h3]

theorem filter_final (N M : Nat) (hM : N ≤ M) (f : Nat → Nat)
    (hf : ∀ x, f x = if x < N ∧ Nat.Prime x then x else 0) :
    ((List.range M).map f).filter (· ≠ 0) = (List.range N).filter (fun p => decide (Nat.Prime p)) := by
  obtain ⟨d, rfl⟩ := Nat.exists_eq_add_of_le hM
  rw [List.filter_map, List.range_add, List.filter_append, List.map_append]
  have h2 : (List.map (fun x => N + x) (List.range d)).filter ((fun x => decide (x ≠ 0)) ∘ f) = [] := by
    rw [List.filter_eq_nil_iff]
    intro a ha
    rw [List.mem_map] at ha
    obtain ⟨b, _, rfl⟩ := ha
    simp [hf]
  rw [h2, List.map_nil, List.append_nil]
  have h1 : (List.range N).filter ((fun x => decide (x ≠ 0)) ∘ f)
      = (List.range N).filter (fun p => decide (Nat.Prime p)) := by
    apply List.filter_congr
    intro x hx
    rw [List.mem_range] at hx
    simp only [Function.comp, hf, hx, true_and]
    by_cases hp : Nat.Prime x
    · simp [hp, hp.ne_zero]
    · simp [hp]
  rw [h1]
  conv_rhs => rw [← List.map_id (List.filter _ _)]
  apply List.map_congr_left
  intro x hx
  rw [List.mem_filter, List.mem_range] at hx
  rw [hf, if_pos ⟨hx.1, by simpa using hx.2⟩]; rfl

example : list_primes 30 = .ok [2, 3, 5, 7, 11, 13, 17, 19, 23, 29] := by decide +kernel

/-! ## stirling2 -/

open Finset in
/-- `A n k = ∑_{j ≤ k} (-1)^(k+j) C(k,j) j^n` -/
def stA (n k : Nat) : Int :=
  ∑ j ∈ Finset.range (k + 1), (-1) ^ (k + j) * (k.choose j : Int) * (j : Int) ^ n

/-- the recurrence of `k! · S(n,k)`, term by term: `j · C(k+1,j) = (k+1) · C(k,j-1)` and Pascal's rule -/
theorem stA_succ_succ (n k : Nat) :
    stA (n + 1) (k + 1) = ((k : Int) + 1) * (stA n (k + 1) + stA n k) := by
  have htop : stA n k = ∑ j ∈ Finset.range (k + 1 + 1), (-1) ^ (k + j) * (k.choose j : Int) * (j : Int) ^ n := by
    rw [Finset.sum_range_succ _ (k + 1), Nat.choose_succ_self]; simp [stA]
  rw [htop]
  unfold stA
  rw [← Finset.sum_add_distrib, Finset.mul_sum]
  apply Finset.sum_congr rfl
  intro j _
  rcases j with _ | i
  · simp only [Nat.choose_zero_right, Nat.add_zero, Nat.cast_one, Nat.cast_zero, pow_succ]
    ring
  · have hC : ((k + 1).choose (i + 1) : Int) * ((i : Int) + 1) = ((k : Int) + 1) * (k.choose i : Int) := by
      exact_mod_cast (Nat.add_one_mul_choose_eq k i).symm
    have hP : ((k + 1).choose (i + 1) : Int) = (k.choose i : Int) + (k.choose (i + 1) : Int) := by
      exact_mod_cast Nat.choose_succ_succ k i
    have hs : ((-1 : Int)) ^ (k + 1 + (i + 1)) = (-1) ^ (k + i) := by
      rw [show k + 1 + (i + 1) = k + i + 2 by ring, pow_add]; norm_num
    have hs' : ((-1 : Int)) ^ (k + (i + 1)) = -(-1) ^ (k + i) := by
      rw [show k + (i + 1) = k + i + 1 by ring, pow_succ]; ring
    rw [hs, hs']
    push_cast
    linear_combination ((-1) ^ (k + i) * ((i : Int) + 1) ^ n) * hC
      - (((k : Int) + 1) * (-1) ^ (k + i) * ((i : Int) + 1) ^ n) * hP

/-- explicit formula for the Stirling numbers of the second kind -/
theorem stA_eq (n k : Nat) : stA n k = (k.factorial : Int) * (Nat.stirlingSecond n k : Int) := by
  induction n generalizing k with
  | zero =>
    cases k with
    | zero => simp [stA]
    | succ k =>
      rw [Nat.stirlingSecond_zero_succ]
      unfold stA
      have h : ∀ j : Nat, (-1 : Int) ^ (k + 1 + j) * ((k + 1).choose j : Int) * (j : Int) ^ 0
          = (-1) ^ (k + 1) * ((-1) ^ j * ((k + 1).choose j : Int)) := by
        intro j; rw [pow_add]; ring
      simp only [h, Nat.cast_zero, mul_zero]
      rw [← Finset.mul_sum, Int.alternating_sum_range_choose_of_ne (Nat.succ_ne_zero k), mul_zero]
  | succ n ih =>
    cases k with
    | zero => simp [stA, Nat.stirlingSecond_succ_zero]
    | succ k =>
      rw [stA_succ_succ, ih, ih, Nat.stirlingSecond_succ_succ, Nat.factorial_succ]
      push_cast
      ring

theorem st2_t_step (k J : Nat) (hJ : J ≤ k) :
    ((k.choose J : Int) * ((k : Int) - J)).fdiv ((J : Int) + 1) = (k.choose (J + 1) : Int) := by
  have h := Nat.choose_succ_right_eq k J
  have h2 : ((k.choose (J + 1) * (J + 1) : Nat) : Int) = ((k.choose J * (k - J) : Nat) : Int) := by
    rw [h]
  push_cast [Nat.cast_sub hJ] at h2
  rw [Int.fdiv_eq_ediv_of_nonneg _ (by omega), ← h2, Int.mul_ediv_cancel _ (by omega)]

theorem st2_s_step (n k J : Nat) (S C : Int) :
    (if (k + J) % 2 = 1 then S - C * (J : Int) ^ n else S + C * (J : Int) ^ n)
      = S + (-1) ^ (k + J) * C * (J : Int) ^ n := by
  rcases Nat.even_or_odd (k + J) with he | ho
  · rw [if_neg (by rw [Nat.even_iff] at he; omega), he.neg_one_pow]; ring
  · rw [if_pos (Nat.odd_iff.1 ho), ho.neg_one_pow]; ring

/-- the loop of `stirling2` computes the alternating sum, the second component is the
running binomial coefficient -/
theorem st2_fold_aux (n k J : Nat) (hJ : J ≤ k + 1) :
    (List.range J).foldl (st2Step n k) (0, 1)
      = (∑ j ∈ Finset.range J, (-1) ^ (k + j) * (k.choose j : Int) * (j : Int) ^ n,
          (k.choose J : Int)) := by
  induction J with
  | zero => simp
  | succ J ih =>
    rw [List.range_succ, List.foldl_append, ih (by omega), List.foldl_cons, List.foldl_nil]
    simp only [st2Step]
    rw [st2_s_step, st2_t_step k J (by omega), Finset.sum_range_succ]

/-- the loop of `stirling2` computes `k! * S(n,k)` (also true for `n = 0`) -/
theorem st2_fold' (n k : Nat) :
    ((List.range (k + 1)).foldl (st2Step n k) (0, 1)).1
      = (k.factorial : Int) * (Nat.stirlingSecond n k : Int) := by
  rw [st2_fold_aux n k (k + 1) (Nat.le_refl _)]
  exact stA_eq n k

theorem st2_fold (n k : Nat) (_hn : 1 ≤ n) :
    ((List.range (k + 1)).foldl (st2Step n k) (0, 1)).1
      = (k.factorial : Int) * (Nat.stirlingSecond n k : Int) :=
  st2_fold' n k

example : ((List.range (3 + 1)).foldl (st2Step 5 3) (0, 1)).1 = 6 * 25 := by decide

/-! ## stirling1 -/

theorem st1Inner_length (J : Nat) (m : Int) (L : List Int) : (st1Inner J m L).length = L.length := by
  induction J generalizing L with
  | zero => rfl
  | succ J ih => rw [st1Inner, ih, List.length_set]

theorem st1Inner_getD (J : Nat) (m : Int) (L : List Int) (hJ : J < L.length) (i : Nat) :
    (st1Inner J m L).getD i 0
      = if 1 ≤ i ∧ i ≤ J then (m - 1) * L.getD i 0 + L.getD (i - 1) 0 else L.getD i 0 := by
  induction J generalizing L with
  | zero => rw [st1Inner, if_neg (by omega)]
  | succ J ih =>
    rw [st1Inner, ih _ (by rw [List.length_set]; omega)]
    by_cases h1 : 1 ≤ i ∧ i ≤ J
    · rw [if_pos h1, if_pos (by omega), getD_set_int, getD_set_int, if_neg (by omega),
        if_neg (by omega)]
    · rw [if_neg h1, getD_set_int]
      by_cases h2 : i = J + 1
      · subst h2
        rw [if_pos ⟨rfl, hJ⟩, if_pos (by omega)]; rfl
      · rw [if_neg (by omega), if_neg (by omega)]

/-- row `m` of the table of unsigned Stirling numbers of the first kind, columns `0..k` -/
def st1Row (k m : Nat) : List Int := (List.range (k + 1)).map (fun j => (Nat.stirlingFirst m j : Int))

theorem st1Row_getD (k m i : Nat) :
    (st1Row k m).getD i 0 = if i ≤ k then (Nat.stirlingFirst m i : Int) else 0 := by
  unfold st1Row
  rw [List.getD_eq_getElem?_getD, List.getElem?_map]
  by_cases h : i ≤ k
  · rw [List.getElem?_range (by omega), if_pos h]; rfl
  · rw [List.getElem?_eq_none (by simp; omega), if_neg h]; rfl

theorem st1Row_length (k m : Nat) : (st1Row k m).length = k + 1 := by simp [st1Row]

theorem st1_init (k : Nat) : (List.replicate (k + 1) (0 : Int)).set 1 1 = st1Row k 1 := by
  apply list_ext_getD
  · simp [st1Row]
  · intro i _
    rw [getD_set_int, st1Row_getD, List.length_replicate, List.getD_eq_getElem?_getD,
      List.getElem?_replicate]
    rcases i with _ | _ | i
    · simp [Nat.stirlingFirst_succ_zero]
    · by_cases hk : 1 ≤ k
      · rw [if_pos ⟨rfl, by omega⟩, if_pos hk]; simp [Nat.stirlingFirst_self]
      · rw [if_neg (by omega), if_neg hk, if_neg (by omega)]; rfl
    · rw [if_neg (by omega), Nat.stirlingFirst_eq_zero_of_lt (by omega)]
      by_cases hk : i + 1 + 1 < k + 1
      · rw [if_pos hk]; simp
      · rw [if_neg hk]; simp

theorem st1_row_step (k m : Nat) (hm : 1 ≤ m) :
    st1Inner (min k (m + 1)) ((m + 1 : Nat) : Int) (st1Row k m) = st1Row k (m + 1) := by
  apply list_ext_getD
  · rw [st1Inner_length, st1Row_length, st1Row_length]
  · intro i _
    rw [st1Inner_getD _ _ _ (by rw [st1Row_length]; omega), st1Row_getD, st1Row_getD, st1Row_getD]
    rcases i with _ | i
    · obtain ⟨m', rfl⟩ := Nat.exists_eq_add_of_le' hm
      rw [if_neg (by omega), if_pos (by omega), if_pos (by omega), Nat.stirlingFirst_succ_zero,
        Nat.stirlingFirst_succ_zero]
    · by_cases h1 : i + 1 ≤ min k (m + 1)
      · rw [if_pos ⟨by omega, h1⟩, if_pos (by omega), if_pos (by omega), if_pos (by omega),
          Nat.stirlingFirst_succ_succ]
        push_cast
        simp
      · rw [if_neg (by omega)]
        by_cases hk : i + 1 ≤ k
        · rw [if_pos hk, if_pos hk, Nat.stirlingFirst_eq_zero_of_lt (by omega),
            Nat.stirlingFirst_eq_zero_of_lt (by omega)]
        · rw [if_neg hk, if_neg hk]

theorem st1_fold_row (k cnt : Nat) :
    (List.range' 2 cnt).foldl (fun L m => st1Inner (min k m) (m : Int) L) (st1Row k 1)
      = st1Row k (1 + cnt) := by
  induction cnt with
  | zero => rfl
  | succ c ih =>
    rw [List.range'_1_concat, List.foldl_append, ih, List.foldl_cons, List.foldl_nil,
      show 2 + c = 1 + c + 1 by omega, st1_row_step k (1 + c) (by omega)]
    rfl

theorem st1_fold (n k : Nat) (hk : 1 ≤ k) (hkn : k < n) :
    ((List.range' 2 (n - 1)).foldl (fun L m => st1Inner (min k m) (m : Int) L)
        ((List.replicate (k + 1) (0:Int)).set 1 1)).getD k 0
      = (Nat.stirlingFirst n k : Int) := by
  rw [st1_init, st1_fold_row, st1Row_getD, if_pos (Nat.le_refl _), show 1 + (n - 1) = n by omega]

example : ((List.range' 2 (5 - 1)).foldl (fun L m => st1Inner (min 2 m) (m : Int) L)
    ((List.replicate (2 + 1) (0:Int)).set 1 1)).getD 2 0 = 50 := by decide

end Mp


/-
  Props/C12.lean — C12 (elementary function accuracy), level: translation validation with a PROVED validator.

  The statement "for all arguments and precisions" is sampled (tie T2: sample (x, p) → implementation value
  y → `accCheck`); what is proved here is that the oracle is rigorous: a verdict `ok` / `violates` of the
  executable checker `Mp.Encl.accCheck` (run by the compiled driver, op `acc`) is a theorem about the exact
  real value `f(x)` = `FunId.sem f x` (Mathlib's `Real.exp`, `log`, `sqrt`, `arctan`, `sin`, `cos`, `tan`, `cot`,
  `1/cos`, `1/sin`, `sinh`, `cosh`, `tanh`, `exp x - 1`, `log (1+x)`, `arcsin`, `arccos`, `arsinh`, `arcosh`,
  `artanh`, `sin (π x)`, `cos (π x)`, `π`), and a verdict is only produced for `x` inside the real domain of `f`.
  Not claimed: a theorem about mpmath's series code; complex arguments; atan2, arg, the reciprocal inverse functions (acot, asec, …).
-/
import MpProofs.Encl2Sound

namespace Mp
open Mp.Encl

/-- verdict `ok` ⇒ the dyadic `y` satisfies `|y − f(x)| ≤ 2^(k−p)·|f(x)|` for the exact real `f(x)` -/
theorem C12_validator_ok (f : FunId) (x y : Dy) (p k : ℕ) (h : accCheck f x y p k = .ok) :
    |y.val - f.sem x.val| ≤ (2 : ℝ) ^ ((k : ℤ) - (p : ℤ)) * |f.sem x.val| :=
  (accCheck_sound f x y p k).1 h

/-- verdict `violates` ⇒ the inequality fails for the exact real `f(x)` -/
theorem C12_validator_violates (f : FunId) (x y : Dy) (p k : ℕ) (h : accCheck f x y p k = .violates) :
    (2 : ℝ) ^ ((k : ℤ) - (p : ℤ)) * |f.sem x.val| < |y.val - f.sem x.val| :=
  (accCheck_sound f x y p k).2.1 h

/-- the strict form used by the property text ("relative error below 2^(4−p)"): run the checker with `k = 3` -/
theorem C12_validator_strict (f : FunId) (x y : Dy) (p : ℕ) (h : accCheck f x y p 3 = .ok) :
    (f.sem x.val ≠ 0 → |y.val - f.sem x.val| < (2 : ℝ) ^ ((4 : ℤ) - (p : ℤ)) * |f.sem x.val|) ∧
    (f.sem x.val = 0 → y.val = 0) :=
  ⟨fun h0 => by simpa using accCheck_ok_strict f x y p 3 h h0, accCheck_ok_zero f x y p 3 h⟩

/-- every enclosure printed by the driver op `encl` contains the exact value, and `x` is in the real
domain of `f` (e.g. `0 < x` for `log`, `1 ≤ x` for `acosh`) -/
theorem C12_enclosure (f : FunId) (wp : ℕ) (x : Dy) (F : DI) (h : evalPoint f wp x = some F) :
    (F.lo.val ≤ f.sem x.val ∧ f.sem x.val ≤ F.hi.val) ∧ f.dom x.val :=
  evalPoint_sound f wp x F h

/-- a verdict other than `undecided` is only produced inside the real domain of `f` -/
theorem C12_validator_dom (f : FunId) (x y : Dy) (p k : ℕ) (h : accCheck f x y p k ≠ .undecided) :
    f.dom x.val :=
  (accCheck_sound f x y p k).2.2 h

/-- cbrt / root: the integer checker `rootCheck` (driver op `accroot`) decides the accuracy inequality for the
real `n`-th root `x^(1/n)` of `x ≥ 0` -/
theorem C12_root_validator (n : ℕ) (x y : Dy) (p k : ℕ) :
    (rootCheck n x y p k = .ok →
      |y.val - nthRoot n x.val| ≤ (2 : ℝ) ^ ((k : ℤ) - (p : ℤ)) * nthRoot n x.val) ∧
    (rootCheck n x y p k = .violates →
      (2 : ℝ) ^ ((k : ℤ) - (p : ℤ)) * nthRoot n x.val < |y.val - nthRoot n x.val|) := by
  unfold rootCheck
  split
  · simp
  · rename_i hc
    simp only [not_or, not_le, not_lt] at hc
    obtain ⟨hn, hx, hy, hkp⟩ := hc
    have ht1 : (2 : ℝ) ^ ((k : ℤ) - (p : ℤ)) ≤ 1 := zpow_le_one_of_nonpos₀ (by norm_num) (by omega)
    rw [← val_two_zpow] at ht1 ⊢
    simp only [rootCheck_test hn hx hy (by rw [val_two_zpow]; positivity) ht1]
    -- `violates` is answered only when the `ok` test has failed, and that alone refutes the bound
    split
    · rename_i h; exact ⟨fun _ => h, by simp⟩
    · rename_i h; exact ⟨by split <;> simp, fun _ => not_le.1 h⟩

/-- two-argument functions (driver op `acc2`): real power `x^y` and `x^y − 1` for `x > 0`, `hypot`, `log_b x` -/
theorem C12_validator2 (f : Fun2) (x y z : Dy) (p k : ℕ) :
    (accCheck2 f x y z p k = .ok →
      |z.val - f.sem x.val y.val| ≤ (2 : ℝ) ^ ((k : ℤ) - (p : ℤ)) * |f.sem x.val y.val|) ∧
    (accCheck2 f x y z p k = .violates →
      (2 : ℝ) ^ ((k : ℤ) - (p : ℤ)) * |f.sem x.val y.val| < |z.val - f.sem x.val y.val|) ∧
    (accCheck2 f x y z p k ≠ .undecided → f.dom x.val y.val) :=
  accLoopG_sound (fun wp => eval2_sound f wp x y) z p k _

/-- sinc (driver op `accsinc`) -/
theorem C12_validator_sinc (x y : Dy) (p k : ℕ) :
    (accCheckSinc x y p k = .ok →
      |y.val - Real.sinc x.val| ≤ (2 : ℝ) ^ ((k : ℤ) - (p : ℤ)) * |Real.sinc x.val|) ∧
    (accCheckSinc x y p k = .violates →
      (2 : ℝ) ^ ((k : ℤ) - (p : ℤ)) * |Real.sinc x.val| < |y.val - Real.sinc x.val|) :=
  have h := accLoopG_sound (fun wp => sincPoint_sound wp x) y p k (accWps p)
  ⟨h.1, h.2.1⟩

-- non-vacuity: see `MpProofs/EnclExamples.lean` (`accCheck … = .ok` and `= .violates` by kernel evaluation)
example : accCheck .exp ⟨1, 0⟩ ⟨2850325, -20⟩ 24 3 = .ok := by decide +kernel

end Mp

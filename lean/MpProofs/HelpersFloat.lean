/-
  MpProofs/HelpersFloat.lean — the binary64 side of C09: value and field shape of what `from_float` returns, exactness of
  `roundToDouble` on representable values, `to_float` on mantissas of at most 53 bits.
-/
import MpProofs.Helpers
import MpProofs.Normalize

namespace Mp.H

theorem stripTrailing_mag (sign man : Nat) (exp bc : Int) :
    ((stripTrailing sign man exp bc).man : ℚ) * (2:ℚ) ^ (stripTrailing sign man exp bc).exp
      = (man : ℚ) * (2:ℚ) ^ exp := by
  have h := stripTrailing_valK (K := ℚ) 0 man exp bc
  rw [pow_zero, one_mul, valK] at h
  simpa [stripTrailing] using h

theorem val_stripTrailing (sign man : Nat) (exp bc : Int) :
    val (stripTrailing sign man exp bc) = (-1 : ℚ) ^ sign * (man : ℚ) * (2:ℚ) ^ exp :=
  (stripTrailing_valK (K := ℚ) sign man exp bc).trans (mul_assoc _ _ _).symm

theorem stripTrailing_fields (sign man : Nat) (exp bc : Int) :
    (stripTrailing sign man exp bc).sign = sign ∧ (stripTrailing sign man exp bc).man = man >>> trailing man ∧
    (stripTrailing sign man exp bc).exp = exp + trailing man := ⟨rfl, rfl, rfl⟩

/-- a nonzero mantissa of at most 53 bits, shifted up to exactly 53 bits -/
theorem norm53_bounds {man : Nat} (hm : man ≠ 0) (hb : bitcount man ≤ 53) :
    2 ^ 52 ≤ man * 2 ^ (53 - bitcount man) ∧ man * 2 ^ (53 - bitcount man) < 2 ^ 53 ∧
    bitcount (man * 2 ^ (53 - bitcount man)) = 53 := by
  have h53 : bitcount (man * 2 ^ (53 - bitcount man)) = 53 := by rw [bitcount_mul_two_pow hm]; omega
  have hne : man * 2 ^ (53 - bitcount man) ≠ 0 := Nat.mul_ne_zero hm (Nat.two_pow_pos _).ne'
  have hlo := bitcount_le hne
  have hhi := bitcount_lt (man * 2 ^ (53 - bitcount man))
  rw [h53] at hlo hhi
  exact ⟨hlo, hhi, h53⟩

theorem norm53_val {man : Nat} (hb : bitcount man ≤ 53) (x : ℤ) :
    ((man * 2 ^ (53 - bitcount man) : ℕ) : ℚ) * (2:ℚ) ^ ((bitcount man : ℤ) - 53 + x) = (man : ℚ) * (2:ℚ) ^ x := by
  push_cast
  rw [mul_assoc, ← zpow_natCast, ← zpow_add₀ (by norm_num : (2:ℚ) ≠ 0)]
  congr 2; omega

/-- the rational value of a finite binary64 pattern -/
def doubleVal (d : Dbl) : ℚ := (-1 : ℚ) ^ d.sign * (d.sig : ℚ) * (2:ℚ) ^ d.qexp

theorem Dbl.sig_qexp_cases (d : Dbl) (hwf : d.WF) :
    (d.ex = 0 ∧ d.sig = d.frac ∧ d.qexp = -1074 ∧ d.sig < 2 ^ 52) ∨
    (d.ex ≠ 0 ∧ d.sig = 2 ^ 52 + d.frac ∧ d.qexp = (d.ex : ℤ) - 1075 ∧ 2 ^ 52 ≤ d.sig ∧ d.sig < 2 ^ 53) := by
  obtain ⟨_, _, hf⟩ := hwf
  unfold Dbl.sig Dbl.qexp
  by_cases h : d.ex = 0
  · rw [if_pos h, if_pos h]; exact Or.inl ⟨h, rfl, rfl, hf⟩
  · rw [if_neg h, if_neg h]; exact Or.inr ⟨h, rfl, rfl, by omega, by omega⟩

theorem Dbl.sig_lt (d : Dbl) (h : d.WF) : d.sig < 2 ^ 53 := by
  rcases Dbl.sig_qexp_cases d h with ⟨_, _, _, h⟩ | ⟨_, _, _, _, h⟩ <;> omega

theorem Dbl.not_special (d : Dbl) (hfin : d.ex < 2047) : d.isNan = false ∧ d.isInf = false := by
  simp [Dbl.isNan, Dbl.isInf]; omega

theorem from_man_exp_of_le (m e prec : Int) (rnd : Rnd) (hm : m ≠ 0) (hp : prec ≠ 0)
    (hb : (bitcount m.natAbs : Int) ≤ prec) :
    from_man_exp m e prec rnd = stripTrailing (if m < 0 then 1 else 0) m.natAbs e (bitcount m.natAbs) := by
  rw [from_man_exp, if_neg hp, normalize, if_neg (by omega), if_neg (by omega)]

theorem from_float_zero (d : Dbl) (hfin : d.ex < 2047) (hs : d.sig = 0) (prec : Int) (rnd : Rnd)
    (hp : 53 ≤ prec) : from_float d prec rnd = fzero := by
  obtain ⟨hnan, hinf⟩ := Dbl.not_special d hfin
  simp only [from_float, frexpBits, hnan, hinf, Bool.false_eq_true, if_false, hs, if_true, from_man_exp,
    show prec ≠ 0 by omega, normalize, Nat.cast_zero, neg_zero, ite_self, Int.natAbs_zero]

theorem from_float_shape (d : Dbl) (hwf : d.WF) (hfin : d.ex < 2047) (hs : d.sig ≠ 0) (prec : Int) (rnd : Rnd)
    (hp : 53 ≤ prec) :
    from_float d prec rnd =
      stripTrailing d.sign (d.sig * 2 ^ (53 - bitcount d.sig)) (d.qexp + bitcount d.sig - 53) 53 := by
  obtain ⟨hnan, hinf⟩ := Dbl.not_special d hfin
  obtain ⟨hlo, _, hbc⟩ := norm53_bounds hs (bitcount_le_of_lt (Dbl.sig_lt d hwf))
  have hsg : d.sign = 0 ∨ d.sign = 1 := by have := hwf.1; omega
  simp only [from_float, frexpBits, hnan, hinf, Bool.false_eq_true, if_false, hs]
  generalize d.sig * 2 ^ (53 - bitcount d.sig) = m at *
  have hna : (if d.sign = 0 then (m : ℤ) else -(m : ℤ)).natAbs = m := by split <;> simp
  have hsign : (if (if d.sign = 0 then (m : ℤ) else -(m : ℤ)) < 0 then 1 else 0) = d.sign := by
    rcases hsg with h | h <;> rw [h] <;> simp
    omega
  rw [from_man_exp_of_le _ _ _ _ (by split <;> omega) (by omega) (by rw [hna, hbc]; exact_mod_cast hp),
    hna, hsign, hbc]
  rfl

theorem roundShift_n_exact (a n : Nat) (hn : 1 ≤ n) : roundShift .n 0 (a * 2 ^ n) n = a := by
  unfold roundShift
  simp only
  have h1 : (a * 2 ^ n) >>> (n - 1) = 2 * a := by
    rw [Nat.shiftRight_eq_div_pow]
    have : 2 ^ n = 2 * 2 ^ (n - 1) := by rw [← pow_succ']; congr 1; omega
    rw [this, ← mul_assoc, Nat.mul_div_cancel _ (by positivity), mul_comm]
  rw [h1]
  have : ¬ ((2 * a) % 2 = 1 ∧ ((2 * a / 2) % 2 = 1 ∨ a * 2 ^ n % 2 ^ (n - 1) ≠ 0)) := by omega
  simp only [this, if_false, Nat.shiftRight_eq_div_pow]; omega

theorem dyadic_binade {m1 m2 : Nat} {e1 e2 : Int} (h1 : m1 ≠ 0) (h2 : m2 ≠ 0)
    (h : (m1 : ℚ) * (2:ℚ) ^ e1 = (m2 : ℚ) * (2:ℚ) ^ e2) : e1 + bitcount m1 = e2 + bitcount m2 := by
  obtain ⟨a1, a2⟩ := mag_bounds _ h1 e1
  obtain ⟨b1, b2⟩ := mag_bounds _ h2 e2
  rw [h] at a1 a2
  have c1 := (zpow_lt_zpow_iff_right₀ (by norm_num : (1:ℚ) < 2)).mp (a1.trans_lt b2)
  have c2 := (zpow_lt_zpow_iff_right₀ (by norm_num : (1:ℚ) < 2)).mp (b1.trans_lt a2)
  omega

/-- `roundToDouble` returns `d` on any input whose value is exactly that of the finite pattern `d`: the
quantum exponent chosen is `d.qexp`, the significand at that exponent is `d.sig` without rounding, and packing
the two gives `d` back. -/
theorem roundToDouble_exact_q (man : Nat) (exp : Int) (d : Dbl) (hm : man ≠ 0) (hwf : d.WF)
    (hfin : d.ex < 2047) (hv : (man : ℚ) * (2:ℚ) ^ exp = (d.sig : ℚ) * (2:ℚ) ^ d.qexp) :
    roundToDouble d.sign man exp = some d := by
  have hs : d.sig ≠ 0 := by
    rintro h
    rw [h, Nat.cast_zero, zero_mul] at hv
    exact hm (by exact_mod_cast (mul_eq_zero.mp hv).resolve_right (zpow_pos (by norm_num) _).ne')
  have he := dyadic_binade hm hs hv
  have hmS : (if exp ≥ d.qexp then man <<< (exp - d.qexp).toNat
      else roundShift .n 0 man (d.qexp - exp).toNat) = d.sig := by
    split
    · rename_i h; rw [Nat.shiftLeft_eq, dyadic_cancel h hv]
    · rename_i h; rw [dyadic_cancel (by omega) hv.symm]; exact roundShift_n_exact _ _ (by omega)
  have hk1 := bitcount_pos hs
  unfold roundToDouble
  simp only [he]
  obtain ⟨sg, ex, fr⟩ := d
  rcases Dbl.sig_qexp_cases _ hwf with ⟨hex, hsig, hq, hlt⟩ | ⟨hex, hsig, hq, hge, hlt⟩ <;>
    simp only at hex hfin <;> rw [hq] at hmS ⊢
  · -- subnormal target: fewer than 53 bits, the quantum exponent is the least one
    have hk := bitcount_le_of_lt hlt
    have c1 : ¬ ((-1074 : ℤ) + (bitcount (Dbl.sig ⟨sg, ex, fr⟩) : ℤ) > 1024) := by omega
    have c2 : ¬ ((-1074 : ℤ) + (bitcount (Dbl.sig ⟨sg, ex, fr⟩) : ℤ) < -1075) := by omega
    have c3 : ¬ ((-1074 : ℤ) + (bitcount (Dbl.sig ⟨sg, ex, fr⟩) : ℤ) - 53 ≥ -1074) := by omega
    simp only [c1, c2, c3, if_false, hmS, hs, hlt, if_true]
    rw [hsig, hex]
  · -- normal target: exactly 53 bits
    rw [bitcount_eq hge hlt]
    have c1 : ¬ ((ex : ℤ) - 1075 + ((53 : ℕ) : ℤ) > 1024) := by omega
    have c2 : ¬ ((ex : ℤ) - 1075 + ((53 : ℕ) : ℤ) < -1075) := by omega
    have c3 : (ex : ℤ) - 1075 ≥ -1074 := by omega
    simp only [c1, c2, show (ex : ℤ) - 1075 + ((53 : ℕ) : ℤ) - 53 = (ex : ℤ) - 1075 by omega, c3, if_false, if_true,
      hmS, hs, show ¬ Dbl.sig ⟨sg, ex, fr⟩ < 2 ^ 52 by omega, show ¬ Dbl.sig ⟨sg, ex, fr⟩ = 2 ^ 53 by omega,
      show ¬ ((ex : ℤ) - 1075 + 1075 ≥ 2047) by omega]
    rw [hsig, show ((ex : ℤ) - 1075 + 1075).toNat = ex by omega, Nat.add_sub_cancel_left]

/-- the normal double `± man · 2^(E - bitcount man)`, for a mantissa of at most 53 bits and `-1021 ≤ E ≤ 1024` -/
def mkDbl (sg man : Nat) (E : Int) : Dbl := ⟨sg, (E + 1022).toNat, man * 2 ^ (53 - bitcount man) - 2 ^ 52⟩

theorem mkDbl_facts (sg man : Nat) (E : Int) (hsg : sg ≤ 1) (hm : man ≠ 0) (hb : bitcount man ≤ 53)
    (hE1 : -1021 ≤ E) (hE2 : E ≤ 1024) :
    (mkDbl sg man E).WF ∧ 1 ≤ (mkDbl sg man E).ex ∧ (mkDbl sg man E).ex ≤ 2046 ∧
    (mkDbl sg man E).sig = man * 2 ^ (53 - bitcount man) ∧
    (mkDbl sg man E).qexp = E - 53 ∧ (mkDbl sg man E).sign = sg := by
  obtain ⟨hlo, hhi, _⟩ := norm53_bounds hm hb
  have hex : (mkDbl sg man E).ex = (E + 1022).toNat := rfl
  have hfr : (mkDbl sg man E).frac = man * 2 ^ (53 - bitcount man) - 2 ^ 52 := rfl
  have hwf : (mkDbl sg man E).WF := ⟨hsg, by omega, by omega⟩
  rcases Dbl.sig_qexp_cases _ hwf with ⟨h0, -⟩ | ⟨-, hsig, hq, -⟩
  · omega
  · exact ⟨hwf, by omega, by omega, by omega, by omega, rfl⟩

/-- `float(man)` of a Python int with at most 53 bits is exact -/
theorem intToDouble_small (sg man : Nat) (hsg : sg ≤ 1) (hm : man ≠ 0) (hb : bitcount man ≤ 53) :
    intToDouble sg man = some (mkDbl sg man (bitcount man)) := by
  have hb1 := bitcount_pos hm
  obtain ⟨hwf, _, hfin, hsig, hq, hsign⟩ := mkDbl_facts sg man (bitcount man) hsg hm hb (by omega) (by omega)
  unfold intToDouble
  rw [← hsign]
  apply roundToDouble_exact_q man 0 _ hm hwf (by omega)
  rw [hsig, hq, ← add_zero ((bitcount man : ℤ) - 53), norm53_val hb]

/-- `to_float` of a tuple with at most 53 mantissa bits is `roundToDouble` of its value (the int is converted
exactly, `ldexp` does the only rounding); `none` becomes the overflow result -/
theorem to_float_small (t : Mpf) (hm : t.man ≠ 0) (hsg : t.sign ≤ 1) (hbc : t.bc ≤ 53)
    (hb : bitcount t.man ≤ 53) (strict : Bool) (rnd : Rnd) :
    to_float t strict rnd =
      match roundToDouble t.sign (t.man * 2 ^ (53 - bitcount t.man)) ((bitcount t.man : ℤ) - 53 + t.exp) with
      | some f => .ok f
      | none => if strict then .error .overflow
          else if t.exp + t.bc > 0 then .ok (Dbl.inf t.sign) else .ok (Dbl.zero 0) := by
  have hb1 := bitcount_pos hm
  obtain ⟨_, _, hfin, hsig, hq, hsign⟩ :=
    mkDbl_facts t.sign t.man (bitcount t.man) hsg hm hb (by omega) (by omega)
  obtain ⟨hlo, _, _⟩ := norm53_bounds hm hb
  have hsg' : (if t.sign ≠ 0 then 1 else 0) = t.sign := by split <;> omega
  have hfin' : (mkDbl t.sign t.man (bitcount t.man)).isFinite = true := by simp [Dbl.isFinite]; omega
  unfold to_float
  simp only [hm, if_false, show ¬ (t.bc > 53) by omega, hsg', intToDouble_small t.sign t.man hsg hm hb, ldexpD,
    hfin', Bool.not_true, Bool.false_eq_true, hsig, show t.man * 2 ^ (53 - bitcount t.man) ≠ 0 by omega, hq, hsign]
  rfl

theorem to_float_exact (t : Mpf) (d : Dbl) (hm : t.man ≠ 0) (hsg : t.sign ≤ 1) (hbc : t.bc ≤ 53)
    (hb : bitcount t.man ≤ 53) (hwf : d.WF) (hfin : d.ex < 2047) (hsign : d.sign = t.sign)
    (hv : (t.man : ℚ) * (2:ℚ) ^ t.exp = (d.sig : ℚ) * (2:ℚ) ^ d.qexp) (strict : Bool) (rnd : Rnd) :
    to_float t strict rnd = .ok d := by
  rw [to_float_small t hm hsg hbc hb, ← hsign,
    roundToDouble_exact_q _ _ d (by have := norm53_bounds hm hb; omega) hwf hfin (by rw [norm53_val hb, hv])]

theorem normalize1_sign (sign man : Nat) (exp bc prec : Int) (rnd : Rnd) (hm : man ≠ 0) :
    (normalize1 sign man exp bc prec rnd).sign = sign := by
  unfold normalize1
  simp only [hm, if_false]
  split <;> rfl

theorem to_float_eq_of_round (x r : Mpf) (strict : Bool) (rnd : Rnd) (hm : x.man ≠ 0)
    (hr : r = if x.bc > 53 then normalize1 x.sign x.man x.exp x.bc 53 rnd else x)
    (hrm : r.man ≠ 0) (hrbc : r.bc ≤ 53) :
    to_float x strict rnd = to_float r strict rnd := by
  unfold to_float
  simp only [hm, hrm, if_false, show ¬ (r.bc > 53) by omega, ← hr]

theorem to_float_normal_range (r : Mpf) (hm : r.man ≠ 0) (hsg : r.sign ≤ 1) (hbc : r.bc = (bitcount r.man : Int))
    (hb : r.bc ≤ 53) (hlow : (2:ℚ) ^ (-1022 : ℤ) ≤ |val r|) (hhigh : |val r| < (2:ℚ) ^ (1024 : ℤ)) :
    ∃ d : Dbl, (∀ strict rnd, to_float r strict rnd = .ok d) ∧ d.WF ∧ 1 ≤ d.ex ∧ d.ex ≤ 2046 ∧ d.sign = r.sign ∧
      doubleVal d = val r := by
  obtain ⟨hb1, hb2⟩ := abs_val_bounds r hm hbc
  have hbn : bitcount r.man ≤ 53 := by omega
  have hE1 : -1022 < r.exp + r.bc := (zpow_lt_zpow_iff_right₀ (by norm_num : (1:ℚ) < 2)).mp (hlow.trans_lt hb2)
  have hE2 : r.exp + r.bc - 1 < 1024 := (zpow_lt_zpow_iff_right₀ (by norm_num : (1:ℚ) < 2)).mp (hb1.trans_lt hhigh)
  obtain ⟨dwf, dex1, dex2, dsig, dq, dsign⟩ :=
    mkDbl_facts r.sign r.man (r.exp + r.bc) hsg hm hbn (by omega) (by omega)
  have hv : (r.man : ℚ) * (2:ℚ) ^ r.exp
      = ((mkDbl r.sign r.man (r.exp + r.bc)).sig : ℚ) * (2:ℚ) ^ (mkDbl r.sign r.man (r.exp + r.bc)).qexp := by
    rw [dsig, dq, show r.exp + r.bc - 53 = (bitcount r.man : ℤ) - 53 + r.exp by omega, norm53_val hbn]
  refine ⟨_, fun strict rnd => to_float_exact r _ hm hsg hb hbn dwf (by omega) dsign hv strict rnd,
    dwf, dex1, dex2, dsign, ?_⟩
  unfold doubleVal val
  rw [dsign, mul_assoc, ← hv, mul_assoc]

theorem to_float_overflow (r : Mpf) (hm : r.man ≠ 0) (hsg : r.sign ≤ 1) (hbc : r.bc = (bitcount r.man : Int))
    (hb : r.bc ≤ 53) (hhigh : (2:ℚ) ^ (1024 : ℤ) ≤ |val r|) (rnd : Rnd) :
    to_float r false rnd = .ok (Dbl.inf r.sign) ∧ to_float r true rnd = .error .overflow := by
  obtain ⟨_, hb2⟩ := abs_val_bounds r hm hbc
  have hbn : bitcount r.man ≤ 53 := by omega
  have hE : 1024 < r.exp + r.bc := (zpow_lt_zpow_iff_right₀ (by norm_num : (1:ℚ) < 2)).mp (hhigh.trans_lt hb2)
  have hnone : roundToDouble r.sign (r.man * 2 ^ (53 - bitcount r.man)) ((bitcount r.man : ℤ) - 53 + r.exp)
      = none := by
    rw [roundToDouble, (norm53_bounds hm hbn).2.2]
    exact if_pos (by push_cast; omega)
  constructor <;> rw [to_float_small r hm hsg hb hbn, hnone]
  · exact (if_neg Bool.false_ne_true).trans (if_pos (by omega))
  · rfl

theorem isRoundN_le (p : ℕ) (x y z : ℚ) (h : IsRoundN p x y) (hz : Repb p z) : |x - y| ≤ |x - z| := by
  rcases h.2 z hz with h1 | ⟨h1, _⟩
  · exact h1.le
  · exact h1.le

theorem isRoundN_lower_pos (p : ℕ) (hp : 1 ≤ p) (x y : ℚ) (e : ℤ) (h : IsRoundN p x y)
    (hx : (2:ℚ) ^ e ≤ x) : (2:ℚ) ^ e ≤ y := by
  have hle := isRoundN_le p x y _ h (by simpa using repb_nat (K := ℚ) (Nat.one_lt_two_pow (by omega : p ≠ 0)) e)
  rw [abs_of_nonneg (sub_nonneg.mpr hx)] at hle
  exact (sub_le_sub_iff_left x).mp ((le_abs_self _).trans hle)

theorem isRoundN_abs_lower (p : ℕ) (hp : 1 ≤ p) (x y : ℚ) (e : ℤ) (h : IsRoundN p x y)
    (hx : (2:ℚ) ^ e ≤ |x|) : (2:ℚ) ^ e ≤ |y| := by
  rcases le_or_gt 0 x with hx0 | hx0
  · rw [abs_of_nonneg hx0] at hx
    exact (isRoundN_lower_pos p hp x y e h hx).trans (le_abs_self y)
  · rw [abs_of_neg hx0] at hx
    exact (isRoundN_lower_pos p hp (-x) (-y) e (isRoundN_neg.mpr h) hx).trans (neg_le_abs y)

theorem repb_val (x : Mpf) (hb : bitcount x.man ≤ 53) : Repb 53 (val x) := by
  have h := repb_nat (K := ℚ) ((bitcount_lt x.man).trans_le (Nat.pow_le_pow_right (by norm_num) hb)) x.exp
  unfold val
  rw [mul_assoc]
  rcases neg_one_pow_eq_or ℚ x.sign with hs | hs <;> rw [hs]
  · rwa [one_mul]
  · rw [neg_one_mul]; exact h.neg

end Mp.H

/-
  MpProofs/World.lean — the context world of C38: a step changes only the context it addresses, every precision stays
  at least 1 (`PrecPos`), what a clone keeps.
-/
import MpModel.World
import MpProofs.PrecConvRoundtrip

namespace Mp.World

variable {C F X V : Type}

theorem setPrec_prec_pos (c : Cell) (n : Int) (h : 1 ≤ c.prec) : 1 ≤ (c.setPrec n).prec := by
  unfold Cell.setPrec
  split
  · exact h
  · exact Int.le_max_left _ _

theorem setDps_prec_pos (c : Cell) (n : Int) (h : 1 ≤ c.prec) : 1 ≤ (c.setDps n).prec := by
  unfold Cell.setDps
  split
  · exact h
  · exact dpsToPrec_pos n

/-- What a statement can do to the list of cells: nothing, rewrite the cell of its target (a precision `≥ 1`
stays `≥ 1`), or append the clone of its target. -/
theorem step_cells_cases (S : Sem C F X V) (w : World C) (op : Op F X) :
    (step S w op).1.cells = w.cells ∨
    (∃ c c', w.cells[op.target]? = some c ∧ (1 ≤ c.prec → 1 ≤ c'.prec) ∧
      (step S w op).1.cells = w.cells.set op.target c') ∨
    (∃ c, w.cells[op.target]? = some c ∧ (step S w op).1.cells = w.cells ++ [c.cloneOf]) := by
  cases op <;> simp only [step, Op.target]
  case setPrec i n =>
    split
    · exact Or.inl rfl
    · next c e => exact Or.inr (Or.inl ⟨c, _, e, setPrec_prec_pos c n, rfl⟩)
  case setDps i n =>
    split
    · exact Or.inl rfl
    · next c e => exact Or.inr (Or.inl ⟨c, _, e, setDps_prec_pos c n, rfl⟩)
  case setRounding i r =>
    split
    · exact Or.inl rfl
    · next c e =>
      split
      · exact Or.inr (Or.inl ⟨c, { c with rounding := r }, e, id, rfl⟩)
      · exact Or.inl rfl
  case setTrap i b =>
    split
    · exact Or.inl rfl
    · next c e => exact Or.inr (Or.inl ⟨c, { c with trap := b }, e, id, rfl⟩)
  case setPretty i b =>
    split
    · exact Or.inl rfl
    · next c e => exact Or.inr (Or.inl ⟨c, { c with pretty := b }, e, id, rfl⟩)
  case default i =>
    split
    · exact Or.inl rfl
    · next c e =>
      split
      · exact Or.inr (Or.inl ⟨c, _, e, fun _ => by simp [Cell.default], rfl⟩)
      · exact Or.inl rfl
  case clone i =>
    split
    · exact Or.inl rfl
    · next c e =>
      split
      · exact Or.inr (Or.inr ⟨c, e, rfl⟩)
      · exact Or.inl rfl
  case eval i f x => split <;> exact Or.inl rfl

theorem step_cells_ne (S : Sem C F X V) (w : World C) (op : Op F X) (j : Nat) (c : Cell)
    (hj : j ≠ op.target) (hc : w.cells[j]? = some c) : (step S w op).1.cells[j]? = some c := by
  rcases step_cells_cases S w op with h | ⟨_, _, _, _, h⟩ | ⟨_, _, h⟩ <;> rw [h]
  · exact hc
  · rw [List.getElem?_set_ne (Ne.symm hj)]; exact hc
  · rw [List.getElem?_append_left ((List.getElem?_eq_some_iff.1 hc).elim fun h _ => h)]; exact hc

theorem runOps_cells_ne (S : Sem C F X V) (ops : List (Op F X)) (w : World C) (j : Nat) (c : Cell)
    (hj : ∀ op ∈ ops, j ≠ op.target) (hc : w.cells[j]? = some c) :
    (runOps S w ops).cells[j]? = some c := by
  induction ops generalizing w with
  | nil => exact hc
  | cons op ops ih =>
    simp only [runOps]
    apply ih
    · intro o ho; exact hj o (List.mem_cons_of_mem _ ho)
    · exact step_cells_ne S w op j c (hj op List.mem_cons_self) hc

/-- every precision ever stored is ≥ 1 -/
def PrecPos (w : World C) : Prop := ∀ c ∈ w.cells, 1 ≤ c.prec

theorem precPos_set (w : World C) (i : Nat) (c' : Cell) (h : PrecPos w) (hc : 1 ≤ c'.prec) :
    ∀ c ∈ w.cells.set i c', 1 ≤ c.prec := by
  intro c hmem
  rcases List.mem_or_eq_of_mem_set hmem with h1 | h1
  · exact h c h1
  · rw [h1]; exact hc

theorem step_precPos (S : Sem C F X V) (w : World C) (op : Op F X) (h : PrecPos w) :
    PrecPos (step S w op).1 := by
  show ∀ c ∈ (step S w op).1.cells, 1 ≤ c.prec
  rcases step_cells_cases S w op with e | ⟨c, c', hc, hpos, e⟩ | ⟨c, hc, e⟩ <;> rw [e]
  · exact h
  · exact precPos_set w _ c' h (hpos (h c (List.mem_of_getElem? hc)))
  · intro c' hmem
    rcases List.mem_append.mp hmem with h1 | h1
    · exact h c' h1
    · rw [List.mem_singleton.mp h1]
      exact setPrec_prec_pos _ _ (by decide)

theorem runOps_precPos (S : Sem C F X V) (ops : List (Op F X)) (w : World C) (h : PrecPos w) :
    PrecPos (runOps S w ops) := by
  induction ops generalizing w with
  | nil => exact h
  | cons op ops ih => exact ih _ (step_precPos S w op h)

theorem init_precPos (c0 : C) : PrecPos (init c0) := by
  intro c hc
  simp only [init, List.mem_cons, List.mem_nil_iff, or_false] at hc
  rcases hc with rfl | rfl | rfl <;> decide

/-- the clone's cell: same kind of context, SAME precision, default everything else -/
theorem cloneOf_prec (c : Cell) (h : 1 ≤ c.prec) : c.cloneOf.prec = c.prec := by
  simp only [Cell.cloneOf, Cell.setPrec, freshMp]
  exact Int.max_eq_right h

theorem cloneOf_kind (c : Cell) : c.cloneOf.kind = .mp := by
  simp [Cell.cloneOf, Cell.setPrec, freshMp]

theorem cloneOf_rounding (c : Cell) : c.cloneOf.rounding = .n := by
  simp [Cell.cloneOf, Cell.setPrec, freshMp]

end Mp.World

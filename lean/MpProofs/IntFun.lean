/-
  MpProofs/IntFun.lean — helper lemmas and specification vocabulary for property C25
  (integer-valued functions of libintmath.py): dictionaries, `ifac`, `ifac2`, `ifib`, `gcd`.
-/
import MpModel.IntFun
import Mathlib.Data.Nat.Factorial.Basic
import Mathlib.Data.Nat.Factorial.DoubleFactorial
import Mathlib.Data.Nat.Fib.Basic
import Mathlib.Data.Int.GCD
import Mathlib.Tactic.Ring
import Mathlib.Tactic.Linarith
import Mathlib.Tactic.NormNum
import Mathlib.Tactic.Zify

namespace Mp

open Nat

/-! ## dictionaries -/

theorem dget_dset (d : IDict) (k v k' : Int) :
    dget (dset d k v) k' = if k = k' then some v else dget d k' := by
  induction d with
  | nil => simp [dset, dget]
  | cons h t ih =>
    obtain ⟨a, b⟩ := h
    by_cases hak : a = k
    · subst hak; by_cases h2 : a = k' <;> simp [dset, dget, h2]
    · by_cases h2 : a = k'
      · subst h2
        have : ¬ k = a := fun h => hak h.symm
        simp [dset, dget, hak, this]
      · simp [dset, dget, hak, h2, ih]

/-- a per-entry cache invariant survives `d[n] = w` -/
theorem forall_dget_dset {P : Int → Int → Prop} {c : IDict} {n w : Int}
    (h : ∀ k v, dget c k = some v → P k v) (hw : P n w) :
    ∀ k v, dget (dset c n w) k = some v → P k v := by
  intro k v hk
  rw [dget_dset] at hk
  by_cases hnk : n = k
  · rw [if_pos hnk] at hk
    cases hk
    exact hnk ▸ hw
  · rw [if_neg hnk] at hk
    exact h k v hk

theorem dget_append_single (d : IDict) (k v x : Int) :
    dget (d ++ [(k, v)]) x = match dget d x with
      | some w => some w
      | none => if k = x then some v else none := by
  induction d with
  | nil => simp [dget]
  | cons h t ih =>
    obtain ⟨a, b⟩ := h
    by_cases h2 : a = x <;> simp [dget, h2, ih]

theorem dset_of_dget_none (d : IDict) (k v : Int) (h : dget d k = none) :
    dset d k v = d ++ [(k, v)] := by
  induction d with
  | nil => simp [dset]
  | cons hd t ih =>
    obtain ⟨a, b⟩ := hd
    by_cases h2 : a = k
    · simp [dget, h2] at h
    · simp only [dget, h2, if_false] at h
      simp [dset, h2, ih h]

theorem dmaxKey_append_single (d : IDict) (k v : Int) (h : ∀ x ∈ d, x.1 < k) :
    dmaxKey (d ++ [(k, v)]) = some k := by
  induction d with
  | nil => simp [dmaxKey]
  | cons hd t ih =>
    obtain ⟨a, b⟩ := hd
    have h1 : a < k := h (a, b) (by simp)
    have h2 := ih (fun x hx => h x (by simp [hx]))
    simp only [List.cons_append, dmaxKey, h2]
    rw [if_neg (by omega)]

/-! ## integer lists read with `getD · 0` -/

theorem getD_set_int (L : List Int) (a i : Nat) (v : Int) :
    (L.set a v).getD i 0 = if a = i ∧ a < L.length then v else L.getD i 0 := by
  rw [List.getD_eq_getElem?_getD, List.getD_eq_getElem?_getD, List.getElem?_set]
  by_cases h : a = i
  · subst h
    by_cases h2 : a < L.length
    · simp [h2]
    · simp [h2]
  · simp [h]

theorem list_ext_getD (L1 L2 : List Int) (hl : L1.length = L2.length)
    (h : ∀ i, i < L1.length → L1.getD i 0 = L2.getD i 0) : L1 = L2 := by
  apply List.ext_getElem hl
  intro i h1 h2
  have := h i h1
  rw [List.getD_eq_getElem?_getD, List.getD_eq_getElem?_getD, List.getElem?_eq_getElem h1,
    List.getElem?_eq_getElem h2] at this
  exact this

/-- `if key <= MAX: memo[key] = val` on the `j`-th table of a family capped at `cap` entries -/
theorem dset_capped (T : Nat → IDict) (cap j : Nat) (key val : Int)
    (hkey : key ≤ MAX_FACTORIAL_CACHE ↔ j < cap) (hset : dset (T j) key val = T (j + 1)) :
    (if key ≤ MAX_FACTORIAL_CACHE then dset (T (min j cap)) key val else T (min j cap))
      = T (min (j + 1) cap) := by
  by_cases h : key ≤ MAX_FACTORIAL_CACHE
  · have := hkey.1 h
    rw [if_pos h, Nat.min_eq_left (by omega), Nat.min_eq_left (by omega), hset]
  · have := mt hkey.2 h
    rw [if_neg h, Nat.min_eq_right (by omega), Nat.min_eq_right (by omega)]

/-! ## ifac -/

/-- the memo holding exactly the entries `0 ↦ 0!, …, K-1 ↦ (K-1)!` in insertion order -/
def facTable (K : Nat) : IDict := (List.range K).map (fun (i : Nat) => ((i : Int), ((Nat.factorial i : Nat) : Int)))

theorem facTable_succ (K : Nat) : facTable (K + 1) = facTable K ++ [((K : Int), ((Nat.factorial K : Nat) : Int))] := by
  simp [facTable, List.range_succ]

theorem dlen_facTable (K : Nat) : dlen (facTable K) = K := by simp [dlen, facTable]

theorem dget_facTable (K : Nat) (x : Int) :
    dget (facTable K) x = if 0 ≤ x ∧ x < K then some ((Nat.factorial x.toNat : Nat) : Int) else none := by
  induction K with
  | zero =>
    have : ¬ (0 ≤ x ∧ x < 0) := by omega
    simp [facTable, dget, this]
  | succ K ih =>
    rw [facTable_succ, dget_append_single, ih]
    by_cases h : 0 ≤ x ∧ x < K
    · have h' : 0 ≤ x ∧ x < (K : Int) + 1 := by omega
      simp [h, h']
    · by_cases h2 : (K : Int) = x
      · have h' : 0 ≤ x ∧ x < (K : Int) + 1 := by omega
        subst h2
        simp
      · have h' : ¬ (0 ≤ x ∧ x < (K : Int) + 1) := by omega
        simp [h, h', h2]

theorem dset_facTable (K : Nat) : dset (facTable K) K ((Nat.factorial K : Nat) : Int) = facTable (K + 1) := by
  rw [facTable_succ]
  apply dset_of_dget_none
  rw [dget_facTable]
  simp

/-- the invariant of the factorial memo: it is `facTable K` for some `2 ≤ K ≤ MAX+1` -/
def FacInv (memo : IDict) : Prop := ∃ K : Nat, 2 ≤ K ∧ K ≤ 1001 ∧ memo = facTable K

theorem facInv_init : FacInv ifacMemo0 := ⟨2, by omega, by omega, by simp [ifacMemo0, facTable, List.range_succ]⟩

theorem ifacLoop_spec (fuel k : Nat) (n : Int) (hk : 1 ≤ k) (hf : fuel = (n + 1 - k).toNat) :
    ifacLoop fuel k ((Nat.factorial (k - 1) : Nat) : Int) n (facTable (min k 1001))
      = (((Nat.factorial (k - 1 + fuel) : Nat) : Int), facTable (min (k + fuel) 1001)) := by
  induction fuel generalizing k with
  | zero => simp [ifacLoop]
  | succ fuel ih =>
    have hkn : (k : Int) ≤ n := by omega
    have hp : ((Nat.factorial (k - 1) : Nat) : Int) * (k : Int) = ((Nat.factorial ((k + 1) - 1) : Nat) : Int) := by
      obtain ⟨j, rfl⟩ : ∃ j, k = j + 1 := ⟨k - 1, by omega⟩
      simp only [Nat.add_sub_cancel]
      rw [Nat.factorial_succ]; push_cast; ring
    have hm : (if (k : Int) ≤ MAX_FACTORIAL_CACHE
        then dset (facTable (min k 1001)) k (((Nat.factorial (k - 1) : Nat) : Int) * (k : Int))
        else facTable (min k 1001)) = facTable (min (k + 1) 1001) := by
      rw [hp]
      exact dset_capped facTable 1001 k _ _ (by simp only [MAX_FACTORIAL_CACHE]; omega)
        (by simpa using dset_facTable k)
    have := ih (k + 1) (by omega) (by push_cast; omega)
    simp only [ifacLoop, hkn, if_true]
    rw [hm, hp]
    have e : ((k : Int) + 1) = ((k + 1 : Nat) : Int) := by push_cast; rfl
    rw [e, this]
    have e1 : k + 1 - 1 + fuel = k - 1 + (fuel + 1) := by omega
    have e2 : k + 1 + fuel = k + (fuel + 1) := by omega
    rw [e1, e2]

/-- `ifac` on a memo satisfying the invariant: total, correct for `n ≥ 0`, and for `n < 0`
(outside the documented domain) it returns `(len(memo)-1)!`, a history-dependent value. -/
theorem ifac_of_inv (n : Int) (memo : IDict) (h : FacInv memo) :
    ∃ memo', ifac n memo = .ok ((if 0 ≤ n then ((Nat.factorial n.toNat : Nat) : Int)
        else ((Nat.factorial (dlen memo - 1).toNat : Nat) : Int)), memo') ∧ FacInv memo' := by
  obtain ⟨K, hK2, hK, rfl⟩ := h
  unfold ifac dgetTruthy
  rw [dget_facTable]
  by_cases hin : 0 ≤ n ∧ n < K
  · have hne : ((Nat.factorial n.toNat : Nat) : Int) ≠ 0 := by
      exact_mod_cast (Nat.factorial_pos _).ne'
    refine ⟨facTable K, ?_, ⟨K, hK2, hK, rfl⟩⟩
    rw [if_pos hin]
    simp only [ne_eq, hne, not_false_eq_true, if_true, hin.1]
  · simp only [hin, if_false]
    rw [dlen_facTable, dget_facTable]
    have h1 : (0 : Int) ≤ (K : Int) - 1 ∧ (K : Int) - 1 < K := by omega
    simp only [h1, and_self, if_true]
    have hk1 : ((K : Int) - 1).toNat = K - 1 := by omega
    rw [hk1]
    have hmin : facTable K = facTable (min K 1001) := by rw [Nat.min_eq_left hK]
    rw [hmin, ifacLoop_spec _ K n (by omega) rfl]
    refine ⟨_, ?_, ⟨min (K + (n + 1 - K).toNat) 1001, by omega, by omega, rfl⟩⟩
    by_cases hn : 0 ≤ n
    · have : K - 1 + (n + 1 - (K : Int)).toNat = n.toNat := by omega
      rw [this, if_pos hn]
    · have : K - 1 + (n + 1 - (K : Int)).toNat = K - 1 := by omega
      rw [this, if_neg hn]

/-! ## ifac2 -/

/-- the memo of parity `par` holding `par ↦ par‼, 2+par ↦ (2+par)‼, …` (K entries) in insertion order -/
def fac2Table (par K : Nat) : IDict :=
  (List.range K).map (fun (i : Nat) => (((2 * i + par : Nat) : Int), ((Nat.doubleFactorial (2 * i + par) : Nat) : Int)))

/-- largest number of entries of the parity-`par` memo: keys `2i+par ≤ 1000` -/
def fac2Cap (par : Nat) : Nat := (1000 - par) / 2 + 1

theorem fac2Table_succ (par K : Nat) : fac2Table par (K + 1) = fac2Table par K ++
    [(((2 * K + par : Nat) : Int), ((Nat.doubleFactorial (2 * K + par) : Nat) : Int))] := by
  simp [fac2Table, List.range_succ]

theorem dget_fac2Table (par K : Nat) (hp : par < 2) (x : Int) :
    dget (fac2Table par K) x = if 0 ≤ x ∧ x < 2 * K + par ∧ x % 2 = par
      then some ((Nat.doubleFactorial x.toNat : Nat) : Int) else none := by
  induction K with
  | zero =>
    have : ¬ (0 ≤ x ∧ x < 2 * ((0 : Nat) : Int) + par ∧ x % 2 = par) := by omega
    simp only [this, if_false]; simp [fac2Table, dget]
  | succ K ih =>
    rw [fac2Table_succ, dget_append_single, ih]
    by_cases h : 0 ≤ x ∧ x < 2 * K + par ∧ x % 2 = par
    · have h' : 0 ≤ x ∧ x < 2 * ((K + 1 : Nat) : Int) + par ∧ x % 2 = par := by omega
      rw [if_pos h, if_pos h']
    · by_cases h2 : ((2 * K + par : Nat) : Int) = x
      · have h' : 0 ≤ x ∧ x < 2 * ((K + 1 : Nat) : Int) + par ∧ x % 2 = par := by omega
        rw [if_neg h, if_pos h']
        subst h2
        simp only [Int.toNat_natCast, if_true]
      · have h' : ¬ (0 ≤ x ∧ x < 2 * ((K + 1 : Nat) : Int) + par ∧ x % 2 = par) := by omega
        rw [if_neg h, if_neg h']
        simp only [h2, if_false]

theorem dset_fac2Table (par K : Nat) (hp : par < 2) :
    dset (fac2Table par K) ((2 * K + par : Nat) : Int) ((Nat.doubleFactorial (2 * K + par) : Nat) : Int)
      = fac2Table par (K + 1) := by
  rw [fac2Table_succ]
  apply dset_of_dget_none
  rw [dget_fac2Table par K hp]
  have : ¬ (0 ≤ ((2 * K + par : Nat) : Int) ∧ ((2 * K + par : Nat) : Int) < 2 * K + par ∧
      ((2 * K + par : Nat) : Int) % 2 = par) := by omega
  rw [if_neg this]

theorem dmaxKey_fac2Table (par K : Nat) : dmaxKey (fac2Table par (K + 1)) = some ((2 * K + par : Nat) : Int) := by
  rw [fac2Table_succ]
  apply dmaxKey_append_single
  intro x hx
  simp only [fac2Table, List.mem_map, List.mem_range] at hx
  obtain ⟨i, hi, rfl⟩ := hx
  simp only
  omega

/-- invariant of `memo_pair`: the even and the odd memo are complete tables up to their largest key -/
def Fac2Inv (pair : IDict × IDict) : Prop :=
  ∃ Ke Ko : Nat, 1 ≤ Ke ∧ Ke ≤ fac2Cap 0 ∧ 1 ≤ Ko ∧ Ko ≤ fac2Cap 1 ∧
    pair = (fac2Table 0 Ke, fac2Table 1 Ko)

theorem fac2Inv_init : Fac2Inv ifac2Memo0 :=
  ⟨1, 1, by decide, by decide, by decide, by decide, by simp [ifac2Memo0, fac2Table]⟩

theorem ifac2Loop_spec (par : Nat) (hp : par < 2) (fuel j t : Nat) (n : Int) (ht : t ≤ fuel)
    (hn : n = ((2 * (j + t) + par : Nat) : Int)) :
    ifac2Loop fuel ((2 * j + par : Nat) : Int) ((Nat.doubleFactorial (2 * j + par) : Nat) : Int) n
        (fac2Table par (min (j + 1) (fac2Cap par)))
      = (((Nat.doubleFactorial (2 * (j + t) + par) : Nat) : Int), fac2Table par (min (j + t + 1) (fac2Cap par))) := by
  induction fuel generalizing j t with
  | zero =>
    have : t = 0 := by omega
    subst this; simp [ifac2Loop]
  | succ fuel ih =>
    by_cases hlt : ((2 * j + par : Nat) : Int) < n
    · obtain ⟨t', rfl⟩ : ∃ t', t = t' + 1 := ⟨t - 1, by omega⟩
      have hk' : ((2 * j + par : Nat) : Int) + 2 = ((2 * (j + 1) + par : Nat) : Int) := by push_cast; ring
      have hp' : ((Nat.doubleFactorial (2 * j + par) : Nat) : Int) * ((2 * (j + 1) + par : Nat) : Int)
          = ((Nat.doubleFactorial (2 * (j + 1) + par) : Nat) : Int) := by
        have : 2 * (j + 1) + par = (2 * j + par) + 2 := by ring
        rw [this, Nat.doubleFactorial_add_two]; push_cast; ring
      have hm : (if ((2 * (j + 1) + par : Nat) : Int) ≤ MAX_FACTORIAL_CACHE
          then dset (fac2Table par (min (j + 1) (fac2Cap par))) ((2 * (j + 1) + par : Nat) : Int)
            ((Nat.doubleFactorial (2 * (j + 1) + par) : Nat) : Int)
          else fac2Table par (min (j + 1) (fac2Cap par))) = fac2Table par (min (j + 1 + 1) (fac2Cap par)) :=
        dset_capped (fac2Table par) (fac2Cap par) (j + 1) _ _
          (by simp only [MAX_FACTORIAL_CACHE, fac2Cap]; omega) (dset_fac2Table par (j + 1) hp)
      have := ih (j + 1) t' (by omega) (by rw [hn]; congr 1; ring)
      simp only [ifac2Loop, hlt, if_true]
      rw [hk', hp', hm, this]
      have e : j + 1 + t' = j + (t' + 1) := by ring
      rw [e]
    · have : t = 0 := by push_cast at hlt hn; omega
      subst this
      simp only [ifac2Loop, hlt, if_false, Nat.add_zero]

/-- `ifac2` on the memo of `n`'s parity, a complete table of `K ≥ 1` entries: `n ≥ 0` gets `n‼` and the table grows
towards `n`; `n < 0` (outside the documented domain) gets the value under the largest key and nothing changes. -/
theorem ifac2_of_table (n : Int) (pair : IDict × IDict) (par K : Nat) (hp : par < 2) (hnp : n % 2 = par)
    (hK1 : 1 ≤ K) (hKc : K ≤ fac2Cap par)
    (hsel : (if n % 2 = 1 then pair.2 else pair.1) = fac2Table par K) :
    ∃ v K', ifac2 n pair
        = .ok (v, if n % 2 = 1 then (pair.1, fac2Table par K') else (fac2Table par K', pair.2)) ∧
      1 ≤ K' ∧ K' ≤ fac2Cap par ∧ (0 ≤ n → v = ((Nat.doubleFactorial n.toNat : Nat) : Int)) ∧
      (n < 0 → K' = K) := by
  unfold ifac2 dgetTruthy
  simp only [hsel]
  rw [dget_fac2Table par K hp]
  by_cases hin : 0 ≤ n ∧ n < 2 * K + par ∧ n % 2 = par
  · have hne : ((Nat.doubleFactorial n.toNat : Nat) : Int) ≠ 0 := by
      exact_mod_cast (Nat.doubleFactorial_pos _).ne'
    have hpair : (if n % 2 = 1 then (pair.1, fac2Table par K) else (fac2Table par K, pair.2)) = pair := by
      by_cases h : n % 2 = 1
      · rw [if_pos h] at hsel ⊢; rw [← hsel]
      · rw [if_neg h] at hsel ⊢; rw [← hsel]
    refine ⟨_, K, ?_, hK1, hKc, fun _ => rfl, fun h => absurd hin.1 (by omega)⟩
    rw [if_pos hin, hpair]
    simp only [ne_eq, hne, not_false_eq_true, if_true]
  · rw [if_neg hin]
    simp only
    obtain ⟨K', rfl⟩ : ∃ K', K = K' + 1 := ⟨K - 1, by omega⟩
    rw [dmaxKey_fac2Table]
    simp only
    rw [dget_fac2Table par _ hp, if_pos (by omega)]
    simp only [Int.toNat_natCast]
    by_cases hn : 0 ≤ n
    · -- `n = 2 (K' + t) + par` lies `t` steps beyond the largest key
      obtain ⟨t, ht⟩ : ∃ t : Nat, n = ((2 * (K' + t) + par : Nat) : Int) :=
        ⟨((n - par) / 2).toNat - K', by omega⟩
      have hnn : n.toNat = 2 * (K' + t) + par := by omega
      have h1 : 1 ≤ fac2Cap par := by unfold fac2Cap; omega
      rw [← Nat.min_eq_left hKc, ifac2Loop_spec par hp _ K' t n (by omega) ht, hnn]
      exact ⟨_, _, rfl, by omega, Nat.min_le_right _ _, fun _ => rfl, fun h => absurd hn (by omega)⟩
    · have hf : (n - ((2 * K' + par : Nat) : Int)).toNat = 0 := by omega
      simp only [hf, ifac2Loop]
      exact ⟨_, _, rfl, hK1, hKc, fun h => absurd h hn, fun _ => rfl⟩

theorem ifac2_of_inv (n : Int) (pair : IDict × IDict) (h : Fac2Inv pair) (hn : 0 ≤ n) :
    ∃ pair', ifac2 n pair = .ok (((Nat.doubleFactorial n.toNat : Nat) : Int), pair') ∧ Fac2Inv pair' := by
  obtain ⟨Ke, Ko, hKe1, hKe, hKo1, hKo, rfl⟩ := h
  by_cases ho : n % 2 = 1
  · obtain ⟨v, K', he, h1, hc, hv, _⟩ :=
      ifac2_of_table n (fac2Table 0 Ke, fac2Table 1 Ko) 1 Ko (by omega) (by omega) hKo1 hKo (if_pos ho)
    rw [if_pos ho, hv hn] at he
    exact ⟨_, he, Ke, K', hKe1, hKe, h1, hc, rfl⟩
  · obtain ⟨v, K', he, h1, hc, hv, _⟩ :=
      ifac2_of_table n (fac2Table 0 Ke, fac2Table 1 Ko) 0 Ke (by omega) (by omega) hKe1 hKe (if_neg ho)
    rw [if_neg ho, hv hn] at he
    exact ⟨_, he, K', Ko, h1, hc, hKo1, hKo, rfl⟩

theorem ifac2_neg (n : Int) (pair : IDict × IDict) (h : Fac2Inv pair) (hn : n < 0) :
    ∃ v, ifac2 n pair = .ok (v, pair) := by
  obtain ⟨Ke, Ko, hKe1, hKe, hKo1, hKo, rfl⟩ := h
  by_cases ho : n % 2 = 1
  · obtain ⟨v, K', he, _, _, _, hk⟩ :=
      ifac2_of_table n (fac2Table 0 Ke, fac2Table 1 Ko) 1 Ko (by omega) (by omega) hKo1 hKo (if_pos ho)
    rw [if_pos ho, hk hn] at he
    exact ⟨v, he⟩
  · obtain ⟨v, K', he, _, _, _, hk⟩ :=
      ifac2_of_table n (fac2Table 0 Ke, fac2Table 1 Ko) 0 Ke (by omega) (by omega) hKe1 hKe (if_neg ho)
    rw [if_neg ho, hk hn] at he
    exact ⟨v, he⟩

/-! ## ifib -/

/-- the Fibonacci numbers extended to negative indices: `F(-n) = (-1)^(n+1) F(n)` -/
def fibZ (n : Int) : Int :=
  if n < 0 then (-1) ^ ((-n).toNat + 1) * (Nat.fib (-n).toNat : Int) else (Nat.fib n.toNat : Int)

theorem ifibLoop_spec (fuel n i j : Nat) (h : n ≤ fuel) :
    ifibLoop fuel n (Nat.fib (i + 1)) (Nat.fib i) (Nat.fib j) (Nat.fib (j + 1))
      = (Nat.fib (i + n * (j + 1)) : Int) := by
  induction fuel generalizing n i j with
  | zero =>
    have : n = 0 := by omega
    subst this; simp [ifibLoop]
  | succ fuel ih =>
    unfold ifibLoop
    by_cases h0 : n = 0
    · subst h0; simp
    · rw [if_neg h0]
      by_cases hodd : n % 2 = 1
      · rw [if_pos hodd]
        have ha : (Nat.fib i : Int) * (Nat.fib (j + 1)) + (Nat.fib (i + 1)) * (Nat.fib (j + 1))
            + (Nat.fib (i + 1)) * (Nat.fib j) = (Nat.fib (i + (j + 1) + 1) : Int) := by
          rw [Nat.fib_add i (j + 1), Nat.fib_add_two (n := j)]; push_cast; ring
        have hb : (Nat.fib i : Int) * (Nat.fib j) + (Nat.fib (i + 1)) * (Nat.fib (j + 1))
            = (Nat.fib (i + (j + 1)) : Int) := by
          rw [show i + (j + 1) = i + j + 1 by ring, Nat.fib_add i j]; push_cast; ring
        simp only []
        rw [ha, hb, ih (n - 1) (i + (j + 1)) j (by omega)]
        congr 2
        obtain ⟨m, rfl⟩ : ∃ m, n = m + 1 := ⟨n - 1, by omega⟩
        simp only [Nat.add_sub_cancel]; ring
      · rw [if_neg hodd]
        have hp : (Nat.fib j : Int) * (Nat.fib j) + (Nat.fib (j + 1)) * (Nat.fib (j + 1))
            = (Nat.fib (2 * j + 1) : Int) := by
          rw [Nat.fib_two_mul_add_one]; push_cast; ring
        have hq : (Nat.fib (j + 1) : Int) * (Nat.fib (j + 1)) + 2 * (Nat.fib j) * (Nat.fib (j + 1))
            = (Nat.fib (2 * j + 1 + 1) : Int) := by
          rw [show 2 * j + 1 + 1 = 2 * j + 2 by ring, Nat.fib_two_mul_add_two]; push_cast; ring
        simp only []
        rw [hp, hq, ih (n / 2) i (2 * j + 1) (by omega)]
        congr 2
        have : n = 2 * (n / 2) := by omega
        calc i + n / 2 * (2 * j + 1 + 1) = i + (2 * (n / 2)) * (j + 1) := by ring
          _ = i + n * (j + 1) := by rw [← this]

theorem ifibLoop_init (n : Nat) : ifibLoop n n 1 0 0 1 = (Nat.fib n : Int) := by
  have := ifibLoop_spec n n 0 0 (le_refl n)
  simpa using this

/-- invariant of the Fibonacci cache: every stored entry `k ↦ v` has `0 ≤ k < 250` and `v = F(k)` -/
def FibInv (cache : IDict) : Prop :=
  ∀ k v, dget cache k = some v → 0 ≤ k ∧ k < 250 ∧ v = (Nat.fib k.toNat : Int)

theorem fibInv_init : FibInv [] := by intro k v h; simp [dget] at h

theorem ifibNonneg_of_inv (n : Nat) (cache : IDict) (h : FibInv cache) :
    (ifibNonneg n cache).1 = (Nat.fib n : Int) ∧ FibInv (ifibNonneg n cache).2 := by
  unfold ifibNonneg
  cases hg : dget cache (n : Int) with
  | some v =>
    have := h _ _ hg
    simp only [Int.toNat_natCast] at this
    exact ⟨this.2.2, h⟩
  | none =>
    simp only [ifibLoop_init]
    refine ⟨trivial, ?_⟩
    split
    · exact forall_dget_dset h ⟨by omega, by omega, by simp⟩
    · exact h

theorem ifib_of_inv (n : Int) (cache : IDict) (h : FibInv cache) :
    (ifib n cache).1 = fibZ n ∧ FibInv (ifib n cache).2 := by
  unfold ifib fibZ
  by_cases hn : n < 0
  · simp only [hn, if_true]
    have := ifibNonneg_of_inv (-n).toNat cache h
    refine ⟨?_, this.2⟩
    rw [this.1]
    have : (-n + 1).toNat = (-n).toNat + 1 := by omega
    rw [this]
  · simp only [hn, if_false]
    exact ifibNonneg_of_inv n.toNat cache h

/-! ## gcd -/

theorem natAbs_fmod_lt (a b : Int) (hb : b ≠ 0) : (a.fmod b).natAbs < b.natAbs := by
  rcases lt_or_gt_of_ne hb with h | h
  · have h1 := Int.fmod_nonneg_of_pos (-a) (b := -b) (by omega)
    have h2 := Int.fmod_lt_of_pos (-a) (b := -b) (by omega)
    rw [Int.neg_fmod_neg] at h1 h2
    omega
  · have h1 := Int.fmod_nonneg_of_pos a h
    have h2 := Int.fmod_lt_of_pos a h
    omega

theorem gcdLoop_natAbs (fuel : Nat) (a b : Int) (h : b.natAbs < fuel) :
    (gcdLoop fuel a b).natAbs = Int.gcd a b := by
  induction fuel generalizing a b with
  | zero => omega
  | succ fuel ih =>
    unfold gcdLoop
    by_cases hb : b = 0
    · subst hb; simp
    · rw [if_pos hb, ih b (a.fmod b) (by have := natAbs_fmod_lt a b hb; omega)]
      rw [Int.fmod_def, Int.gcd_sub_mul_left_right, Int.gcd_comm]

theorem gcdLoop_nonneg (fuel : Nat) (a b : Int) (ha : 0 ≤ a) (hb : 0 ≤ b) : 0 ≤ gcdLoop fuel a b := by
  induction fuel generalizing a b with
  | zero => simpa [gcdLoop] using ha
  | succ fuel ih =>
    unfold gcdLoop
    by_cases hb0 : b = 0
    · simp [hb0, ha]
    · rw [if_pos hb0]
      exact ih b (a.fmod b) hb (Int.fmod_nonneg_of_pos a (by omega))

/-- one step of the `for b in args` loop of `gcd` -/
def gcdStep (a b : Int) : Int := if a ≠ 0 then gcdLoop (b.natAbs + 1) a b else b

theorem gcd_eq_foldl (args : List Int) : gcd args = args.foldl gcdStep 0 := rfl

theorem gcdStep_natAbs (a b : Int) : (gcdStep a b).natAbs = Nat.gcd a.natAbs b.natAbs := by
  unfold gcdStep
  by_cases ha : a = 0
  · subst ha; simp
  · rw [if_pos ha, gcdLoop_natAbs _ _ _ (by omega)]; rfl

theorem gcdStep_nonneg (a b : Int) (ha : 0 ≤ a) (hb : 0 ≤ b) : 0 ≤ gcdStep a b := by
  unfold gcdStep
  split
  · exact gcdLoop_nonneg _ _ _ ha hb
  · exact hb

theorem foldl_gcdStep_natAbs (args : List Int) (a : Int) :
    (args.foldl gcdStep a).natAbs = args.foldl (fun g x => Nat.gcd g x.natAbs) a.natAbs := by
  induction args generalizing a with
  | nil => rfl
  | cons x t ih => simp only [List.foldl_cons]; rw [ih, gcdStep_natAbs]

theorem foldl_gcdStep_nonneg (args : List Int) (a : Int) (ha : 0 ≤ a) (h : ∀ x ∈ args, 0 ≤ x) :
    0 ≤ args.foldl gcdStep a := by
  induction args generalizing a with
  | nil => exact ha
  | cons x t ih =>
    simp only [List.foldl_cons]
    exact ih _ (gcdStep_nonneg a x ha (h x (by simp))) (fun y hy => h y (by simp [hy]))

end Mp

/-
  MpProofs/Helpers.lean — lemmas for C40 (hex round trip, dict/heap model of matrices) and
  C39 (magnitude, nearest integer, classification helpers).
  All lemmas live in the namespace `Mp.H`; the property files `open H`.
-/
import MpModel.Helpers
import MpProofs.Bits
import Mathlib.Tactic.IntervalCases

namespace Mp.H

theorem hexVal_hexDigitChar : ∀ d : Nat, d < 16 → hexVal (hexDigitChar d) = some d := by
  intro d hd
  interval_cases d <;> decide

theorem ofHexList_append (l : List Char) (c : Char) (a : Nat) :
    ofHexList (l ++ [c]) a = (ofHexList l a).bind (fun v => (hexVal c).map (fun d => v * 16 + d)) := by
  induction l generalizing a with
  | nil => simp [ofHexList]; cases hexVal c <;> simp
  | cons x xs ih =>
    simp only [List.cons_append, ofHexList]
    cases hexVal x with
    | none => simp
    | some d => simp [ih]

theorem ofHexList_toHexDigitsAux (fuel n : Nat) (h : n < 16 * 16 ^ fuel) :
    ofHexList (toHexDigitsAux fuel n) 0 = some n := by
  induction fuel generalizing n with
  | zero =>
    have : n < 16 := by simpa using h
    simp [toHexDigitsAux, ofHexList, Nat.mod_eq_of_lt this, hexVal_hexDigitChar n this]
  | succ f ih =>
    unfold toHexDigitsAux
    split
    · rename_i h16
      simp [ofHexList, hexVal_hexDigitChar n h16]
    · have h1 : n / 16 < 16 * 16 ^ f := by
        rw [Nat.div_lt_iff_lt_mul (by norm_num)]; rw [pow_succ] at h; omega
      rw [ofHexList_append, ih _ h1, hexVal_hexDigitChar _ (Nat.mod_lt _ (by norm_num))]
      simp; omega

theorem toHexDigits_ne_nil (n : Nat) : toHexDigits n ≠ [] := by
  unfold toHexDigits
  cases bitcount n with
  | zero => simp [toHexDigitsAux]
  | succ f => unfold toHexDigitsAux; split <;> simp

theorem Dict.get?_cons (k' : Nat × Nat) (v : Entry) (r : Dict) (k : Nat × Nat) :
    Dict.get? ((k', v) :: r) k = if k' = k then some v else Dict.get? r k := by
  rw [Dict.get?]

theorem Dict.get?_erase_eq (d : Dict) (k : Nat × Nat) : (Dict.erase d k).get? k = none := by
  induction d with
  | nil => rfl
  | cons x r ih =>
    obtain ⟨k', v⟩ := x
    by_cases he : k' = k <;> simp [Dict.erase, Dict.get?_cons, he, ih]

theorem Dict.get?_erase_ne (d : Dict) (k k2 : Nat × Nat) (h : k ≠ k2) :
    (Dict.erase d k).get? k2 = d.get? k2 := by
  induction d with
  | nil => rfl
  | cons x r ih =>
    obtain ⟨k', v⟩ := x
    by_cases he : k' = k
    · subst he; simp [Dict.erase, Dict.get?_cons, h, ih]
    · simp [Dict.erase, Dict.get?_cons, he, ih]

theorem Dict.get?_set_eq (d : Dict) (k : Nat × Nat) (v : Entry) : (d.set k v).get? k = some v := by
  simp [Dict.set, Dict.get?_cons]

theorem Dict.get?_set_ne (d : Dict) (k k2 : Nat × Nat) (v : Entry) (h : k ≠ k2) :
    (d.set k v).get? k2 = d.get? k2 := by
  simp [Dict.set, Dict.get?_cons, h, Dict.get?_erase_ne d k k2 h]

theorem Heap.read_alloc_old (h : Heap) (d : Dict) (a : Nat) (ha : a < h.objs.length) :
    (h.alloc d).1.read a = h.read a := by
  simp [Heap.alloc, Heap.read, List.getD_eq_getElem?_getD, List.getElem?_append_left ha]

theorem Heap.read_alloc_new (h : Heap) (d : Dict) : (h.alloc d).1.read (h.alloc d).2 = d := by
  simp [Heap.alloc, Heap.read, List.getD_eq_getElem?_getD]

theorem Heap.read_write_eq (h : Heap) (a : Nat) (d : Dict) (ha : a < h.objs.length) :
    (h.write a d).read a = d := by
  simp [Heap.write, Heap.read, List.getD_eq_getElem?_getD, ha]

theorem Heap.read_write_ne (h : Heap) (a b : Nat) (d : Dict) (hab : a ≠ b) :
    (h.write a d).read b = h.read b := by
  simp [Heap.write, Heap.read, List.getD_eq_getElem?_getD, List.getElem?_set_ne hab]

theorem Heap.alloc_length (h : Heap) (d : Dict) : (h.alloc d).1.objs.length = h.objs.length + 1 := by
  simp [Heap.alloc]

theorem Heap.alloc_snd (h : Heap) (d : Dict) : (h.alloc d).2 = h.objs.length := rfl

theorem matCopy_facts (h : Heap) (m : Mat) (hm : m.ref < h.objs.length) :
    (matCopy h m).2.rows = m.rows ∧ (matCopy h m).2.cols = m.cols ∧
    (matCopy h m).2.ref = h.objs.length + 1 ∧
    (matCopy h m).1.objs.length = h.objs.length + 2 ∧
    (matCopy h m).1.read (matCopy h m).2.ref = h.read m.ref ∧
    (matCopy h m).1.read m.ref = h.read m.ref := by
  have h1 : ((h.alloc []).1.read m.ref) = h.read m.ref := Heap.read_alloc_old h [] m.ref hm
  have hm' : m.ref < (h.alloc []).1.objs.length := by rw [Heap.alloc_length]; omega
  refine ⟨rfl, rfl, ?_, ?_, ?_, ?_⟩
  · simp [matCopy, matNew, Heap.alloc]
  · simp [matCopy, matNew, Heap.alloc]
  · simp only [matCopy, matNew]; rw [Heap.read_alloc_new, h1]
  · simp only [matCopy, matNew]; rw [Heap.read_alloc_old _ _ _ hm', h1]

theorem matGet_congr (h h' : Heap) (m m' : Mat) (hr : m'.rows = m.rows) (hc : m'.cols = m.cols)
    (hd : h'.read m'.ref = h.read m.ref) (i j : Nat) : matGet h' m' i j = matGet h m i j := by
  unfold matGet; rw [hr, hc, hd]

theorem matSet_ok {h h'' : Heap} {m : Mat} {i j : Nat} {v : Entry} (hs : matSet h m i j v = .ok h'') :
    ¬ (i ≥ m.rows ∨ j ≥ m.cols) ∧
    h'' = h.write m.ref (if v.truthy then (h.read m.ref).set (i, j) v else (h.read m.ref).erase (i, j)) := by
  unfold matSet at hs
  split at hs
  · cases hs
  · refine ⟨‹_›, ?_⟩
    split at hs <;> rename_i ht <;> injection hs with hs
    · rw [if_pos ht, hs]
    · rw [if_neg ht, hs]

theorem matSet_read_other (h h'' : Heap) (m : Mat) (i j : Nat) (v : Entry) (a : Nat) (ha : a ≠ m.ref)
    (hs : matSet h m i j v = .ok h'') : h''.read a = h.read a := by
  rw [(matSet_ok hs).2]; exact Heap.read_write_ne _ _ _ _ (Ne.symm ha)

theorem matSet_get_same (h h'' : Heap) (m : Mat) (i j : Nat) (v : Entry) (hm : m.ref < h.objs.length)
    (hs : matSet h m i j v = .ok h'') :
    matGet h'' m i j = .ok (if v.truthy then v else .mpf fzero) := by
  obtain ⟨hb, rfl⟩ := matSet_ok hs
  rw [matGet, if_neg hb, Heap.read_write_eq _ _ _ hm]
  by_cases ht : v.truthy = true
  · rw [if_pos ht, if_pos ht, Dict.get?_set_eq]
  · rw [if_neg ht, if_neg ht, Dict.get?_erase_eq]

theorem matSet_get_other (h h'' : Heap) (m : Mat) (i j a b : Nat) (v : Entry) (hm : m.ref < h.objs.length)
    (hab : (i, j) ≠ (a, b)) (hs : matSet h m i j v = .ok h'') :
    matGet h'' m a b = matGet h m a b := by
  obtain ⟨-, rfl⟩ := matSet_ok hs
  unfold matGet
  rw [Heap.read_write_eq _ _ _ hm]
  by_cases ht : v.truthy = true
  · rw [if_pos ht, Dict.get?_set_ne _ _ _ _ hab]
  · rw [if_neg ht, Dict.get?_erase_ne _ _ _ hab]

theorem abs_val (x : Mpf) : |val x| = (x.man : ℚ) * (2:ℚ) ^ x.exp := by
  unfold val
  rw [abs_mul, abs_mul, abs_pow, abs_neg, abs_one, one_pow, one_mul, Nat.abs_cast,
    abs_of_pos (zpow_pos (by norm_num : (0:ℚ) < 2) _)]

theorem abs_val_bounds (x : Mpf) (hm : x.man ≠ 0) (hbc : x.bc = (bitcount x.man : Int)) :
    (2:ℚ) ^ (x.exp + x.bc - 1) ≤ |val x| ∧ |val x| < (2:ℚ) ^ (x.exp + x.bc) := by
  rw [abs_val, hbc]; exact mag_bounds _ hm _

theorem frexp_ok (x : Mpf) (hm : x.man ≠ 0) :
    frexp x = .ok (⟨x.sign, x.man, -x.bc, x.bc⟩, x.bc + x.exp) := by
  unfold frexp mpf_frexp mpf_shift
  simp only [hm, if_false]
  congr 3; ring

theorem not_int_of_odd_neg_exp (man : Nat) (exp : Int) (hodd : man % 2 = 1) (hexp : exp < 0) (n : ℤ) :
    (man : ℚ) * (2:ℚ) ^ exp ≠ (n : ℚ) := by
  intro h
  obtain ⟨k, hk⟩ : ∃ k : ℕ, exp = -((k : ℤ) + 1) := ⟨(-exp - 1).toNat, by omega⟩
  rw [hk, zpow_neg, ← div_eq_mul_inv, div_eq_iff (by positivity)] at h
  have h2 : (man : ℤ) = n * 2 ^ (k + 1) := by
    have : ((man : ℤ) : ℚ) = ((n * 2 ^ (k + 1) : ℤ) : ℚ) := by
      push_cast; rw [h]; congr 1
    exact_mod_cast this
  have : (man : ℤ) % 2 = 0 := by
    rw [h2, pow_succ, ← mul_assoc]; exact Int.mul_emod_left _ 2
  omega

theorem val_eq_signed (x : Mpf) (hs : x.sign ≤ 1) :
    val x = (if x.sign = 0 then 1 else -1) * ((x.man : ℚ) * (2:ℚ) ^ x.exp) := by
  unfold val
  have : x.sign = 0 ∨ x.sign = 1 := by omega
  rcases this with h | h <;> simp [h]

theorem val_int_of_exp_nonneg (x : Mpf) (he : 0 ≤ x.exp) :
    val x = (((-1) ^ x.sign * (x.man : ℤ) * 2 ^ x.exp.toNat : ℤ) : ℚ) := by
  unfold val
  obtain ⟨k, hk⟩ : ∃ k : ℕ, x.exp = k := ⟨x.exp.toNat, by omega⟩
  rw [hk]; simp

theorem val_isInt_iff (x : Mpf) (hodd : x.man % 2 = 1) : (∃ n : ℤ, val x = n) ↔ 0 ≤ x.exp := by
  refine ⟨fun ⟨n, hn⟩ => ?_, fun he => ⟨_, val_int_of_exp_nonneg x he⟩⟩
  by_contra he
  -- the magnitude would be the integer `(-1)^sign · n`
  refine not_int_of_odd_neg_exp x.man x.exp hodd (by omega) ((-1) ^ x.sign * n) ?_
  push_cast
  rw [← hn, val, ← mul_assoc, ← mul_assoc, ← pow_add, Even.neg_one_pow ⟨x.sign, rfl⟩, one_mul]

theorem val_nonpos_iff (x : Mpf) (hs : x.sign ≤ 1) (hm : x.man ≠ 0) : val x ≤ 0 ↔ x.sign ≠ 0 := by
  have hpos : (0:ℚ) < (x.man : ℚ) * (2:ℚ) ^ x.exp :=
    mul_pos (by exact_mod_cast Nat.pos_of_ne_zero hm) (zpow_pos (by norm_num) _)
  rw [val_eq_signed x hs]
  split
  · rw [one_mul]; exact ⟨fun h => absurd h (not_le.mpr hpos), fun h => absurd ‹_› h⟩
  · rw [neg_one_mul, neg_nonpos]; exact ⟨fun _ => ‹_›, fun _ => hpos.le⟩

theorem div_eq_intCast_iff (p n : Int) (q : Nat) (hq : 0 < q) : (p : ℚ) / (q : ℚ) = n ↔ p = n * q := by
  rw [div_eq_iff (by exact_mod_cast hq.ne')]
  exact_mod_cast Iff.rfl

/-- `D` is the binary exponent of the non-negative quantity `u`: `-inf` exactly when `u = 0`,
otherwise `2^(e-1) ≤ u < 2^e`. -/
def DistOf (D : Dist) (u : ℚ) : Prop :=
  (D = .ninf ↔ u = 0) ∧ ∀ e, D = .fin e → (2:ℚ) ^ (e - 1) ≤ u ∧ u < (2:ℚ) ^ e

theorem DistOf_fin {e : ℤ} {u : ℚ} (h : (2:ℚ) ^ (e - 1) ≤ u ∧ u < (2:ℚ) ^ e) : DistOf (.fin e) u :=
  ⟨⟨nofun, fun h0 => absurd (h0 ▸ h.1) (not_le.mpr (zpow_pos (by norm_num) _))⟩,
    fun _ he => by cases he; exact h⟩

theorem DistOf_ninf_zero : DistOf .ninf 0 := ⟨⟨fun _ => rfl, fun _ => rfl⟩, nofun⟩

/-- The general branch of `nintAbs` on natural numbers: with `2n` the even neighbour of `man >>> d`, the result
is `n` and the bit count of `rem = |man - 2n·2^d|`, which is nonzero and below `2^d`. -/
theorem nintAbs_general (man d : Nat) (hodd : man % 2 = 1) (hd : 1 ≤ d) :
    ∃ n rem : Nat, nintAbs man (-((d : ℤ) + 1)) = (n, .fin (-((d : ℤ) + 1) + bitcount rem)) ∧
      rem ≠ 0 ∧ rem < 2 ^ d ∧ (man = 2 * n * 2 ^ d + rem ∨ man + rem = 2 * n * 2 ^ d) := by
  have hr0 : man % 2 ^ d ≠ 0 := by
    obtain ⟨c, rfl⟩ := Nat.exists_eq_add_of_le' hd
    rw [pow_succ]
    intro h0
    have := Nat.mod_mul_left_mod man (2 ^ c) 2
    rw [h0] at this
    omega
  have hdiv : man / 2 ^ d * 2 ^ d + man % 2 ^ d = man := Nat.div_add_mod' man (2 ^ d)
  have hrlt := Nat.mod_lt man (Nat.two_pow_pos d)
  rw [nintAbs, if_neg (by omega), if_neg (by omega)]
  simp only [show (-(-((d : ℤ) + 1)) - 1).toNat = d by omega, Nat.shiftRight_eq_div_pow, Nat.shiftLeft_eq, pow_one]
  clear hodd hd
  generalize man / 2 ^ d = t at *
  generalize man % 2 ^ d = r at *
  obtain ⟨k, rfl | rfl⟩ := Nat.even_or_odd' t
  · rw [if_neg (by omega), Nat.mul_div_cancel_left k two_pos,
      show man - 2 * k * 2 ^ d = r by rw [← hdiv, Nat.add_sub_cancel_left]]
    exact ⟨k, r, rfl, hr0, hrlt, Or.inl hdiv.symm⟩
  · rw [if_pos (by omega), show (2 * k + 1 + 1) / 2 = k + 1 by omega,
      show (2 * k + 1 + 1) * 2 ^ d - man = 2 ^ d - r by
        rw [← hdiv, add_mul (2 * k + 1) 1, one_mul, Nat.add_sub_add_left]]
    refine ⟨k + 1, 2 ^ d - r, rfl, by omega, by omega, Or.inr ?_⟩
    rw [← hdiv, show 2 * (k + 1) = 2 * k + 1 + 1 by ring, add_mul (2 * k + 1) 1, one_mul, add_assoc,
      Nat.add_sub_cancel' hrlt.le]

theorem nint_of_rem (man d n rem : Nat) (hrem0 : rem ≠ 0) (hrem : rem < 2 ^ d)
    (h : man = 2 * n * 2 ^ d + rem ∨ man + rem = 2 * n * 2 ^ d) :
    |(man : ℚ) * (2:ℚ) ^ (-((d : ℤ) + 1)) - (n : ℚ)| = (rem : ℚ) * (2:ℚ) ^ (-((d : ℤ) + 1)) ∧
    (rem : ℚ) * (2:ℚ) ^ (-((d : ℤ) + 1)) < 1 / 2 := by
  have hP : (0:ℚ) < (2:ℚ) ^ d := by positivity
  have hz : (2:ℚ) ^ (-((d : ℤ) + 1)) = (2 * (2:ℚ) ^ d)⁻¹ := by
    rw [zpow_neg, ← Nat.cast_succ, zpow_natCast, pow_succ']
  have hremq : (rem : ℚ) < (2:ℚ) ^ d := by exact_mod_cast hrem
  have hrem0q : (0:ℚ) < (rem : ℚ) := by exact_mod_cast Nat.pos_of_ne_zero hrem0
  have hpos : 0 < (rem : ℚ) * (2 * (2:ℚ) ^ d)⁻¹ := by positivity
  rw [hz]
  constructor
  · rcases h with h | h
    · have : (man : ℚ) = n * (2 * (2:ℚ) ^ d) + rem := by rw [h]; push_cast; ring
      rw [this, add_mul, mul_inv_cancel_right₀ (by positivity), add_sub_cancel_left, abs_of_pos hpos]
    · have : (man : ℚ) = n * (2 * (2:ℚ) ^ d) - rem := by
        rw [eq_sub_iff_add_eq, ← Nat.cast_add, h]; push_cast; ring
      rw [this, sub_mul, mul_inv_cancel_right₀ (by positivity), sub_sub_cancel_left, abs_neg, abs_of_pos hpos]
  · rw [← div_eq_mul_inv, div_lt_iff₀ (by positivity), one_div, inv_mul_cancel_left₀ two_ne_zero]; exact hremq

theorem nintAbs_spec (man : Nat) (exp : Int) (hodd : man % 2 = 1) :
    |(man : ℚ) * (2:ℚ) ^ exp - ((nintAbs man exp).1 : ℚ)| ≤ 1 / 2 ∧
    (|(man : ℚ) * (2:ℚ) ^ exp - ((nintAbs man exp).1 : ℚ)| = 1 / 2 →
        (man : ℚ) * (2:ℚ) ^ exp < ((nintAbs man exp).1 : ℚ)) ∧
    DistOf (nintAbs man exp).2 |(man : ℚ) * (2:ℚ) ^ exp - ((nintAbs man exp).1 : ℚ)| := by
  by_cases he : exp ≥ 0
  · obtain ⟨k, rfl⟩ := Int.eq_ofNat_of_zero_le he
    have : ((man <<< k : ℕ) : ℚ) = (man : ℚ) * (2:ℚ) ^ (k : ℤ) := by simp [Nat.shiftLeft_eq]
    simp only [nintAbs, if_pos he, Int.toNat_natCast, this, sub_self, abs_zero]
    exact ⟨by norm_num, by norm_num, DistOf_ninf_zero⟩
  by_cases h1 : exp = -1
  · -- exact half-integer: the distance is 1/2 and the code goes up
    subst h1
    obtain ⟨k, rfl⟩ : ∃ k, man = 2 * k + 1 := ⟨man / 2, by omega⟩
    have hn : ((((2 * k + 1) >>> 1) + 1 : ℕ) : ℚ) = ((2 * k + 1 : ℕ) : ℚ) * (2:ℚ) ^ (-1 : ℤ) + 1 / 2 := by
      rw [show (2 * k + 1) >>> 1 = k by rw [Nat.shiftRight_eq_div_pow]; omega, zpow_neg_one]
      push_cast; ring
    simp only [nintAbs, if_neg he, if_pos, hn, sub_add_cancel_left, abs_neg]
    rw [abs_of_pos (by norm_num : (0:ℚ) < 1 / 2)]
    exact ⟨le_refl _, fun _ => lt_add_of_pos_right _ (by norm_num), DistOf_fin (by norm_num)⟩
  · -- general branch: the distance is `rem / 2^(d+1) < 1/2`
    obtain ⟨d, rfl, hd⟩ : ∃ d : ℕ, exp = -((d : ℤ) + 1) ∧ 1 ≤ d := ⟨(-exp - 1).toNat, by omega, by omega⟩
    obtain ⟨n, rem, hn, hrem0, hrem, h⟩ := nintAbs_general man d hodd hd
    obtain ⟨hdist, hlt⟩ := nint_of_rem man d n rem hrem0 hrem h
    rw [hn, hdist]
    exact ⟨hlt.le, fun h => absurd h hlt.ne, DistOf_fin (mag_bounds _ hrem0 _)⟩

theorem DistOf_nonneg {D : Dist} {u : ℚ} (h : DistOf D u) : 0 ≤ u := by
  cases D with
  | ninf => exact le_of_eq (h.1.mp rfl).symm
  | fin e => exact le_trans (zpow_pos (by norm_num) _).le (h.2 e rfl).1

theorem DistOf_pyMax {D1 D2 : Dist} {u v : ℚ} (h1 : DistOf D1 u) (h2 : DistOf D2 v) :
    DistOf (Dist.pyMax D1 D2) (max u v) := by
  have hu := DistOf_nonneg h1
  have hv := DistOf_nonneg h2
  cases D1 with
  | ninf =>
    rw [h1.1.mp rfl, max_eq_right hv]
    cases D2 <;> exact h2
  | fin a =>
    cases D2 with
    | ninf => rw [h2.1.mp rfl, max_eq_left hu]; exact h1
    | fin b =>
      have ha := h1.2 a rfl
      have hb := h2.2 b rfl
      show DistOf (if b > a then Dist.fin b else Dist.fin a) (max u v)
      split
      · exact DistOf_fin ⟨hb.1.trans (le_max_right _ _),
          max_lt (ha.2.trans_le (zpow_le_zpow_right₀ (by norm_num) (by omega))) hb.2⟩
      · exact DistOf_fin ⟨ha.1.trans (le_max_left _ _),
          max_lt ha.2 (hb.2.trans_le (zpow_le_zpow_right₀ (by norm_num) (by omega)))⟩

theorem Dist.pyMax_ninf_right (D : Dist) : Dist.pyMax D .ninf = D := by cases D <;> rfl
theorem Dist.pyMax_ninf_left (D : Dist) : Dist.pyMax .ninf D = D := by cases D <;> rfl

theorem nintDistCore_zero (D : Dist) : nintDistCore fzero D = .ok (0, D) := by
  simp [nintDistCore, fzero, Dist.pyMax_ninf_left]

theorem nintDistCore_spec (re : Mpf) (hre : CanonFin re) (imDist : Dist) (v : ℚ) (hv : DistOf imDist v) :
    ∃ (n : ℤ) (D : Dist), nintDistCore re imDist = .ok (n, D) ∧
      |val re - n| ≤ 1 / 2 ∧ (|val re - n| = 1 / 2 → |val re| < |(n : ℚ)|) ∧
      DistOf D (max |val re - n| v) := by
  rcases hre with rfl | ⟨hs, hodd, hbc⟩
  · refine ⟨0, imDist, nintDistCore_zero imDist, ?_⟩
    rw [show val fzero = 0 by simp [val, fzero], Int.cast_zero, sub_zero, abs_zero,
      max_eq_right (DistOf_nonneg hv)]
    exact ⟨by norm_num, fun h => by norm_num at h, hv⟩
  have hm : re.man ≠ 0 := by omega
  unfold nintDistCore
  rw [if_neg (fun h => hm h.1)]
  dsimp only
  split
  · -- magnitude below 1/2: the nearest integer is 0
    refine ⟨0, _, rfl, ?_⟩
    have hb := abs_val_bounds re hm hbc
    have hlt : |val re| < 1 / 2 := by
      have hle : (2:ℚ) ^ (re.exp + re.bc) ≤ (2:ℚ) ^ (-1 : ℤ) := zpow_le_zpow_right₀ (by norm_num) (by omega)
      rw [show (2:ℚ) ^ (-1 : ℤ) = 1 / 2 by norm_num] at hle
      exact hb.2.trans_le hle
    rw [Int.cast_zero, sub_zero]
    exact ⟨hlt.le, fun h => absurd h hlt.ne, DistOf_pyMax (DistOf_fin hb) hv⟩
  · -- `val re = σ·a`, `n = σ·n0` with `σ = ±1` and `n0` the nearest integer of `a = |val re|`
    obtain ⟨h1, h2, h3⟩ := nintAbs_spec re.man re.exp hodd
    refine ⟨_, _, rfl, ?_⟩
    have hσ : ∀ y : ℚ, |(if re.sign = 0 then (1:ℚ) else -1) * y| = |y| := fun y => by
      rw [abs_mul]; split <;> simp
    have hn : ((if re.sign ≠ 0 then -((nintAbs re.man re.exp).1 : ℤ) else ((nintAbs re.man re.exp).1 : ℤ) : ℤ) : ℚ)
        = (if re.sign = 0 then 1 else -1) * ((nintAbs re.man re.exp).1 : ℚ) := by
      by_cases h : re.sign = 0 <;> simp [h]
    have hapos : (0:ℚ) < (re.man : ℚ) * (2:ℚ) ^ re.exp :=
      mul_pos (by exact_mod_cast Nat.pos_of_ne_zero hm) (zpow_pos (by norm_num) _)
    rw [hn, val_eq_signed re hs, ← mul_sub, hσ, hσ, hσ, Nat.abs_cast, abs_of_pos hapos]
    exact ⟨h1, h2, DistOf_pyMax h3 hv⟩

theorem quot_bounds (A Q : Nat) (hA : A ≠ 0) (hQ : Q ≠ 0) :
    (2:ℚ) ^ ((bitcount A : ℤ) - (bitcount Q : ℤ) - 1) < (A : ℚ) / (Q : ℚ) ∧
    (A : ℚ) / (Q : ℚ) < (2:ℚ) ^ ((bitcount A : ℤ) - (bitcount Q : ℤ) + 1) := by
  have hQpos : (0:ℚ) < (Q : ℚ) := by exact_mod_cast Nat.pos_of_ne_zero hQ
  have h2 : (2:ℚ) ≠ 0 := by norm_num
  have hp : ∀ e : ℤ, (0:ℚ) < (2:ℚ) ^ e := fun e => zpow_pos (by norm_num) e
  obtain ⟨a1, a2⟩ := mag_bounds A hA 0
  obtain ⟨q1, q2⟩ := mag_bounds Q hQ 0
  simp only [zero_add, zpow_zero, mul_one] at a1 a2 q1 q2
  constructor
  · rw [lt_div_iff₀ hQpos]
    calc (2:ℚ) ^ ((bitcount A : ℤ) - (bitcount Q : ℤ) - 1) * (Q : ℚ)
        < (2:ℚ) ^ ((bitcount A : ℤ) - (bitcount Q : ℤ) - 1) * (2:ℚ) ^ (bitcount Q : ℤ) :=
          mul_lt_mul_of_pos_left q2 (hp _)
      _ = (2:ℚ) ^ ((bitcount A : ℤ) - 1) := by rw [← zpow_add₀ h2]; congr 1; ring
      _ ≤ A := a1
  · rw [div_lt_iff₀ hQpos]
    calc (A : ℚ) < (2:ℚ) ^ (bitcount A : ℤ) := a2
      _ = (2:ℚ) ^ ((bitcount A : ℤ) - (bitcount Q : ℤ) + 1) * (2:ℚ) ^ ((bitcount Q : ℤ) - 1) := by
          rw [← zpow_add₀ h2]; congr 1; ring
      _ ≤ (2:ℚ) ^ ((bitcount A : ℤ) - (bitcount Q : ℤ) + 1) * (Q : ℚ) :=
          mul_le_mul_of_nonneg_left q1 (hp _).le

theorem abs_int_div_nat (p : Int) (q : Nat) : |(p : ℚ) / (q : ℚ)| = (p.natAbs : ℚ) / (q : ℚ) := by
  rw [abs_div, Nat.abs_cast]; congr 1
  rw [← Int.cast_abs, Int.abs_eq_natAbs]; simp

theorem magF_spec (x : Mpf) (hm : x.man ≠ 0) (hbc : x.bc = (bitcount x.man : Int)) :
    ∃ m : ℤ, magF x = .int m ∧ (2:ℚ) ^ (m - 1) ≤ |val x| ∧ |val x| < (2:ℚ) ^ m :=
  ⟨x.exp + x.bc, by simp [magF, mpfMag, hm], abs_val_bounds x hm hbc⟩

theorem MagRes.pyMax_int (a b : ℤ) : MagRes.pyMax (.int a) (.int b) = .int (max a b) := by
  rcases le_or_gt b a with h | h
  · simp [MagRes.pyMax, MagRes.gt, not_lt.mpr h, max_eq_left h]
  · simp [MagRes.pyMax, MagRes.gt, h, max_eq_right h.le]

theorem sq_add_sq_bounds {a b L U : ℚ} (ha : 0 ≤ a) (hb : 0 ≤ b) (hL : 0 ≤ L) (hLab : L ≤ max a b)
    (haU : a < U) (hbU : b < U) : L ^ 2 ≤ a ^ 2 + b ^ 2 ∧ a ^ 2 + b ^ 2 < (2 * U) ^ 2 := by
  constructor
  · rcases le_max_iff.mp hLab with h | h
    · exact (pow_le_pow_left₀ hL h 2).trans (le_add_of_nonneg_right (sq_nonneg b))
    · exact (pow_le_pow_left₀ hL h 2).trans (le_add_of_nonneg_left (sq_nonneg a))
  · have h1 := pow_lt_pow_left₀ haU ha two_ne_zero
    have h2 := pow_lt_pow_left₀ hbU hb two_ne_zero
    rw [mul_pow]
    linarith [sq_nonneg U]

theorem rat_sub_int (p : Int) (q : Nat) (hq : 0 < q) (n : Int) :
    (p : ℚ) / (q : ℚ) - (n : ℚ) = ((p - n * q : ℤ) : ℚ) / (q : ℚ) := by
  have hq' : (q : ℚ) ≠ 0 := by exact_mod_cast Nat.ne_of_gt hq
  push_cast; field_simp

/-- An integer `n` with `-q ≤ 2c < q`, `c = p - n·q ≠ 0`, is a nearest integer of `p/q`; a tie (`2c = -q`) lies
below `n`; the distance `|c|/q` is bracketed by the bit counts of `|c|` and `q`. -/
theorem nintQ_fin (p n : Int) (q : Nat) (hq : 0 < q) (hc : p - n * q ≠ 0)
    (hlo : -(q : ℤ) ≤ 2 * (p - n * q)) (hhi : 2 * (p - n * q) < q) :
    |(p : ℚ) / (q : ℚ) - n| ≤ 1 / 2 ∧ (|(p : ℚ) / (q : ℚ) - n| = 1 / 2 → (p : ℚ) / (q : ℚ) < n) ∧
    (Dist.fin ((bitcount (p - n * q).natAbs : ℤ) - (bitcount q : ℤ)) = .ninf ↔ (p : ℚ) / (q : ℚ) = n) ∧
    ∀ e, Dist.fin ((bitcount (p - n * q).natAbs : ℤ) - (bitcount q : ℤ)) = .fin e →
      (2:ℚ) ^ (e - 1) < |(p : ℚ) / (q : ℚ) - n| ∧ |(p : ℚ) / (q : ℚ) - n| < (2:ℚ) ^ (e + 1) := by
  have hqQ : (0:ℚ) < (q : ℚ) := by exact_mod_cast hq
  have hA : (p - n * (q : ℤ)).natAbs ≠ 0 := by omega
  have hhalf : 2 * (p - n * (q : ℤ)).natAbs ≤ q := by omega
  have hsub := rat_sub_int p q hq n
  rw [← sub_neg, hsub, abs_int_div_nat, div_le_iff₀ hqQ, div_eq_div_iff hqQ.ne' two_ne_zero]
  refine ⟨?_, fun h => ?_, ⟨nofun, fun h => ?_⟩, fun e he => by cases he; exact quot_bounds _ q hA hq.ne'⟩
  · rw [one_div, le_inv_mul_iff₀ two_pos]; exact_mod_cast hhalf
  · have h2 : (p - n * (q : ℤ)).natAbs * 2 = 1 * q := by exact_mod_cast h
    exact div_neg_of_neg_of_pos (by exact_mod_cast (by omega : p - n * (q : ℤ) < 0)) hqQ
  · exact absurd ((div_eq_intCast_iff p n q hq).mp h) (fun h' => hc (by rw [h', sub_self]))

theorem int_eq_of_abs_sub_le_half (k n : ℤ) (h : |(k : ℚ) - n| ≤ 1 / 2) : k = n := by
  have h1 : |((k - n : ℤ) : ℚ)| < 1 := by push_cast; exact h.trans_lt (by norm_num)
  rw [← Int.cast_abs, ← Int.cast_one, Int.cast_lt] at h1
  exact sub_eq_zero.mp (Int.abs_lt_one_iff.mp h1)

theorem canonFin_zero_iff (x : Mpf) (hc : CanonFin x) : x = fzero ↔ val x = 0 := by
  refine ⟨fun h => by rw [h]; simp [val, fzero], fun h => hc.resolve_right fun ⟨_, hodd, _⟩ => ?_⟩
  have hpos : (0:ℚ) < (x.man : ℚ) * (2:ℚ) ^ x.exp :=
    mul_pos (by exact_mod_cast (by omega : 0 < x.man)) (zpow_pos (by norm_num) _)
  rw [← abs_val, h, abs_zero] at hpos
  exact lt_irrefl _ hpos

/-- past its guard the shared tail always returns a pair: it raises exactly for a special real part -/
theorem nintDistCore_error_iff (re : Mpf) (D : Dist) :
    (∃ e, nintDistCore re D = .error e) ↔ (re.man = 0 ∧ re ≠ fzero) := by
  unfold nintDistCore
  by_cases h : re.man = 0 ∧ re ≠ fzero
  · rw [if_pos h]; exact ⟨fun _ => h, fun _ => ⟨_, rfl⟩⟩
  · rw [if_neg h]
    refine ⟨fun ⟨e, he⟩ => ?_, fun h' => absurd h' h⟩
    dsimp only at he
    split at he
    · cases he
    split at he
    · cases he
    · rename_i hm
      rw [if_pos (not_not.mp fun hz => h ⟨not_not.mp hm, hz⟩)] at he
      cases he

theorem max_eq_zero_iff_of_nonneg {u v : ℚ} (hu : 0 ≤ u) (hv : 0 ≤ v) : max u v = 0 ↔ u = 0 ∧ v = 0 := by
  constructor
  · intro hm
    exact ⟨le_antisymm (hm ▸ le_max_left u v) hu, le_antisymm (hm ▸ le_max_right u v) hv⟩
  · rintro ⟨rfl, rfl⟩; simp

theorem imDist_spec (im : Mpf) (hc : CanonFin im) :
    ∃ D, (∀ re, nintDistC re im = nintDistCore re D) ∧ DistOf D |val im| := by
  rcases hc with rfl | ⟨_, hodd, hbc⟩
  · refine ⟨.ninf, fun re => by simp [nintDistC, fzero], ?_⟩
    have : val fzero = 0 := by simp [val, fzero]
    rw [this, abs_zero]; exact DistOf_ninf_zero
  · have hm : im.man ≠ 0 := by omega
    refine ⟨.fin (im.exp + im.bc), fun re => by simp [nintDistC, hm], ?_⟩
    exact DistOf_fin (abs_val_bounds im hm hbc)

theorem nintDistC_real (x : Mpf) : nintDistC x fzero = nintDistF x := by
  simp [nintDistC, nintDistF, fzero]

end Mp.H

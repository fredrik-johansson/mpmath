/-
  Props/C22b.lean — C22, second and third decided classes.

  (A) NON-terminating hypergeometric series `pFq(as; bs; z) = Σ_k Π(a_i)_k/Π(b_j)_k · z^k/k!` at rational parameters,
      none a non-positive integer, and rational `z`: `p ≤ q` (0F1, 1F1, 1F2, 2F2, …: entire functions, any `z`, in particular
      large negative `z` where the sum is many orders of magnitude smaller than its terms) and `p = q+1` (1F0, 2F1, 3F2)
      for `|z|` sufficiently below 1.  Reference `Mp.SpecRef.hypEncl`: the exact rational partial sum `Σ_{k<K}` and the
      tail bound `|t_K|/(1−ρ)` with a ratio bound `ρ < 1` that is CHECKED for every `k ≥ K`.
      `C22_series_validator(_complex)`: a verdict is a theorem about the sum of the series;
      `C22_series_value`: whenever an enclosure is produced, no denominator parameter is a non-positive integer and the
      series converges (`HasSum`) — nothing is assumed about closed forms or about mpmath's algorithms;
      `hyp1f1_one_one`: sanity link to a closed form, `1F1(1; 1; z) = e^z`.
  (B) integer (negative) degrees of the families whose hypergeometric representation has a reflection symmetry:
      `legendre` (`legendrePZ`, DEFINED by `P_n := P_{−n−1}` for `n < 0`; `legendrePZ_reflect`), `chebyt`, `chebyu`
      (Mathlib's `Polynomial.Chebyshev.T/U`, which are indexed by `ℤ`).
-/
import MpProofs.SpecRef2
import Props.C22

namespace Mp
open Mp.Encl Mp.SpecRef
open scoped Nat

/-! ### (A) non-terminating series -/

/-- the sum of the series `Σ_k Π(a_i)_k/Π(b_j)_k · z^k/k!` (Pochhammer symbols: Mathlib's `ascPochhammer`) -/
noncomputable def hypSeries (as bs : List ℚ) (z : ℚ) : ℝ :=
  ∑' k : ℕ, (((as.map (fun a => (ascPochhammer ℚ k).eval a)).prod /
    (bs.map (fun b => (ascPochhammer ℚ k).eval b)).prod * z ^ k / (k ! : ℚ) : ℚ) : ℝ)

theorem hypEncl_encloses (as bs : List ℚ) (z : ℚ) : Encloses (hypEncl as bs z) (hypSeries as bs z) :=
  fun wp F h => ⟨(hypEncl_sound as bs z wp F h).2.2, trivial⟩

theorem C22_series_validator (as bs : List ℚ) (z : ℚ) (y : Dy) (p k : ℕ) :
    (encCheck (hypEncl as bs z) y p k = .ok →
      |y.val - hypSeries as bs z| ≤ (2 : ℝ) ^ ((k : ℤ) - (p : ℤ)) * |hypSeries as bs z|) ∧
    (encCheck (hypEncl as bs z) y p k = .violates →
      (2 : ℝ) ^ ((k : ℤ) - (p : ℤ)) * |hypSeries as bs z| < |y.val - hypSeries as bs z|) :=
  have h := encCheck_sound (hypEncl_encloses as bs z) y p k
  ⟨h.1, h.2.1⟩

/-- "relative error below 2^(8−p)": run with `k = 7` -/
theorem C22_series_validator_strict (as bs : List ℚ) (z : ℚ) (y : Dy) (p : ℕ)
    (h : encCheck (hypEncl as bs z) y p 7 = .ok) (h0 : hypSeries as bs z ≠ 0) :
    |y.val - hypSeries as bs z| < (2 : ℝ) ^ ((8 : ℤ) - (p : ℤ)) * |hypSeries as bs z| := by
  simpa using encCheck_ok_strict (hypEncl_encloses as bs z) y p 7 h h0

theorem C22_series_validator_complex (as bs : List ℚ) (z : ℚ) (yre yim : Dy) (p k : ℕ) :
    (encCheckC (hypEncl as bs z) yre yim p k = .ok →
      ‖(⟨yre.val, yim.val⟩ : ℂ) - (hypSeries as bs z : ℂ)‖ ≤ (2 : ℝ) ^ ((k : ℤ) - (p : ℤ)) * |hypSeries as bs z|) ∧
    (encCheckC (hypEncl as bs z) yre yim p k = .violates →
      (2 : ℝ) ^ ((k : ℤ) - (p : ℤ)) * |hypSeries as bs z| < ‖(⟨yre.val, yim.val⟩ : ℂ) - (hypSeries as bs z : ℂ)‖) :=
  have h := encCheckC_sound (hypEncl_encloses as bs z) yre yim p k
  ⟨h.1, h.2.1⟩

/-- whenever an enclosure is produced: no denominator parameter is a non-positive integer (every term is defined) and
the series converges to `hypSeries as bs z` -/
theorem C22_series_value (as bs : List ℚ) (z : ℚ) (wp : ℕ) (F : DI) (h : hypEncl as bs z wp = some F) :
    (∀ b ∈ bs, ∀ m : ℕ, b ≠ -(m : ℚ)) ∧
    HasSum (fun k : ℕ => (((as.map (fun a => (ascPochhammer ℚ k).eval a)).prod /
      (bs.map (fun b => (ascPochhammer ℚ k).eval b)).prod * z ^ k / (k ! : ℚ) : ℚ) : ℝ)) (hypSeries as bs z) ∧
    F.Mem (hypSeries as bs z) := by
  obtain ⟨hnp, hsum, hmem⟩ := hypEncl_sound as bs z wp F h
  refine ⟨?_, hsum.hasSum, hmem⟩
  intro b hb m hm
  have := hnp b hb
  rw [(isNpInt_iff b).2 ⟨m, hm⟩] at this
  exact absurd this (by simp)

/-- sanity link to a closed form: `1F1(1; 1; z) = Σ z^k/k! = e^z` -/
theorem hyp1f1_one_one (z : ℚ) : hypSeries [1] [1] z = Real.exp (z : ℝ) := by
  unfold hypSeries
  have h := NormedSpace.expSeries_div_hasSum_exp (𝔸 := ℝ) (z : ℝ)
  rw [← Real.exp_eq_exp_ℝ] at h
  rw [← h.tsum_eq]
  congr 1
  funext k
  have hk : ((k ! : ℕ) : ℚ) ≠ 0 := by exact_mod_cast Nat.factorial_ne_zero k
  simp only [List.map_cons, List.map_nil, List.prod_cons, List.prod_nil, mul_one, ascPochhammer_eval_one]
  rw [div_self hk, one_mul]
  push_cast; rfl

/-! ### (B) integer degrees -/

/-- DEFINITION. Legendre functions of integer degree: `P_n := P_{−n−1}` for `n < 0` (the symmetry `n ↔ −n−1` of
Legendre's differential equation and of `2F1(−n, n+1; 1; (1−x)/2)`) -/
def legendrePZ (x : ℚ) (n : ℤ) : ℚ := legendreP x (if 0 ≤ n then n.toNat else (-n - 1).toNat)

theorem legendrePZ_reflect (x : ℚ) (n : ℤ) : legendrePZ x (-n - 1) = legendrePZ x n := by
  unfold legendrePZ
  congr 1
  split <;> split <;> omega

theorem legendrePZ_natCast (x : ℚ) (m : ℕ) : legendrePZ x (m : ℤ) = legendreP x m := by
  unfold legendrePZ; simp

/-- `legendre(n, x)` at every integer `n`, rational `x`: the reference is `legendrePZ x n` -/
theorem C22_legendre_int_ref (n : ℤ) (x : ℚ) (e : SExpr) (he : legendreZRef n x = .val e) :
    e.sem = ((legendrePZ x n : ℚ) : ℝ) := by
  unfold legendreZRef at he
  obtain ⟨m, hm, hv⟩ := C22_legendre_ref _ x e he
  rw [hv]
  unfold legendrePZ
  congr 2
  split at hm <;> rename_i h0
  · rw [if_pos h0]; omega
  · rw [if_neg h0]; omega

/-- `chebyt(n, x)` at every integer `n`: Mathlib's `Polynomial.Chebyshev.T ℚ n` (indexed by `ℤ`) evaluated at `x` -/
theorem C22_chebyt_int_ref (n : ℤ) (x : ℚ) (e : SExpr) (he : chebytZRef n x = .val e) :
    e.sem = (((Polynomial.Chebyshev.T ℚ n).eval x : ℚ) : ℝ) := by
  unfold chebytZRef at he
  obtain ⟨m, hm, hv⟩ := C22_chebyt_ref _ x e he
  rw [hv]
  split at hm <;> rename_i h0
  · rw [hm]
  · have : n = -(m : ℤ) := by omega
    rw [this, Polynomial.Chebyshev.T_neg]

/-- `chebyu(n, x)` at every integer `n`: Mathlib's `Polynomial.Chebyshev.U ℚ n` (indexed by `ℤ`) evaluated at `x` -/
theorem C22_chebyu_int_ref (n : ℤ) (x : ℚ) (e : SExpr) (he : chebyuZRef n x = .val e) :
    e.sem = (((Polynomial.Chebyshev.U ℚ n).eval x : ℚ) : ℝ) := by
  unfold chebyuZRef at he
  split at he
  · obtain ⟨m, hm, hv⟩ := C22_chebyu_ref _ x e he
    rw [hv, hm]
  · rename_i h0
    split at he
    · rename_i h1
      simp only [Ref.val.injEq] at he; subst he
      rw [h1, Polynomial.Chebyshev.U_neg_one]
      simp [SExpr.sem]
    · rename_i h1
      cases hr : recRef (-n - 2) (chebyuQ x) with
      | val e0 =>
        rw [hr] at he
        simp only [Ref.neg, Ref.val.injEq] at he; subst he
        obtain ⟨m, hm, hv⟩ := C22_chebyu_ref _ x e0 hr
        have : n = -(m : ℤ) - 2 := by omega
        rw [this, Polynomial.Chebyshev.U_neg_sub_two]
        simp only [SExpr.sem, hv, Polynomial.eval_neg]
        push_cast; rfl
      | pole => rw [hr] at he; simp [Ref.neg] at he
      | outside => rw [hr] at he; simp [Ref.neg] at he

-- 1F1(2; 1; −31) = (1 − 31)·e^(−31) = −1.0328…·10^(−12): the 53-bit value is accepted, a value with relative error 2^-40 rejected
example : (hypEncl [2] [1] (-31) 85).isSome = true := by rw [hypEncl_example]; rfl
example : encCheck (hypEncl [2] [1] (-31)) ⟨-2556948148139007, -91⟩ 53 7 = .ok :=
  encCheck_of_first hypEncl_example (by decide +kernel) (by decide)
example : encCheck (hypEncl [2] [1] (-31)) ⟨-2556948148139007 - 4096, -91⟩ 53 7 = .violates :=
  encCheck_of_first hypEncl_example (by decide +kernel) (by decide)
-- a denominator parameter −2: no enclosure
example : hypEncl [2] [-2] (1 / 2) 60 = none := by decide +kernel
-- P_{−3}(0) = P_2(0) = −1/2, T_{−3} = T_3, U_{−3}(1/2) = −U_1(1/2) = −1
example : legendreZRef (-3) 0 = .val (.rat (-1) 2) := by decide +kernel
example : chebytZRef (-3) (1 / 2) = .val (.rat (-1) 1) := by decide +kernel
example : chebyuZRef (-3) (1 / 2) = .val (.neg (.rat 1 1)) := by decide +kernel

end Mp

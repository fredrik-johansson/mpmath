/-
  MpProofs/EnclTrig.lean — soundness of `sinI`, `cosI`
  (Taylor sums of general order with the remainder from `Complex.exp_bound` at `z = r·I`,
   reduction `x = r + n·(π/2)` with the verified π enclosure).
-/
import MpProofs.EnclAtan
import Mathlib.Analysis.Complex.Trigonometric
import Mathlib.Analysis.SpecialFunctions.Trigonometric.Basic

namespace Mp.Encl
open Finset

noncomputable def cosSum (r : ℝ) (n : ℕ) : ℝ := ∑ j ∈ range n, (-1) ^ j * (r ^ (2 * j) / ((2 * j).factorial : ℝ))
noncomputable def sinSum (r : ℝ) (n : ℕ) : ℝ :=
  ∑ j ∈ range n, (-1) ^ j * (r ^ (2 * j + 1) / ((2 * j + 1).factorial : ℝ))

theorem trigTerms_sound (wp : ℕ) (R : DI) (r : ℝ) (hr : R.Mem r) (n : ℕ) :
    (trigTerms wp R n).1.Mem (r ^ (2 * n) / ((2 * n).factorial : ℝ)) ∧
    (trigTerms wp R n).2.1.Mem (cosSum r n) ∧ (trigTerms wp R n).2.2.Mem (sinSum r n) := by
  induction n with
  | zero =>
    simp only [trigTerms, cosSum, sinSum, mul_zero, pow_zero, Nat.factorial_zero, Nat.cast_one, div_one,
      range_zero, sum_empty]
    exact ⟨DI.mem_one, DI.mem_zero, DI.mem_zero⟩
  | succ n ih =>
    obtain ⟨h1, h2, h3⟩ := ih
    have ht1 := DI.mem_taylorStep wp h1 hr
    rw [cosSum, sinSum, Finset.sum_range_succ, Finset.sum_range_succ]
    exact ⟨DI.mem_taylorStep wp ht1 hr, DI.mem_round (DI.mem_altAdd n h2 h1) wp,
      DI.mem_round (DI.mem_altAdd n h3 ht1) wp⟩

/-- the complex exponential partial sum at `r·I` splits into the cosine and sine partial sums -/
theorem exp_sum_mul_I (r : ℝ) (n : ℕ) :
    ∑ m ∈ range (2 * n), ((r : ℂ) * Complex.I) ^ m / (m.factorial : ℂ) =
      ((cosSum r n : ℝ) : ℂ) + ((sinSum r n : ℝ) : ℂ) * Complex.I := by
  induction n with
  | zero => simp only [cosSum, sinSum, mul_zero, range_zero, sum_empty, Complex.ofReal_zero, zero_mul, add_zero]
  | succ n ih =>
    rw [Nat.mul_succ, Finset.sum_range_succ, Finset.sum_range_succ, ih]
    unfold cosSum sinSum
    rw [Finset.sum_range_succ, Finset.sum_range_succ]
    have hI : Complex.I ^ (2 * n) = (-1 : ℂ) ^ n := by rw [pow_mul, Complex.I_sq]
    have e1 : ((r : ℂ) * Complex.I) ^ (2 * n) = (-1 : ℂ) ^ n * (r : ℂ) ^ (2 * n) := by
      rw [mul_pow, hI]; ring
    have e2 : ((r : ℂ) * Complex.I) ^ (2 * n + 1) = (-1 : ℂ) ^ n * (r : ℂ) ^ (2 * n + 1) * Complex.I := by
      rw [pow_succ, e1]; ring
    rw [e1, e2]
    push_cast
    ring

/-- Taylor remainder of `cos` and `sin` of order `2n`, from `Complex.exp_bound` at `z = r·I` -/
theorem trig_remainder (r : ℝ) (h1 : |r| ≤ 1) (n : ℕ) (hn : 0 < n) :
    |Real.cos r - cosSum r n| ≤
      |r| ^ (2 * n) * (((2 * n).succ : ℝ) / (((2 * n).factorial : ℝ) * (2 * n : ℕ))) ∧
    |Real.sin r - sinSum r n| ≤
      |r| ^ (2 * n) * (((2 * n).succ : ℝ) / (((2 * n).factorial : ℝ) * (2 * n : ℕ))) := by
  have hz : ‖(r : ℂ) * Complex.I‖ = |r| := by
    rw [norm_mul, Complex.norm_I, mul_one, Complex.norm_real, Real.norm_eq_abs]
  have hb := Complex.exp_bound (hz.le.trans h1) (show 0 < 2 * n by omega)
  rw [exp_sum_mul_I, hz, ← div_eq_mul_inv] at hb
  constructor
  · refine le_trans ?_ ((Complex.abs_re_le_norm _).trans hb)
    rw [Complex.sub_re, Complex.exp_ofReal_mul_I_re, Complex.add_re, Complex.ofReal_re,
      Complex.re_ofReal_mul, Complex.I_re, mul_zero, add_zero]
  · refine le_trans ?_ ((Complex.abs_im_le_norm _).trans hb)
    rw [Complex.sub_im, Complex.exp_ofReal_mul_I_im, Complex.add_im, Complex.ofReal_im,
      Complex.im_ofReal_mul, Complex.I_im, mul_one, zero_add]

theorem cosSinSmall_sound (wp n : ℕ) (R : DI) (r : ℝ) (hr : R.Mem r) (h1 : |r| ≤ 1) (hn : 0 < n) :
    (cosSinSmall wp n R).1.Mem (Real.cos r) ∧ (cosSinSmall wp n R).2.Mem (Real.sin r) := by
  obtain ⟨ht, hc, hs⟩ := trigTerms_sound wp R r hr n
  obtain ⟨b1, b2⟩ := trig_remainder r h1 n hn
  have hrem := DI.exp_remainder_le (show 0 < 2 * n by omega) ht
  exact ⟨DI.mem_round (DI.mem_widen hc (b1.trans hrem)) wp, DI.mem_round (DI.mem_widen hs (b2.trans hrem)) wp⟩

theorem trigSub_sound (w : ℕ) (n : ℤ) (X : DI) (x : ℝ) (hx : X.Mem x) :
    (trigSub w n X).Mem (x - (n : ℝ) * (Real.pi / 2)) := by
  unfold trigSub
  apply DI.mem_sub hx
  have h := DI.mem_mul (DI.mem_ofInt n) (DI.mem_shift (piI_mem w) (-1))
  have e : Real.pi * (2 : ℝ) ^ (-1 : ℤ) = Real.pi / 2 := by
    rw [zpow_neg_one]; ring
  rw [e] at h
  exact h

theorem cos_sin_quadrant (r : ℝ) (n : ℤ) :
    (n % 4 = 0 → Real.cos (r + n * (Real.pi / 2)) = Real.cos r ∧ Real.sin (r + n * (Real.pi / 2)) = Real.sin r) ∧
    (n % 4 = 1 → Real.cos (r + n * (Real.pi / 2)) = -Real.sin r ∧ Real.sin (r + n * (Real.pi / 2)) = Real.cos r) ∧
    (n % 4 = 2 → Real.cos (r + n * (Real.pi / 2)) = -Real.cos r ∧ Real.sin (r + n * (Real.pi / 2)) = -Real.sin r) ∧
    (n % 4 = 3 → Real.cos (r + n * (Real.pi / 2)) = Real.sin r ∧ Real.sin (r + n * (Real.pi / 2)) = -Real.cos r) := by
  -- whole turns drop out: `n = 4·(n/4) + n % 4`
  have key : r + (n : ℝ) * (Real.pi / 2) =
      r + ((n % 4 : ℤ) : ℝ) * (Real.pi / 2) + ((n / 4 : ℤ) : ℝ) * (2 * Real.pi) := by
    have hn : (n : ℝ) = ((4 * (n / 4) + n % 4 : ℤ) : ℝ) := by rw [Int.mul_ediv_add_emod]
    rw [hn]; push_cast; ring
  rw [key, Real.cos_add_int_mul_two_pi, Real.sin_add_int_mul_two_pi]
  have e2 : r + ((2 : ℤ) : ℝ) * (Real.pi / 2) = r + Real.pi := by push_cast; ring
  have e3 : r + ((3 : ℤ) : ℝ) * (Real.pi / 2) = r + Real.pi + Real.pi / 2 := by push_cast; ring
  refine ⟨fun h => ?_, fun h => ?_, fun h => ?_, fun h => ?_⟩ <;> rw [h]
  · rw [Int.cast_zero, zero_mul, add_zero]; exact ⟨rfl, rfl⟩
  · rw [Int.cast_one, one_mul, Real.cos_add_pi_div_two, Real.sin_add_pi_div_two]; exact ⟨rfl, rfl⟩
  · rw [e2, Real.cos_add_pi, Real.sin_add_pi]; exact ⟨rfl, rfl⟩
  · rw [e3, Real.cos_add_pi_div_two, Real.sin_add_pi_div_two, Real.cos_add_pi, Real.sin_add_pi, neg_neg]
    exact ⟨rfl, rfl⟩

theorem mem_full_cos (x : ℝ) : (DI.mk (Dy.ofInt (-1)) Dy.one).Mem (Real.cos x) := by
  constructor <;> simp only [Dy.val_ofInt, Dy.val_one]
  · push_cast; exact Real.neg_one_le_cos x
  · exact Real.cos_le_one x

theorem mem_full_sin (x : ℝ) : (DI.mk (Dy.ofInt (-1)) Dy.one).Mem (Real.sin x) := by
  constructor <;> simp only [Dy.val_ofInt, Dy.val_one]
  · push_cast; exact Real.neg_one_le_sin x
  · exact Real.sin_le_one x

theorem quadrant_sound (n : ℤ) (c s : DI) (r : ℝ) (hc : c.Mem (Real.cos r)) (hs : s.Mem (Real.sin r)) :
    (quadrant (n % 4) c s).1.Mem (Real.cos (r + n * (Real.pi / 2))) ∧
    (quadrant (n % 4) c s).2.Mem (Real.sin (r + n * (Real.pi / 2))) := by
  obtain ⟨q0, q1, q2, q3⟩ := cos_sin_quadrant r n
  have C := DI.mem_clamp1 hc (Real.neg_one_le_cos r) (Real.cos_le_one r)
  have S := DI.mem_clamp1 hs (Real.neg_one_le_sin r) (Real.sin_le_one r)
  have C' := DI.mem_clamp1_neg hc (Real.neg_one_le_cos r) (Real.cos_le_one r)
  have S' := DI.mem_clamp1_neg hs (Real.neg_one_le_sin r) (Real.sin_le_one r)
  have h : n % 4 = 0 ∨ n % 4 = 1 ∨ n % 4 = 2 ∨ n % 4 = 3 := by omega
  rcases h with h | h | h | h
  · rw [(q0 h).1, (q0 h).2, h]; exact ⟨C, S⟩
  · rw [(q1 h).1, (q1 h).2, h]; exact ⟨S', C⟩
  · rw [(q2 h).1, (q2 h).2, h]; exact ⟨C', S'⟩
  · rw [(q3 h).1, (q3 h).2, h]; exact ⟨S, C'⟩

theorem cosSinWith_sound (wp : ℕ) (n : ℤ) (w : ℕ) (X : DI) (x : ℝ) (hx : X.Mem x) :
    (cosSinWith wp n w X).1.Mem (Real.cos x) ∧ (cosSinWith wp n w X).2.Mem (Real.sin x) := by
  unfold cosSinWith
  simp only
  set R := (if n = 0 then X else (trigSub w n X).round (wp + 16)) with hR
  have hr : R.Mem (x - (n : ℝ) * (Real.pi / 2)) := by
    rw [hR]
    split
    · rename_i h; subst h; simpa using hx
    · exact DI.mem_round (trigSub_sound w n X x hx) _
  split
  · rename_i hmag
    rw [Dy.le_iff, Dy.val_one] at hmag
    have habs := le_trans (DI.abs_le_mag hr) hmag
    obtain ⟨hc, hs⟩ := cosSinSmall_sound (wp + 16) (nTerms (wp + 16) R.mag.lowBits / 2 + 1) R _ hr habs
      (by omega)
    have := quadrant_sound n _ _ _ hc hs
    rw [sub_add_cancel] at this
    exact this
  · exact ⟨mem_full_cos x, mem_full_sin x⟩

theorem cosI_mem (wp : ℕ) {I : DI} {x : ℝ} (hx : I.Mem x) : (cosI wp I).Mem (Real.cos x) := by
  unfold cosI cosSinI
  exact DI.mem_round (cosSinWith_sound wp _ _ I x hx).1 wp

theorem sinI_mem (wp : ℕ) {I : DI} {x : ℝ} (hx : I.Mem x) : (sinI wp I).Mem (Real.sin x) := by
  unfold sinI cosSinI
  exact DI.mem_round (cosSinWith_sound wp _ _ I x hx).2 wp

theorem cosSinI_mem (wp : ℕ) {I : DI} {x : ℝ} (hx : I.Mem x) :
    (cosSinI wp I).1.Mem (Real.cos x) ∧ (cosSinI wp I).2.Mem (Real.sin x) := by
  unfold cosSinI
  exact cosSinWith_sound wp _ _ I x hx

end Mp.Encl

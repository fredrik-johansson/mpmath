/-
  Props/C14.lean — C14 (arithmetic part): real interval operations contain every exact result.
  `FinIv I`: both endpoints finite canonical, lower ≤ upper.  `MemIv x I`: val I.1 ≤ x ≤ val I.2.
  Theorems are for finite endpoints of ANY bit length (in particular longer than the interval precision),
  every precision `prec ≥ 0` (0 = exact) — no bound on sizes.
-/
import MpProofs.IntervalSound

namespace Mp

theorem C14_add {s t : Mpi} (hs : FinIv s) (ht : FinIv t) {prec : ℤ} (hp : 0 ≤ prec) {x y : ℚ}
    (hx : MemIv x s) (hy : MemIv y t) : FinIv (mpi_add s t prec) ∧ MemIv (x + y) (mpi_add s t prec) :=
  mpi_add_sound hs ht hp hx hy

theorem C14_sub {s t : Mpi} (hs : FinIv s) (ht : FinIv t) {prec : ℤ} (hp : 0 ≤ prec) {x y : ℚ}
    (hx : MemIv x s) (hy : MemIv y t) : FinIv (mpi_sub s t prec) ∧ MemIv (x - y) (mpi_sub s t prec) :=
  mpi_sub_sound hs ht hp hx hy

theorem C14_neg {s : Mpi} (hs : FinIv s) {prec : ℤ} (hp : 0 ≤ prec) {x : ℚ} (hx : MemIv x s) :
    FinIv (mpi_neg s prec) ∧ MemIv (-x) (mpi_neg s prec) := mpi_neg_sound hs hp hx

theorem C14_pos {s : Mpi} (hs : FinIv s) {prec : ℤ} (hp : 0 ≤ prec) {x : ℚ} (hx : MemIv x s) :
    FinIv (mpi_pos s prec) ∧ MemIv x (mpi_pos s prec) := mpi_pos_sound hs hp hx

/-- multiplication: the two degenerate cases, the six sign cases and the four-product general case -/
theorem C14_mul {s t : Mpi} (hs : FinIv s) (ht : FinIv t) {prec : ℤ} (hp : 0 ≤ prec) {x y : ℚ}
    (hx : MemIv x s) (hy : MemIv y t) : FinIv (mpi_mul s t prec) ∧ MemIv (x * y) (mpi_mul s t prec) :=
  mpi_mul_sound hs ht hp hx hy

/- The other clauses of the property: abs, square, sqrt and division in Props/C14more.lean, integer powers in
   Props/C14pow.lean, infinite endpoints (add, sub, neg) in Props/C14inf.lean.  Products and quotients with infinite endpoints, the
   transcendental functions (sampled against the proved oracle of Props/C14fun.lean) and string conversion are tied
   bit-exactly to the code and decided on sample points by the check (partial). -/

example : FinIv ((⟨1, 3, -1, 2⟩, ⟨0, 5, 0, 3⟩) : Mpi) ∧ MemIv (1/3) ((⟨1, 3, -1, 2⟩, ⟨0, 5, 0, 3⟩) : Mpi) := by
  refine ⟨⟨by decide, by decide, ?_⟩, ?_, ?_⟩ <;> norm_num [val]

end Mp

/-
  MpProofs/Cmp.lean — `mpf_cmp` and the ordering predicates agree with comparison of exact values;
  canonical encodings are injective in the value.
-/
import MpProofs.Add

namespace Mp

/-- three-way comparison of rationals, Python `cmp` convention -/
def cmpQ (a b : ℚ) : Int := if a < b then -1 else if a = b then 0 else 1

theorem val_pos_of_sign0 {s : Mpf} (hm : s.man ≠ 0) (h : s.sign = 0) : 0 < val s := by
  rw [val_def, h, pow_zero, one_mul]
  have : (0 : ℚ) < s.man := by exact_mod_cast Nat.pos_of_ne_zero hm
  have := two_zpow_pos (K := ℚ) s.exp
  positivity

theorem val_neg_of_sign1 {s : Mpf} (hm : s.man ≠ 0) (h : s.sign = 1) : val s < 0 := by
  rw [val_def, h, pow_one, neg_one_mul, neg_lt_zero]
  have : (0 : ℚ) < s.man := by exact_mod_cast Nat.pos_of_ne_zero hm
  have := two_zpow_pos (K := ℚ) s.exp
  positivity

theorem odd_man_exp_inj {m m' : ℕ} {e e' : ℤ} (hm : m % 2 = 1) (hm' : m' % 2 = 1)
    (h : (m : ℚ) * 2 ^ e = (m' : ℚ) * 2 ^ e') : m = m' ∧ e = e' := by
  -- the mantissa at the smaller exponent is the other one shifted, and it is odd
  have key : ∀ {m m' : ℕ} {e e' : ℤ}, m % 2 = 1 → e ≤ e' →
      (m : ℚ) * 2 ^ e = (m' : ℚ) * 2 ^ e' → m = m' ∧ e = e' := by
    intro m m' e e' hm hle h
    have h3 := dyadic_cancel hle h.symm
    rcases Nat.eq_zero_or_pos (e' - e).toNat with h0 | hpos
    · rw [h0, pow_zero, mul_one] at h3; exact ⟨h3, by omega⟩
    · obtain ⟨j, hj⟩ : ∃ j, (e' - e).toNat = j + 1 := ⟨_, (Nat.succ_pred_eq_of_pos hpos).symm⟩
      rw [hj, pow_succ, ← mul_assoc] at h3; omega
  rcases le_total e e' with hle | hle
  · exact key hm hle h
  · have := key hm' hle h.symm
    exact ⟨this.1.symm, this.2.symm⟩

theorem CanonFin.val_neg_iff {s : Mpf} (hs : CanonFin s) : val s < 0 ↔ s.sign ≠ 0 := by
  rcases hs.cases with rfl | ⟨hsm, hss, -, -⟩
  · rw [val_fzero]; exact ⟨fun h => absurd h (lt_irrefl 0), fun h => absurd rfl h⟩
  · rcases Nat.le_one_iff_eq_zero_or_eq_one.1 hss with h | h
    · exact ⟨fun h' => absurd h' (val_pos_of_sign0 hsm h).not_gt, fun h' => absurd h h'⟩
    · exact ⟨fun _ => by omega, fun _ => val_neg_of_sign1 hsm h⟩

theorem CanonFin.eq_fzero_of_val {s : Mpf} (hs : CanonFin s) (h : val s = 0) : s = fzero := by
  rcases hs.cases with rfl | ⟨hsm, hss, -, -⟩
  · rfl
  · rcases Nat.le_one_iff_eq_zero_or_eq_one.1 hss with h0 | h1
    · exact absurd h (val_pos_of_sign0 hsm h0).ne'
    · exact absurd h (val_neg_of_sign1 hsm h1).ne

/-- **canonical encodings are injective**: two canonical finite tuples with the same value are the
same tuple (so equality, hashing and pickling never distinguish equal values). -/
theorem canonFin_val_inj {s t : Mpf} (hs : CanonFin s) (ht : CanonFin t) (h : val s = val t) : s = t := by
  rcases hs.cases with rfl | ⟨hsm, hss, hso, hsb⟩
  · exact (ht.eq_fzero_of_val (h.symm.trans val_fzero)).symm
  rcases ht.cases with rfl | ⟨htm, hts, hto, htb⟩
  · exact hs.eq_fzero_of_val (h.trans val_fzero)
  have hsign : s.sign = t.sign := by
    have h1 := hs.val_neg_iff
    have h2 := ht.val_neg_iff
    rw [h] at h1
    have := h1.symm.trans h2
    omega
  rw [val_def, val_def, hsign] at h
  obtain ⟨hm, he⟩ := odd_man_exp_inj hso hto (mul_left_cancel₀ (pow_ne_zero _ (by norm_num)) h)
  cases s; cases t
  simp only [Mpf.mk.injEq]
  simp only at hsign hm he hsb htb
  exact ⟨hsign, hm, he, by rw [hsb, htb, hm]⟩

theorem cmpQ_lt {a b : ℚ} (h : a < b) : cmpQ a b = -1 := if_pos h

theorem cmpQ_self (a : ℚ) : cmpQ a a = 0 := by simp [cmpQ]

theorem cmpQ_gt {a b : ℚ} (h : b < a) : cmpQ a b = 1 := by
  unfold cmpQ; rw [if_neg h.not_gt, if_neg h.ne']

theorem cmpQ_swap (a b : ℚ) : cmpQ b a = -cmpQ a b := by
  rcases lt_trichotomy a b with h | rfl | h
  · rw [cmpQ_lt h, cmpQ_gt h]; rfl
  · rw [cmpQ_self]; rfl
  · rw [cmpQ_gt h, cmpQ_lt h]

theorem cmpQ_neg (a b : ℚ) : cmpQ (-a) (-b) = -cmpQ a b := by
  rcases lt_trichotomy a b with h | rfl | h
  · rw [cmpQ_lt h, cmpQ_gt (neg_lt_neg h)]; rfl
  · rw [cmpQ_self, cmpQ_self]; rfl
  · rw [cmpQ_gt h, cmpQ_lt (neg_lt_neg h)]

theorem cmpQ_lt_zero {a b : ℚ} : cmpQ a b < 0 ↔ a < b := by
  rcases lt_trichotomy a b with h | rfl | h
  · rw [cmpQ_lt h]; exact ⟨fun _ => h, fun _ => by decide⟩
  · rw [cmpQ_self]; exact ⟨fun h => absurd h (by decide), fun h => absurd h (lt_irrefl a)⟩
  · rw [cmpQ_gt h]; exact ⟨fun h => absurd h (by decide), fun h' => absurd h' h.not_gt⟩

theorem cmpQ_le_zero {a b : ℚ} : cmpQ a b ≤ 0 ↔ a ≤ b := by
  rcases lt_trichotomy a b with h | rfl | h
  · rw [cmpQ_lt h]; exact ⟨fun _ => h.le, fun _ => by decide⟩
  · rw [cmpQ_self]; exact ⟨fun _ => le_refl a, fun _ => le_refl 0⟩
  · rw [cmpQ_gt h]; exact ⟨fun h => absurd h (by decide), fun h' => absurd h' h.not_ge⟩

theorem cmpQ_gt_zero {a b : ℚ} : cmpQ a b > 0 ↔ a > b := by
  rw [gt_iff_lt, gt_iff_lt, ← cmpQ_lt_zero, cmpQ_swap a b]; omega

theorem cmpQ_ge_zero {a b : ℚ} : cmpQ a b ≥ 0 ↔ a ≥ b := by
  rw [ge_iff_le, ge_iff_le, ← cmpQ_le_zero, cmpQ_swap a b]; omega

theorem mpf_sign_canon {s : Mpf} (hs : CanonFin s) : mpf_sign s = cmpQ (val s) 0 := by
  rcases hs.cases with rfl | ⟨hsm, hss, hso, hsb⟩
  · rw [val_fzero, cmpQ_self]; rfl
  · simp only [mpf_sign, hsm, if_false]
    rcases Nat.le_one_iff_eq_zero_or_eq_one.1 hss with h | h
    · rw [cmpQ_gt (val_pos_of_sign0 hsm h), h]; rfl
    · rw [cmpQ_lt (val_neg_of_sign1 hsm h), h]; rfl

/-- **`mpf_cmp` is the exact three-way comparison** of the values, for all finite canonical operands
(the fast paths on sign, exponent and leading-bit position, and the 5-bit subtraction fallback). -/
theorem mpf_cmp_spec {s t : Mpf} (hs : CanonFin s) (ht : CanonFin t) : mpf_cmp s t = cmpQ (val s) (val t) := by
  unfold mpf_cmp
  rcases hs.cases with rfl | ⟨hsm, hss, hso, hsb⟩
  · rw [if_pos (Or.inl rfl : fzero.man = 0 ∨ t.man = 0), if_pos rfl, mpf_sign_canon ht, ← cmpQ_swap, val_fzero]
  rcases ht.cases with rfl | ⟨htm, hts, hto, htb⟩
  · have hne : s ≠ fzero := by intro h; rw [h] at hsm; exact hsm rfl
    rw [if_pos (Or.inr rfl : s.man = 0 ∨ fzero.man = 0), if_neg hne, if_pos rfl, mpf_sign_canon hs, val_fzero]
  rw [if_neg (not_or.2 ⟨hsm, htm⟩)]
  by_cases hsg : s.sign = t.sign
  swap
  · rw [if_pos hsg]
    by_cases h0 : s.sign = 0
    · rw [if_pos h0]
      exact (cmpQ_gt ((val_neg_of_sign1 htm (by omega)).trans (val_pos_of_sign0 hsm h0))).symm
    · rw [if_neg h0]
      exact (cmpQ_lt ((val_neg_of_sign1 hsm (by omega)).trans (val_pos_of_sign0 htm (by omega)))).symm
  rw [if_neg (not_not.2 hsg)]
  -- same sign: compare the magnitudes and flip the result for negative operands
  have he := two_zpow_pos (K := ℚ) t.exp
  have cmp_of_mag : ∀ c : Int, cmpQ ((s.man : ℚ) * 2 ^ s.exp) ((t.man : ℚ) * 2 ^ t.exp) = c →
      (if s.sign ≠ 0 then -c else c) = cmpQ (val s) (val t) := by
    rintro c rfl
    rw [val_def, val_def, ← hsg]
    rcases Nat.le_one_iff_eq_zero_or_eq_one.1 hss with h | h
    · rw [h, pow_zero, one_mul, one_mul]; rfl
    · rw [h, pow_one, neg_one_mul, neg_one_mul, cmpQ_neg]; rfl
  by_cases hexp : s.exp = t.exp
  · rw [if_pos hexp]
    rw [hexp] at cmp_of_mag
    by_cases hman : s.man = t.man
    · rw [if_pos hman, ← cmp_of_mag 0 (by rw [hman, cmpQ_self]), neg_zero, ite_self]
    · rw [if_neg hman]
      by_cases hgt : s.man > t.man
      · rw [if_pos hgt]
        exact cmp_of_mag 1 (cmpQ_gt (mul_lt_mul_of_pos_right (Nat.cast_lt.2 hgt) he))
      · rw [if_neg hgt]
        exact cmp_of_mag (-1) (cmpQ_lt (mul_lt_mul_of_pos_right (Nat.cast_lt.2 (by omega)) he))
  · rw [if_neg hexp]
    have hs1 := mag_bounds s.man hsm s.exp
    have ht1 := mag_bounds t.man htm t.exp
    dsimp only
    rw [hsb, htb]
    by_cases hab : (bitcount s.man : ℤ) + s.exp < bitcount t.man + t.exp
    · -- top bit of s strictly below top bit of t
      rw [if_pos hab]
      refine cmp_of_mag (-1) (cmpQ_lt (hs1.2.trans_le (le_trans ?_ ht1.1)))
      exact zpow_le_zpow_right₀ (by norm_num) (by omega)
    · rw [if_neg hab]
      by_cases hba : (bitcount s.man : ℤ) + s.exp > bitcount t.man + t.exp
      · rw [if_pos hba]
        refine cmp_of_mag 1 (cmpQ_gt (ht1.2.trans_le (le_trans ?_ hs1.1)))
        exact zpow_le_zpow_right₀ (by norm_num) (by omega)
      · -- same leading bit position: the sign of the difference rounded to 5 bits toward -∞
        rw [if_neg hba]
        obtain ⟨hcanon, -, hr⟩ := mpf_sub_spec hs ht (prec := 5) (by norm_num) .f
        obtain ⟨-, hle, hmax⟩ : IsRoundF 5 (val s - val t) (val (mpf_sub s t 5 .f)) := (hr (by norm_num)).1
        by_cases hsign : (mpf_sub s t 5 .f).sign ≠ 0
        · rw [if_pos hsign]
          refine (cmpQ_lt (lt_of_not_ge fun hcon => ?_)).symm
          exact absurd (hmax 0 (repb_zero _) (sub_nonneg.2 hcon)) (not_le.2 (hcanon.val_neg_iff.2 hsign))
        · rw [if_neg hsign]
          have hnn := not_lt.1 (mt hcanon.val_neg_iff.1 hsign)
          have hne : val t ≠ val s := fun h => hexp (congrArg Mpf.exp (canonFin_val_inj hs ht h.symm))
          exact (cmpQ_gt (lt_of_le_of_ne (sub_nonneg.1 (hnn.trans hle)) hne)).symm

theorem not_fnan_of_canonFin {s : Mpf} (hs : CanonFin s) : s ≠ fnan := by
  rcases hs.cases with rfl | ⟨hm, _⟩
  · decide
  · intro h; rw [h] at hm; exact hm rfl

theorem mpf_lt_spec {s t : Mpf} (hs : CanonFin s) (ht : CanonFin t) : mpf_lt s t = decide (val s < val t) := by
  simp only [mpf_lt, not_fnan_of_canonFin hs, not_fnan_of_canonFin ht, or_self, if_false, mpf_cmp_spec hs ht]
  exact decide_eq_decide.2 cmpQ_lt_zero

theorem mpf_le_spec {s t : Mpf} (hs : CanonFin s) (ht : CanonFin t) : mpf_le s t = decide (val s ≤ val t) := by
  simp only [mpf_le, not_fnan_of_canonFin hs, not_fnan_of_canonFin ht, or_self, if_false, mpf_cmp_spec hs ht]
  exact decide_eq_decide.2 cmpQ_le_zero

theorem mpf_gt_spec {s t : Mpf} (hs : CanonFin s) (ht : CanonFin t) : mpf_gt s t = decide (val s > val t) := by
  simp only [mpf_gt, not_fnan_of_canonFin hs, not_fnan_of_canonFin ht, or_self, if_false, mpf_cmp_spec hs ht]
  exact decide_eq_decide.2 cmpQ_gt_zero

theorem mpf_ge_spec {s t : Mpf} (hs : CanonFin s) (ht : CanonFin t) : mpf_ge s t = decide (val s ≥ val t) := by
  simp only [mpf_ge, not_fnan_of_canonFin hs, not_fnan_of_canonFin ht, or_self, if_false, mpf_cmp_spec hs ht]
  exact decide_eq_decide.2 cmpQ_ge_zero

theorem mpf_eq_spec {s t : Mpf} (hs : CanonFin s) (ht : CanonFin t) : mpf_eq s t = decide (val s = val t) := by
  simp only [mpf_eq, not_fnan_of_canonFin hs, not_fnan_of_canonFin ht, or_self, and_false, if_false]
  by_cases h : s = t
  · subst h; simp
  · have : val s ≠ val t := fun hv => h (canonFin_val_inj hs ht hv)
    simp [h, this]

end Mp

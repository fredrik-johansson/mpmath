/-
  Soundness of the reference evaluator `Mp.SpecRef.eval` and of the accuracy deciders used by C18, C19, C22.
  The deciders are proved over an arbitrary enclosure function (`encCheck`, `encCheckC`); `specCheck`, `specCheckC`
  are these at `enc := fun wp => eval wp e`.
-/
import MpModel.SpecRef2
import MpProofs.EnclSound
import Mathlib.Analysis.Complex.Norm

namespace Mp.SpecRef
open Mp.Encl

/-- the real number denoted by a reference expression -/
noncomputable def SExpr.sem : SExpr → ℝ
  | .rat n d => (n : ℝ) / (d : ℝ)
  | .pi => Real.pi
  | .sqrtPi => Real.sqrt Real.pi
  | .neg a => -a.sem
  | .add a b => a.sem + b.sem
  | .mul a b => a.sem * b.sem
  | .inv a => (a.sem)⁻¹
  | .pow a k => a.sem ^ k
  | .log a => Real.log a.sem

/-- the side conditions under which `sem` is the intended mathematical value -/
def SExpr.Dom : SExpr → Prop
  | .rat _ d => d ≠ 0
  | .pi => True
  | .sqrtPi => True
  | .neg a => a.Dom
  | .add a b => a.Dom ∧ b.Dom
  | .mul a b => a.Dom ∧ b.Dom
  | .inv a => a.Dom ∧ a.sem ≠ 0
  | .pow a _ => a.Dom
  | .log a => a.Dom ∧ 0 < a.sem

theorem powI_mem (wp : ℕ) {X : DI} {x : ℝ} (hx : X.Mem x) (k : ℕ) : (powI wp X k).Mem (x ^ k) := by
  induction k with
  | zero => simpa [powI] using DI.mem_one
  | succ k ih =>
    rw [powI, pow_succ]
    exact DI.mem_round (DI.mem_mul ih hx) wp

theorem eval_sound (wp : ℕ) (e : SExpr) : Mp.Encl.Encloses (eval wp e) e.sem e.Dom := by
  induction e with
  | rat n d =>
    rw [eval]
    split
    · exact .none
    · rename_i hd
      exact .some (DI.mem_divNat wp (DI.mem_ofInt n) (Nat.pos_of_ne_zero hd)) hd
  | pi => exact .some (piI_mem wp) trivial
  | sqrtPi => exact .some (DI.mem_round (sqrtI_sound _ _ _ (piI_mem _)) wp) trivial
  | neg a iha => exact iha.map fun _ h => DI.mem_neg h
  | add a b iha ihb =>
    intro F h
    rw [eval] at h
    split at h
    · rename_i A B hA hB
      obtain rfl := Option.some.inj h
      exact ⟨DI.mem_round (DI.mem_add (iha A hA).1 (ihb B hB).1) wp, (iha A hA).2, (ihb B hB).2⟩
    · cases h
  | mul a b iha ihb =>
    intro F h
    rw [eval] at h
    split at h
    · rename_i A B hA hB
      obtain rfl := Option.some.inj h
      exact ⟨DI.mem_round (DI.mem_mul (iha A hA).1 (ihb B hB).1) wp, (iha A hA).2, (ihb B hB).2⟩
    · cases h
  | inv a iha =>
    refine iha.bind fun A hA hD => ?_
    have := DI.encloses_divI wp DI.mem_one hA
    rw [one_div] at this
    exact this.imp fun h0 => ⟨hD, h0⟩
  | pow a k iha => exact iha.map fun _ h => powI_mem wp h k
  | log a iha => exact iha.bind fun A hA hD => (encloses_logI hA).imp fun h0 => ⟨hD, h0⟩

theorem mig_nonneg (F : DI) : 0 ≤ F.mig.val := by
  unfold DI.mig
  split
  · rename_i h; exact ((Dy.val_pos_iff _).2 h).le
  · split
    · rename_i h; rw [Dy.val_neg]; linarith [(Dy.val_neg_iff _).2 h]
    · simp [Dy.zero, Dy.val]

theorem norm_sub_ofReal_sq (a b v : ℝ) :
    ‖(⟨a, b⟩ : ℂ) - (v : ℂ)‖ ^ 2 = (a - v) ^ 2 + b ^ 2 := by
  rw [Complex.sq_norm, Complex.normSq_apply]
  simp [sq]

theorem sq_add_le_of_bounds {d i t a M g : ℝ} (hd : |d| ≤ M) (hg0 : 0 ≤ g) (hg : g ≤ a)
    (hc : M * M + i * i ≤ t * t * (g * g)) : d ^ 2 + i ^ 2 ≤ (t * a) ^ 2 := by
  have h1 : d ^ 2 ≤ M * M := by rw [← sq_abs, sq]; exact mul_self_le_mul_self (abs_nonneg d) hd
  calc d ^ 2 + i ^ 2 ≤ M * M + i * i := add_le_add h1 (sq i).le
    _ ≤ t * t * (g * g) := hc
    _ ≤ t * t * (a * a) := mul_le_mul_of_nonneg_left (mul_self_le_mul_self hg0 hg) (mul_self_nonneg t)
    _ = (t * a) ^ 2 := by rw [mul_pow, sq, sq]

theorem lt_sq_add_of_bounds {d i t a M g : ℝ} (ha0 : 0 ≤ a) (ha : a ≤ M) (hg0 : 0 ≤ g) (hg : g ≤ |d|)
    (hc : t * t * (M * M) < g * g + i * i) : (t * a) ^ 2 < d ^ 2 + i ^ 2 := by
  have h1 : g * g ≤ d ^ 2 := by rw [← sq_abs d, sq]; exact mul_self_le_mul_self hg0 hg
  calc (t * a) ^ 2 = t * t * (a * a) := by rw [mul_pow, sq, sq]
    _ ≤ t * t * (M * M) := mul_le_mul_of_nonneg_left (mul_self_le_mul_self ha0 ha) (mul_self_nonneg t)
    _ < g * g + i * i := hc
    _ ≤ d ^ 2 + i ^ 2 := add_le_add h1 (sq i).ge

theorem decideC_ok (F : DI) (yre yim t : Dy) (v : ℝ) (ht : 0 ≤ t.val) (hv : F.Mem v)
    (h : decideC F yre yim t = .ok) : ‖(⟨yre.val, yim.val⟩ : ℂ) - (v : ℂ)‖ ≤ t.val * |v| := by
  unfold decideC at h
  simp only at h
  split at h
  · rename_i hc
    rw [Dy.le_iff] at hc
    simp only [Dy.val_add, Dy.val_mul] at hc
    apply le_of_pow_le_pow_left₀ two_ne_zero (mul_nonneg ht (abs_nonneg v))
    rw [norm_sub_ofReal_sq]
    exact sq_add_le_of_bounds (DI.abs_le_mag (DI.mem_pointSub hv yre)) (mig_nonneg F) (DI.mig_le_abs hv) hc
  · split at h <;> simp at h

theorem decideC_violates (F : DI) (yre yim t : Dy) (v : ℝ) (hv : F.Mem v)
    (h : decideC F yre yim t = .violates) : t.val * |v| < ‖(⟨yre.val, yim.val⟩ : ℂ) - (v : ℂ)‖ := by
  unfold decideC at h
  simp only at h
  split at h
  · simp at h
  · split at h
    · rename_i hc
      rw [Dy.lt_iff] at hc
      simp only [Dy.val_add, Dy.val_mul] at hc
      apply lt_of_pow_lt_pow_left₀ 2 (norm_nonneg _)
      rw [norm_sub_ofReal_sq]
      exact lt_sq_add_of_bounds (abs_nonneg v) (DI.abs_le_mag hv) (mig_nonneg _)
        (DI.mig_le_abs (DI.mem_pointSub hv yre)) hc
    · simp at h

/-- every interval produced by the enclosure function contains `v` -/
def Encloses (enc : ℕ → Option DI) (v : ℝ) : Prop := ∀ wp, Mp.Encl.Encloses (enc wp) v

/-- the counterpart of `decide1Loop_sound` for a loop whose one-step decider is `decideC` (complex output, error in
modulus) -/
theorem decideCLoop_sound {ev : ℕ → Option DI} {L : List ℕ → Verdict} {yre yim : Dy} {p k : ℕ}
    (hnil : L [] = .undecided)
    (hcons : ∀ wp ws, L (wp :: ws) = decisionStep ev (fun F => decideC F yre yim ⟨1, (k : ℤ) - (p : ℤ)⟩) wp (L ws))
    {v : ℝ} {P : Prop} (hev : ∀ wp, Mp.Encl.Encloses (ev wp) v P) (ws : List ℕ) :
    (L ws = .ok → ‖(⟨yre.val, yim.val⟩ : ℂ) - (v : ℂ)‖ ≤ (2 : ℝ) ^ ((k : ℤ) - (p : ℤ)) * |v|) ∧
    (L ws = .violates → (2 : ℝ) ^ ((k : ℤ) - (p : ℤ)) * |v| < ‖(⟨yre.val, yim.val⟩ : ℂ) - (v : ℂ)‖) ∧
    (L ws ≠ .undecided → P) := by
  have ht : 0 ≤ (Dy.mk 1 ((k : ℤ) - (p : ℤ))).val := by rw [val_two_zpow]; positivity
  have h := decisionLoop_sound hnil hcons hev (fun F hF => decideC_ok F yre yim _ v ht hF)
    (fun F hF => decideC_violates F yre yim _ v hF) ws
  rwa [val_two_zpow] at h

/-- the first working precision decides when the one-step decider does there -/
theorem decisionLoop_of_first {ev : ℕ → Option DI} {d : DI → Verdict} {L : List ℕ → Verdict}
    (hcons : ∀ wp ws, L (wp :: ws) = decisionStep ev d wp (L ws)) {wp : ℕ} {ws : List ℕ} {F : DI} {v : Verdict}
    (hF : ev wp = some F) (hd : d F = v) (hv : v ≠ .undecided) : L (wp :: ws) = v := by
  rw [hcons, decisionStep, hF]
  dsimp only
  rw [hd]
  cases v
  · rfl
  · rfl
  · exact absurd rfl hv

theorem two_zpow_succ_strict {x v : ℝ} (p k : ℕ) (h : x ≤ (2 : ℝ) ^ ((k : ℤ) - (p : ℤ)) * |v|) (h0 : v ≠ 0) :
    x < (2 : ℝ) ^ (((k + 1 : ℕ) : ℤ) - (p : ℤ)) * |v| := by
  refine lt_of_le_of_lt h (mul_lt_mul_of_pos_right (zpow_lt_zpow_right₀ (by norm_num) ?_) (abs_pos.2 h0))
  push_cast; omega

theorem encCheck_sound {enc : ℕ → Option DI} {v : ℝ} {P : Prop} (h : ∀ wp, Mp.Encl.Encloses (enc wp) v P)
    (y : Dy) (p k : ℕ) :
    (encCheck enc y p k = .ok → |y.val - v| ≤ (2 : ℝ) ^ ((k : ℤ) - (p : ℤ)) * |v|) ∧
    (encCheck enc y p k = .violates → (2 : ℝ) ^ ((k : ℤ) - (p : ℤ)) * |v| < |y.val - v|) ∧
    (encCheck enc y p k ≠ .undecided → P) :=
  decide1Loop_sound (L := encLoop enc y _) rfl (fun _ _ => rfl) h _

theorem encCheckC_sound {enc : ℕ → Option DI} {v : ℝ} {P : Prop} (h : ∀ wp, Mp.Encl.Encloses (enc wp) v P)
    (yre yim : Dy) (p k : ℕ) :
    (encCheckC enc yre yim p k = .ok →
      ‖(⟨yre.val, yim.val⟩ : ℂ) - (v : ℂ)‖ ≤ (2 : ℝ) ^ ((k : ℤ) - (p : ℤ)) * |v|) ∧
    (encCheckC enc yre yim p k = .violates →
      (2 : ℝ) ^ ((k : ℤ) - (p : ℤ)) * |v| < ‖(⟨yre.val, yim.val⟩ : ℂ) - (v : ℂ)‖) ∧
    (encCheckC enc yre yim p k ≠ .undecided → P) :=
  decideCLoop_sound (L := encLoopC enc yre yim _) rfl (fun _ _ => rfl) h _

theorem encCheck_ok_strict {enc : ℕ → Option DI} {v : ℝ} (h : Encloses enc v) (y : Dy) (p k : ℕ)
    (hc : encCheck enc y p k = .ok) (h0 : v ≠ 0) :
    |y.val - v| < (2 : ℝ) ^ (((k + 1 : ℕ) : ℤ) - (p : ℤ)) * |v| :=
  two_zpow_succ_strict p k ((encCheck_sound h y p k).1 hc) h0

theorem encCheck_of_first {enc : ℕ → Option DI} {y : Dy} {p k : ℕ} {F : DI} {v : Verdict}
    (hF : enc (p + 32) = some F) (hd : decide1 F y ⟨1, (k : ℤ) - (p : ℤ)⟩ = v) (hv : v ≠ .undecided) :
    encCheck enc y p k = v :=
  decisionLoop_of_first (L := encLoop enc y _) (fun _ _ => rfl) hF hd hv

theorem specCheck_sound (r : SExpr) (y : Dy) (p k : ℕ) :
    (specCheck r y p k = .ok → |y.val - r.sem| ≤ (2 : ℝ) ^ ((k : ℤ) - (p : ℤ)) * |r.sem|) ∧
    (specCheck r y p k = .violates → (2 : ℝ) ^ ((k : ℤ) - (p : ℤ)) * |r.sem| < |y.val - r.sem|) ∧
    (specCheck r y p k ≠ .undecided → r.Dom) :=
  decide1Loop_sound (L := specLoop r y _) rfl (fun _ _ => rfl) (fun wp => eval_sound wp r) _

theorem specCheckC_sound (r : SExpr) (yre yim : Dy) (p k : ℕ) :
    (specCheckC r yre yim p k = .ok →
      ‖(⟨yre.val, yim.val⟩ : ℂ) - (r.sem : ℂ)‖ ≤ (2 : ℝ) ^ ((k : ℤ) - (p : ℤ)) * |r.sem|) ∧
    (specCheckC r yre yim p k = .violates →
      (2 : ℝ) ^ ((k : ℤ) - (p : ℤ)) * |r.sem| < ‖(⟨yre.val, yim.val⟩ : ℂ) - (r.sem : ℂ)‖) ∧
    (specCheckC r yre yim p k ≠ .undecided → r.Dom) :=
  decideCLoop_sound (L := specLoopC r yre yim _) rfl (fun _ _ => rfl) (fun wp => eval_sound wp r) _

theorem specCheck_ok_strict (r : SExpr) (y : Dy) (p k : ℕ) (h : specCheck r y p k = .ok)
    (h0 : r.sem ≠ 0) :
    |y.val - r.sem| < (2 : ℝ) ^ (((k + 1 : ℕ) : ℤ) - (p : ℤ)) * |r.sem| :=
  two_zpow_succ_strict p k ((specCheck_sound r y p k).1 h) h0

theorem specCheck_ok_zero (r : SExpr) (y : Dy) (p k : ℕ) (h : specCheck r y p k = .ok)
    (h0 : r.sem = 0) : y.val = 0 := by
  have h1 := (specCheck_sound r y p k).1 h
  rw [h0, abs_zero, mul_zero, sub_zero] at h1
  exact abs_eq_zero.1 (le_antisymm h1 (abs_nonneg _))

theorem specCheck_of_first {r : SExpr} {y : Dy} {p k : ℕ} {F : DI} {v : Verdict}
    (hF : eval (p + 32) r = some F) (hd : decide1 F y ⟨1, (k : ℤ) - (p : ℤ)⟩ = v) (hv : v ≠ .undecided) :
    specCheck r y p k = v :=
  decisionLoop_of_first (L := specLoop r y _) (ev := fun wp => eval wp r) (fun _ _ => rfl) hF hd hv

theorem specCheckC_dom (r : SExpr) (yre yim : Dy) (p k : ℕ) (h : specCheckC r yre yim p k ≠ .undecided) :
    r.Dom :=
  (specCheckC_sound r yre yim p k).2.2 h

end Mp.SpecRef

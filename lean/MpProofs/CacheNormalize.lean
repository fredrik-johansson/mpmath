/-
  MpProofs/CacheNormalize.lean — the two one-sided rounding facts about `normalize` with a positive
  mantissa that `constant_directed` (Props/C17.lean) needs, from `normalize_spec`.
-/
import MpProofs.Cache
import MpProofs.Normalize

namespace Mp.Cache
open Mp

theorem normalize_floor_le : NormalizeFloorLe := fun m e p hp => by
  have h := normalize_spec (sign := 0) (by norm_num) m e hp .f
  rw [pow_zero, one_mul] at h
  exact roundOK_f_le hp.le h

theorem normalize_ceil_ge : NormalizeCeilGe := fun m e p hp => by
  have h := normalize_spec (sign := 0) (by norm_num) m e hp .c
  rw [pow_zero, one_mul] at h
  exact roundOK_c_ge hp.le h

end Mp.Cache

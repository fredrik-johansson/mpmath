/-
  MpProofs/CalcDiff.lean — behind C28 (`diff`, `diffs`, `diffun`, `taylor`, `differint`, `pade`): the iterated
  derivatives of the function families and of monomials, and what `padeCheck` decides.
-/
import MpModel.CalcDiff
import MpProofs.CalcFam
import Mathlib.Analysis.Calculus.IteratedDeriv.Defs
import Mathlib.Algebra.Polynomial.Coeff
import Mathlib.Algebra.Polynomial.Div

namespace Mp.Calc
open Mp.Encl

/-- if `g (n+1)` is the derivative of `g n` everywhere, then `g n` is the `n`-th derivative of `g 0` -/
theorem iteratedDeriv_of_chain (g : ℕ → ℝ → ℝ) (h : ∀ n x, HasDerivAt (g n) (g (n + 1) x) x) (n : ℕ) :
    iteratedDeriv n (g 0) = g n := by
  induction n with
  | zero => exact iteratedDeriv_zero
  | succ n ih =>
    rw [iteratedDeriv_succ, ih]
    funext x
    exact (h n x).deriv

theorem descFact_eq_zero {m n : ℕ} (h : m < n) : descFact m n = 0 := by
  induction n with
  | zero => omega
  | succ n ih =>
    rw [descFact]
    rcases Nat.lt_succ_iff_lt_or_eq.1 h with h' | h'
    · rw [ih h', Nat.mul_zero]
    · subst h'; simp

/-- one monomial: `d/dx [c·m(m−1)…(m−n+1)·x^(m−n)] = c·m(m−1)…(m−n)·x^(m−n−1)` (also right when `n ≥ m`,
where the right-hand side is 0) -/
theorem monomial_step (c : ℝ) (m n : ℕ) (x : ℝ) :
    HasDerivAt (fun y : ℝ => c * (descFact m n : ℝ) * y ^ (m - n))
      (c * (descFact m (n + 1) : ℝ) * x ^ (m - (n + 1))) x := by
  have h := (hasDerivAt_pow (m - n) x).const_mul (c * (descFact m n : ℝ))
  refine h.congr_deriv ?_
  rw [descFact, Nat.cast_mul, Nat.sub_add_eq]
  ring

/-- the term list of the `n`-th derivative without dropping the vanished terms -/
def dTermsAll (ts : List (ℚ × ℕ)) (n : ℕ) : List (ℚ × ℕ) :=
  ts.map fun t => (t.1 * (descFact t.2 n : ℕ), t.2 - n)

/-- the term list used by `Fam.derivRef (.poly ts) n` -/
def dTerms (ts : List (ℚ × ℕ)) (n : ℕ) : List (ℚ × ℕ) :=
  (ts.filter fun t => n ≤ t.2).map fun t => (t.1 * (descFact t.2 n : ℕ), t.2 - n)

theorem polyFn_dTerms (ts : List (ℚ × ℕ)) (n : ℕ) (x : ℝ) :
    polyFn (dTerms ts n) x = polyFn (dTermsAll ts n) x := by
  induction ts with
  | nil => rfl
  | cons t ts ih =>
    unfold dTerms dTermsAll at *
    rw [List.filter_cons]
    by_cases ht : n ≤ t.2
    · simp only [ht, decide_true, if_true, List.map_cons, polyFn_cons, ih]
    · simp only [ht, decide_false, List.map_cons, polyFn_cons]
      rw [descFact_eq_zero (by omega)]
      simp only [Nat.cast_zero, mul_zero, Rat.cast_zero, zero_mul, zero_add]
      exact ih

theorem polyFn_dTermsAll_step (ts : List (ℚ × ℕ)) (n : ℕ) (x : ℝ) :
    HasDerivAt (polyFn (dTermsAll ts n)) (polyFn (dTermsAll ts (n + 1)) x) x := by
  induction ts with
  | nil =>
    have : polyFn (dTermsAll [] n) = fun _ => (0 : ℝ) := funext fun y => by simp [dTermsAll, polyFn]
    rw [this]
    simpa [dTermsAll, polyFn] using hasDerivAt_const x (0 : ℝ)
  | cons t ts ih =>
    have h1 : polyFn (dTermsAll (t :: ts) n) =
        fun y => (t.1 : ℝ) * (descFact t.2 n : ℝ) * y ^ (t.2 - n) + polyFn (dTermsAll ts n) y :=
      funext fun y => by
        simp only [dTermsAll, List.map_cons, polyFn_cons]; push_cast; rfl
    have h2 : polyFn (dTermsAll (t :: ts) (n + 1)) x =
        (t.1 : ℝ) * (descFact t.2 (n + 1) : ℝ) * x ^ (t.2 - (n + 1)) + polyFn (dTermsAll ts (n + 1)) x := by
      simp only [dTermsAll, List.map_cons, polyFn_cons]; push_cast; rfl
    rw [h1, h2]
    exact (monomial_step _ _ _ x).add ih

theorem polyFn_dTermsAll_zero (ts : List (ℚ × ℕ)) : polyFn (dTermsAll ts 0) = polyFn ts := by
  funext x
  induction ts with
  | nil => rfl
  | cons t ts ih =>
    have : polyFn (dTermsAll (t :: ts) 0) x = (t.1 : ℝ) * x ^ t.2 + polyFn (dTermsAll ts 0) x := by
      simp [dTermsAll, polyFn_cons, descFact]
    rw [this, ih, polyFn_cons]

theorem polyFn_iteratedDeriv (ts : List (ℚ × ℕ)) (n : ℕ) :
    iteratedDeriv n (polyFn ts) = polyFn (dTerms ts n) := by
  have h := iteratedDeriv_of_chain (fun n => polyFn (dTermsAll ts n)) (polyFn_dTermsAll_step ts) n
  simp only [polyFn_dTermsAll_zero] at h
  rw [h]
  funext x
  exact (polyFn_dTerms ts n x).symm

theorem expL_iteratedDeriv (c : ℝ) (n : ℕ) :
    iteratedDeriv n (fun x : ℝ => Real.exp (c * x)) = fun x => c ^ n * Real.exp (c * x) := by
  have h := iteratedDeriv_of_chain (fun n x => c ^ n * Real.exp (c * x)) (fun n x => by
    have h := (((hasDerivAt_id' x).const_mul c).exp).const_mul (c ^ n)
    refine h.congr_deriv ?_
    ring) n
  simp only [pow_zero, one_mul] at h
  exact h

/-- the 4-cycle `s, c, −s, −c` of derivatives of `sin` -/
def cyc4 (k : ℕ) (s c : ℝ) : ℝ :=
  match k with
  | 0 => s
  | 1 => c
  | 2 => -s
  | _ => -c

theorem cyc4_step (c : ℝ) (k : ℕ) (x : ℝ) :
    HasDerivAt (fun y => cyc4 (k % 4) (Real.sin (c * y)) (Real.cos (c * y)))
      (c * cyc4 ((k + 1) % 4) (Real.sin (c * x)) (Real.cos (c * x))) x := by
  have hs := ((hasDerivAt_id' x).const_mul c).sin
  have hc := ((hasDerivAt_id' x).const_mul c).cos
  have hr := Nat.mod_lt k (Nat.succ_pos 3)
  rw [Nat.add_mod]
  generalize k % 4 = r at hr
  interval_cases r
  · exact hs.congr_deriv (by show _ = c * Real.cos (c * x); ring)
  · exact hc.congr_deriv (by show _ = c * -Real.sin (c * x); ring)
  · exact hs.neg.congr_deriv (by show _ = c * -Real.cos (c * x); ring)
  · exact hc.neg.congr_deriv (by show _ = c * Real.sin (c * x); ring)

theorem cyc4_iteratedDeriv (c : ℝ) (s n : ℕ) :
    iteratedDeriv n (fun x : ℝ => cyc4 (s % 4) (Real.sin (c * x)) (Real.cos (c * x))) =
      fun x => c ^ n * cyc4 ((n + s) % 4) (Real.sin (c * x)) (Real.cos (c * x)) := by
  have h := iteratedDeriv_of_chain
    (fun n x => c ^ n * cyc4 ((n + s) % 4) (Real.sin (c * x)) (Real.cos (c * x)))
    (fun n x => ((cyc4_step c (n + s) x).const_mul (c ^ n)).congr_deriv
      (by rw [Nat.add_right_comm, pow_succ]; ring)) n
  simpa using h

theorem sinL_iteratedDeriv (c : ℝ) (n : ℕ) :
    iteratedDeriv n (fun x : ℝ => Real.sin (c * x)) =
      fun x => c ^ n * cyc4 (n % 4) (Real.sin (c * x)) (Real.cos (c * x)) :=
  cyc4_iteratedDeriv c 0 n

/-- `n`-th derivative of `cos (c·x)`: the cycle of `sin` shifted by one -/
theorem cosL_iteratedDeriv (c : ℝ) (n : ℕ) :
    iteratedDeriv n (fun x : ℝ => Real.cos (c * x)) =
      fun x => c ^ n * cyc4 ((n + 1) % 4) (Real.sin (c * x)) (Real.cos (c * x)) :=
  cyc4_iteratedDeriv c 1 n

theorem xexp_iteratedDeriv (c : ℝ) (n : ℕ) :
    iteratedDeriv n (fun x : ℝ => x * Real.exp (c * x)) =
      fun x => Real.exp (c * x) * (c ^ n * x + (n : ℝ) * c ^ (n - 1)) := by
  have h := iteratedDeriv_of_chain
    (fun n x => Real.exp (c * x) * (c ^ n * x + (n : ℝ) * c ^ (n - 1))) (fun n x => by
      have h1 := ((hasDerivAt_id' x).const_mul c).exp
      have h2 := ((hasDerivAt_id' x).const_mul (c ^ n)).add_const ((n : ℝ) * c ^ (n - 1))
      refine (h1.mul h2).congr_deriv ?_
      cases n with
      | zero => simp; ring
      | succ m =>
        simp only [Nat.add_sub_cancel]
        push_cast
        ring) n
  rw [← h]
  congr 1
  funext x
  simp [mul_comm]

/-- test vector: the third derivative of `sin(2x)` at `0` is `−8`, and the Taylor coefficient `−8/3!` is matched
by the double nearest `−4/3`.  One statement, so that the kernel computes the enclosure of the derivative once. -/
theorem Example.sinL_verdicts :
    checkClose (((Fam.sinL 2).derivRef 3 (.rat 0)).getD (.rat 0)) ⟨-8, 0⟩ 53 10 1 true = .ok ∧
    checkClose (Ref.mul (((Fam.sinL 2).derivRef 3 (.rat 0)).getD (.rat 0))
      (.rat (1 / ((natFactorial 3 : ℕ) : ℚ)))) ⟨-6004799503160661, -52⟩ 53 10 1 true = .ok := by
  decide +kernel

theorem pow_iteratedDeriv (k n : ℕ) :
    iteratedDeriv n (fun t : ℝ => t ^ k) = fun t => (descFact k n : ℝ) * t ^ (k - n) := by
  have h := iteratedDeriv_of_chain (fun n t => (1 : ℝ) * (descFact k n : ℝ) * t ^ (k - n))
    (fun n x => monomial_step 1 k n x) n
  simp only [descFact, Nat.cast_one, one_mul, Nat.sub_zero] at h
  exact h

open Polynomial in
/-- the polynomial `Σ_i l[i]·X^i` with rational coefficients given by a list (increasing degree) -/
noncomputable def listPoly (l : List ℚ) : Polynomial ℚ :=
  ∑ i ∈ Finset.range l.length, Polynomial.C (coeffAt l i) * Polynomial.X ^ i

theorem coeffAt_of_le (l : List ℚ) {i : ℕ} (h : l.length ≤ i) : coeffAt l i = 0 := by
  simp [coeffAt, List.getElem?_eq_none h]

theorem listPoly_coeff (l : List ℚ) (i : ℕ) : (listPoly l).coeff i = coeffAt l i := by
  unfold listPoly
  rw [Polynomial.finsetSum_coeff]
  simp only [Polynomial.coeff_C_mul_X_pow]
  by_cases h : i < l.length
  · rw [Finset.sum_eq_single i]
    · simp
    · intro b _ hb; rw [if_neg (Ne.symm hb)]
    · intro hi; exact absurd (Finset.mem_range.2 h) hi
  · rw [coeffAt_of_le l (by omega)]
    apply Finset.sum_eq_zero
    intro b hb
    rw [if_neg]
    have := Finset.mem_range.1 hb
    omega

theorem absQ_eq (q : ℚ) : absQ q = |q| := ite_neg_eq_abs q

theorem maxQ_eq (a b : ℚ) : maxQ a b = max a b := by
  unfold maxQ
  split
  · rename_i h; rw [max_eq_right h.le]
  · rename_i h; rw [max_eq_left (not_lt.1 h)]

/-- the residual of the model is the coefficient of `X^j` in `A·Q − P` -/
theorem padeResid_eq (a p q : List ℚ) (j : ℕ) :
    padeResid a p q j = (listPoly a * listPoly q - listPoly p).coeff j := by
  unfold padeResid
  rw [list_range_map_sum, Polynomial.coeff_sub, mul_comm (listPoly a), Polynomial.coeff_mul,
    Finset.Nat.sum_antidiagonal_eq_sum_range_succ (fun i k => (listPoly q).coeff i * (listPoly a).coeff k)]
  simp only [listPoly_coeff]

theorem maxAbs_foldl_ge (a : List ℚ) (l : List ℕ) (m0 : ℚ) :
    m0 ≤ l.foldl (fun m j => maxQ m (absQ (coeffAt a j))) m0 ∧
    ∀ j ∈ l, |coeffAt a j| ≤ l.foldl (fun m j => maxQ m (absQ (coeffAt a j))) m0 := by
  induction l generalizing m0 with
  | nil => simp
  | cons i l ih =>
    rw [List.foldl_cons]
    obtain ⟨h1, h2⟩ := ih (maxQ m0 (absQ (coeffAt a i)))
    rw [maxQ_eq, absQ_eq] at h1 h2
    refine ⟨le_trans (le_max_left _ _) (by rw [maxQ_eq, absQ_eq]; exact h1), ?_⟩
    intro j hj
    rw [maxQ_eq, absQ_eq]
    rcases List.mem_cons.1 hj with rfl | hj
    · exact le_trans (le_max_right _ _) h1
    · exact h2 j hj

theorem maxAbs_foldl_le (a : List ℚ) (l : List ℕ) (m0 B : ℚ) (h0 : m0 ≤ B)
    (h : ∀ j ∈ l, |coeffAt a j| ≤ B) :
    l.foldl (fun m j => maxQ m (absQ (coeffAt a j))) m0 ≤ B := by
  induction l generalizing m0 with
  | nil => simpa using h0
  | cons i l ih =>
    rw [List.foldl_cons]
    apply ih
    · rw [maxQ_eq, absQ_eq]; exact max_le h0 (h i (by simp))
    · intro j hj; exact h j (by simp [hj])

/-- `maxAbs a n` bounds `|a[j]|` for `j ≤ n` … -/
theorem le_maxAbs (a : List ℚ) (n j : ℕ) (h : j ≤ n) : |coeffAt a j| ≤ maxAbs a n :=
  (maxAbs_foldl_ge a (List.range (n + 1)) 0).2 j (List.mem_range.2 (by omega))

theorem maxAbs_nonneg (a : List ℚ) (n : ℕ) : 0 ≤ maxAbs a n :=
  (maxAbs_foldl_ge a (List.range (n + 1)) 0).1

/-- … and is the least such non-negative bound: `maxAbs a n = max_{j ≤ n} |a[j]|` -/
theorem maxAbs_le (a : List ℚ) (n : ℕ) (B : ℚ) (h0 : 0 ≤ B) (h : ∀ j ≤ n, |coeffAt a j| ≤ B) :
    maxAbs a n ≤ B :=
  maxAbs_foldl_le a _ 0 B h0 fun j hj => h j (by have := List.mem_range.1 hj; omega)

theorem padeScale_eq (a q : List ℚ) (n : ℕ) :
    padeScale a q n = (q.map fun c => |c|).sum * maxAbs a n := by
  unfold padeScale
  congr 2
  exact List.map_congr_left fun c _ => absQ_eq c

/-- **soundness of the Padé validator**: if `padeCheck a p q L M t` accepts, then `p`, `q` have `L+1`, `M+1`
coefficients, `q[0] = 1`, and every coefficient of degree `j ≤ L+M` of `A·Q − P` (polynomials with the
coefficient lists `a`, `q`, `p`) is at most `t·padeScale a q (L+M)` in absolute value -/
theorem padeCheck_sound (a p q : List ℚ) (L M : ℕ) (t : ℚ) (h : padeCheck a p q L M t = true) :
    p.length = L + 1 ∧ q.length = M + 1 ∧ (listPoly q).coeff 0 = 1 ∧
    ∀ j ≤ L + M, |(listPoly a * listPoly q - listPoly p).coeff j| ≤ t * padeScale a q (L + M) := by
  unfold padeCheck at h
  simp only [Bool.and_eq_true, decide_eq_true_eq, List.all_eq_true, List.mem_range] at h
  obtain ⟨⟨⟨hp, hq⟩, hq0⟩, hall⟩ := h
  refine ⟨hp, hq, by rw [listPoly_coeff]; exact hq0, ?_⟩
  intro j hj
  have := hall j (by omega)
  rwa [absQ_eq, padeResid_eq] at this

/-- the validator is also complete: it accepts whenever the stated facts hold -/
theorem padeCheck_complete (a p q : List ℚ) (L M : ℕ) (t : ℚ)
    (hp : p.length = L + 1) (hq : q.length = M + 1) (hq0 : (listPoly q).coeff 0 = 1)
    (hall : ∀ j ≤ L + M, |(listPoly a * listPoly q - listPoly p).coeff j| ≤ t * padeScale a q (L + M)) :
    padeCheck a p q L M t = true := by
  unfold padeCheck
  simp only [Bool.and_eq_true, decide_eq_true_eq, List.all_eq_true, List.mem_range]
  refine ⟨⟨⟨hp, hq⟩, by rw [← listPoly_coeff]; exact hq0⟩, ?_⟩
  intro j hj
  rw [absQ_eq, padeResid_eq]
  exact hall j (by omega)

/-- exact case `t = 0`: `A·Q = P + O(X^(L+M+1))`, the defining identity of the `[L/M]` Padé approximant -/
theorem padeCheck_exact (a p q : List ℚ) (L M : ℕ) (h : padeCheck a p q L M 0 = true) :
    Polynomial.X ^ (L + M + 1) ∣ listPoly a * listPoly q - listPoly p := by
  rw [Polynomial.X_pow_dvd_iff]
  intro d hd
  have := (padeCheck_sound a p q L M 0 h).2.2.2 d (by omega)
  rw [zero_mul] at this
  exact abs_eq_zero.1 (le_antisymm this (abs_nonneg _))

end Mp.Calc

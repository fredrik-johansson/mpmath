/-
  Props/C38.lean — "Contexts are isolated from each other".

  World model: MpModel/World.lean (context id = position in `cells`; `caches` = the module-level
  state shared by all contexts).  The statements below are about that model; that the RUNNING
  objects have the aliasing structure of the model (one `_prec_rounding` list, one `mpf`/`mpc`/
  `constant` class and `_ctxdata` per context, none shared) is read off the live objects and the
  model's prediction of every context's settings is compared after every statement of random
  interleavings by harness/props/C38.py.

    frame                      a statement executed on context `i` leaves every field of every
                               other existing context unchanged
    frame_program              the same for whole programs
    clone_frame / eval_frame   `clone` and evaluations write no existing cell at all
    only_eval_writes_caches    settings never touch the shared caches
    clone_fresh                the clone is a new id; writing it never writes the parent, and back
    clone_same_prec            the clone has the parent's precision (and default rounding)
    clone_same_value           hence equal values, provided the shared caches are precision-correct
                               (C33) and the parent's rounding is the default
    eval_reads_own_cell        the value computed in context `i` is a function of cell `i` alone
                               (and of the shared caches), whatever the other cells contain
-/
import MpProofs.World
import Props.C33

namespace Mp
open Mp.World

variable {C F X V : Type}

/-- **Frame.**  A statement executed on context `op.target` leaves every field (precision, dps,
rounding, trap_complex, pretty) of every OTHER existing context `j` unchanged. -/
theorem frame (S : Sem C F X V) (w : World C) (op : Op F X) (j : Nat) (c : Cell)
    (hj : j ≠ op.target) (hc : w.cells[j]? = some c) : (step S w op).1.cells[j]? = some c :=
  step_cells_ne S w op j c hj hc

/-- Frame for whole programs: if no statement of `ops` is executed on `j`, cell `j` is unchanged. -/
theorem frame_program (S : Sem C F X V) (w : World C) (ops : List (Op F X)) (j : Nat) (c : Cell)
    (hj : ∀ op ∈ ops, j ≠ op.target) (hc : w.cells[j]? = some c) :
    (runOps S w ops).cells[j]? = some c :=
  runOps_cells_ne S ops w j c hj hc

/-- `ctx.clone()` changes no existing context — not even `ctx` itself. -/
theorem clone_frame (S : Sem C F X V) (w : World C) (i j : Nat) (c : Cell)
    (hc : w.cells[j]? = some c) : (step S w (.clone i : Op F X)).1.cells[j]? = some c := by
  have hlt : j < w.cells.length := (List.getElem?_eq_some_iff.1 hc).elim fun h _ => h
  simp only [step]
  split
  · exact hc
  · split
    · simp only [List.getElem?_append_left hlt]; exact hc
    · exact hc

/-- A computation changes no context's settings (it may only write the shared caches). -/
theorem eval_frame (S : Sem C F X V) (w : World C) (i : Nat) (f : F) (x : X) :
    (step S w (.eval i f x)).1.cells = w.cells := by
  simp only [step]
  split <;> rfl

/-- Changing settings never writes the shared caches. -/
theorem only_eval_writes_caches (S : Sem C F X V) (w : World C) (op : Op F X)
    (h : ∀ i f x, op ≠ .eval i f x) : (step S w op).1.caches = w.caches := by
  cases op <;> simp only [step]
  case eval i f x => exact absurd rfl (h i f x)
  all_goals
    split
    · rfl
    · first
      | rfl
      | (split <;> rfl)

/-- The value computed in context `i` depends on cell `i` and the shared caches only: two worlds
that agree on cell `i` and on the caches compute the same value and the same new caches, whatever
their other contexts look like. -/
theorem eval_reads_own_cell (S : Sem C F X V) (w w' : World C) (i : Nat) (f : F) (x : X)
    (hcell : w.cells[i]? = w'.cells[i]?) (hcache : w.caches = w'.caches) :
    (step S w (.eval i f x)).2 = (step S w' (.eval i f x)).2 ∧
    (step S w (.eval i f x)).1.caches = (step S w' (.eval i f x)).1.caches := by
  simp only [step, ← hcell]
  split
  · exact ⟨rfl, hcache⟩
  · rw [hcache]; exact ⟨rfl, rfl⟩

/-- **clone_fresh.**  Cloning an mp context `i` returns an id that did not exist before, holding a
fresh `MPContext` cell set to the parent's precision. -/
theorem clone_fresh (S : Sem C F X V) (w : World C) (i : Nat) (c : Cell)
    (hc : w.cells[i]? = some c) (hk : c.kind = .mp) :
    (step S w (.clone i : Op F X)).2 = (.created w.cells.length : Outcome V) ∧
    w.cells[w.cells.length]? = none ∧ w.cells.length ≠ i ∧
    (step S w (.clone i : Op F X)).1.cells[w.cells.length]? = some c.cloneOf := by
  have hlt : i < w.cells.length := by
    rcases Nat.lt_or_ge i w.cells.length with h | h
    · exact h
    · rw [List.getElem?_eq_none h] at hc; cases hc
  refine ⟨?_, by simp, by omega, ?_⟩
  · simp only [step, hc, hk]
  · simp only [step, hc, hk]
    simp

/-- The clone's cell is not aliased to the parent's: after cloning `i` into `k`, no program executed
on `k` (precision, dps, rounding, trap_complex, pretty changes, computations, further clones of `k`)
changes the parent's cell, and no program executed on the parent changes the clone's. -/
theorem clone_not_aliased (S : Sem C F X V) (w : World C) (i : Nat) (c : Cell)
    (hc : w.cells[i]? = some c) (hk : c.kind = .mp) (ops : List (Op F X)) :
    let k := w.cells.length
    let w1 := (step S w (.clone i : Op F X)).1
    ((∀ op ∈ ops, op.target = k) → (runOps S w1 ops).cells[i]? = some c) ∧
    ((∀ op ∈ ops, op.target = i) → (runOps S w1 ops).cells[k]? = some c.cloneOf) := by
  intro k w1
  obtain ⟨_, _, hne, hnew⟩ := clone_fresh S w i c hc hk
  constructor
  · intro h
    exact frame_program S w1 ops i c (fun op ho => by rw [h op ho]; exact Ne.symm hne)
      (clone_frame S w i i c hc)
  · intro h
    exact frame_program S w1 ops k _ (fun op ho => by rw [h op ho]; exact hne) hnew

/-- Every world reachable from the initial one stores precisions `≥ 1` only. -/
theorem reachable_prec_pos (S : Sem C F X V) (c0 : C) (ops : List (Op F X)) (c : Cell)
    (h : c ∈ (runOps S (init c0) ops).cells) : 1 ≤ c.prec :=
  runOps_precPos S ops _ (init_precPos c0) c h

/-- `clone()` yields the parent's precision with DEFAULT rounding (round-to-nearest), trap_complex
and pretty off; the parent's `dps` is recomputed from the precision, not copied. -/
theorem clone_same_prec (c : Cell) (h : 1 ≤ c.prec) :
    c.cloneOf.kind = .mp ∧ c.cloneOf.prec = c.prec ∧ c.cloneOf.rounding = .n ∧
    c.cloneOf.trap = false ∧ c.cloneOf.pretty = false ∧ c.cloneOf.dps = precToDps c.prec :=
  ⟨cloneOf_kind c, cloneOf_prec c h, cloneOf_rounding c, by simp [Cell.cloneOf, Cell.setPrec, freshMp],
   by simp [Cell.cloneOf, Cell.setPrec, freshMp], by simp [Cell.cloneOf, Cell.setPrec, freshMp]⟩

/-- "The shared caches are precision-correct": on the cache states `I` that can arise, every call
returns the history-independent value `spec …` and leaves a state in `I`.  This is what the refinement
theorems of Props/C33.lean establish cache by cache (`constantMemo_refines`, `logInt_refines` /
`logInt_history_independent`, `exactCache_refines`, `logTaylor_refines`, `bernoulli_refines`);
`constSem_precisionCorrect` below instantiates it from `constantMemo_refines`. -/
structure CachesPrecisionCorrect (S : Sem C F X V) (I : C → Prop)
    (spec : Kind → F → Int → Rnd → X → V) : Prop where
  preserved : ∀ k c f p r x, I c → I (S.run k c f p r x).1
  correct : ∀ k c f p r x, I c → (S.run k c f p r x).2 = spec k f p r x

/-- the invariant on caches survives every program -/
theorem caches_inv_program (S : Sem C F X V) (I : C → Prop) (spec : Kind → F → Int → Rnd → X → V)
    (hS : CachesPrecisionCorrect S I spec) (ops : List (Op F X)) (w : World C) (hI : I w.caches) :
    I (runOps S w ops).caches := by
  induction ops generalizing w with
  | nil => exact hI
  | cons op ops ih =>
    apply ih
    cases op
    case eval i f x =>
      simp only [step]
      split
      · exact hI
      · exact hS.preserved _ _ _ _ _ _ hI
    all_goals
      rw [only_eval_writes_caches S w _ (by intro i f x h; cases h)]
      exact hI

/-- **clone_same_value.**  Clone an mp context `i` whose rounding is the default; then run ANY
program that does not change the settings of `i` or of the clone (computations in them, and
arbitrary statements on all other contexts, are allowed — they do write the shared caches).
Afterwards the same call returns the same value in the clone and in the parent — provided the
shared caches are precision-correct (C33). -/
theorem clone_same_value (S : Sem C F X V) (I : C → Prop) (spec : Kind → F → Int → Rnd → X → V)
    (hS : CachesPrecisionCorrect S I spec) (w : World C) (hI : I w.caches) (i : Nat) (c : Cell)
    (hc : w.cells[i]? = some c) (hk : c.kind = .mp) (hr : c.rounding = .n) (hp : 1 ≤ c.prec)
    (ops : List (Op F X))
    (hops : ∀ op ∈ ops, (op.target ≠ i ∧ op.target ≠ w.cells.length) ∨ ∃ j f x, op = .eval j f x)
    (f : F) (x : X) :
    let w2 := runOps S (step S w (.clone i : Op F X)).1 ops
    (step S w2 (.eval w.cells.length f x)).2 = (step S w2 (.eval i f x)).2 ∧
    (step S w2 (.eval i f x)).2 = .value (spec .mp f c.prec .n x) := by
  intro w2
  obtain ⟨_, _, hne, hnew⟩ := clone_fresh S w i c hc hk
  -- cells i and k are unchanged by `ops`
  have key : ∀ (ops : List (Op F X)) (w1 : World C),
      (∀ op ∈ ops, (op.target ≠ i ∧ op.target ≠ w.cells.length) ∨ ∃ j f x, op = .eval j f x) →
      w1.cells[i]? = some c → w1.cells[w.cells.length]? = some c.cloneOf →
      (runOps S w1 ops).cells[i]? = some c ∧ (runOps S w1 ops).cells[w.cells.length]? = some c.cloneOf := by
    intro ops
    induction ops with
    | nil => intro w1 _ h1 h2; exact ⟨h1, h2⟩
    | cons op ops ih =>
      intro w1 h h1 h2
      simp only [runOps]
      apply ih
      · intro o ho; exact h o (List.mem_cons_of_mem _ ho)
      · rcases h op List.mem_cons_self with ⟨a, _⟩ | ⟨j, f, x, rfl⟩
        · exact frame S w1 op i c (Ne.symm a) h1
        · rw [eval_frame]; exact h1
      · rcases h op List.mem_cons_self with ⟨_, b⟩ | ⟨j, f, x, rfl⟩
        · exact frame S w1 op _ _ (Ne.symm b) h2
        · rw [eval_frame]; exact h2
  obtain ⟨hi2', hk2'⟩ := key ops _ hops (clone_frame S w i i c hc) hnew
  have hi2 : w2.cells[i]? = some c := hi2'
  have hk2 : w2.cells[w.cells.length]? = some c.cloneOf := hk2'
  have hI1 : I (step S w (.clone i : Op F X)).1.caches := by
    rw [only_eval_writes_caches S w _ (by intro i f x h; cases h)]; exact hI
  have hI2 : I w2.caches := caches_inv_program S I spec hS ops _ hI1
  have e1 : (step S w2 (.eval i f x)).2 = .value (spec .mp f c.prec .n x) := by
    simp only [step, hi2]
    rw [hS.correct _ _ _ _ _ _ hI2, hk, hr]
  have e2 : (step S w2 (.eval w.cells.length f x)).2 = .value (spec .mp f c.prec .n x) := by
    simp only [step, hk2]
    rw [hS.correct _ _ _ _ _ _ hI2, cloneOf_kind, cloneOf_rounding, cloneOf_prec c hp]
  exact ⟨e2.trans e1.symm, e1⟩

/-- The hypothesis `c.rounding = .n` of `clone_same_value` cannot be dropped: `clone()` does not
copy the rounding field.  (The field `_prec_rounding[1]` has no public setter; witness replayed on
the real objects by the harness: `mp._prec_rounding[1] = 'f'; c = mp.clone()` gives
`c._prec_rounding == [53, 'n']`.) -/
theorem clone_same_value_rounding_counterexample :
    let w1 := (step paramSem (init ()) (.setRounding 0 .f)).1
    let w2 := (step paramSem w1 (.clone 0)).1
    (step paramSem w2 (.eval 3 () ())).2 ≠ (step paramSem w2 (.eval 0 () ())).2 ∧
    (step paramSem w2 (.eval 3 () ())).2 = .value (.mp, 53, .n) ∧
    (step paramSem w2 (.eval 0 () ())).2 = .value (.mp, 53, .f) := by
  decide

/-! ### non-vacuity: an instance of `CachesPrecisionCorrect` from C33 -/

/-- A world whose only shared cache is one `constant_memo` cell (e.g. `pi_fixed`), every context
kind calling it at its own precision. -/
def constSem (Fc : Nat → Int) (np : Nat → Nat) : Sem Cache.MemoState Unit Unit (Cache.Res Int) where
  run _ s _ p _ _ := Cache.memoReq Fc np s p.toNat false

/-- From `constantMemo_refines` (Props/C33.lean): if the memoised function is shift-stable (a true
floor of `c·2^prec`), the memo cell is precision-correct on every reachable state. -/
theorem constSem_precisionCorrect (Fc : Nat → Int) (np : Nat → Nat) (hnp : ∀ p, p ≤ np p)
    (hF : Cache.ShiftStable Fc) :
    CachesPrecisionCorrect (constSem Fc np)
      (fun s => ∃ h, s = Cache.memoAfter Fc np Cache.memoInit h)
      (fun _ _ p _ _ => .ok (Fc p.toNat)) where
  preserved := by
    rintro k c f p r x ⟨h, rfl⟩
    exact ⟨h ++ [(p.toNat, false)], by simp only [Cache.memoAfter, List.foldl_append]; rfl⟩
  correct := by
    rintro k c f p r x ⟨h, rfl⟩
    obtain ⟨P, hle, _, e⟩ := constantMemo_refines Fc np hnp h p.toNat
    show (Cache.memoReq Fc np _ p.toNat false).2 = _
    rw [e, hF P p.toNat hle]

/-- `clone_same_value` for that world, with every hypothesis discharged: in the initial process,
clone `mp`, change precisions of `iv`, `fp` or further clones and compute anywhere — `mp` and its
clone still return the same value of the constant. -/
example (cst : ℚ) (ops : List (Op Unit Unit))
    (hops : ∀ op ∈ ops, (op.target ≠ 0 ∧ op.target ≠ 3) ∨ ∃ j f x, op = .eval j f x) :
    let S := constSem (fun P => ⌊cst * (2 : ℚ) ^ P⌋) (fun p => p + 10)
    let w2 := runOps S (step S (init Cache.memoInit) (.clone 0)).1 ops
    (step S w2 (.eval 3 () ())).2 = (step S w2 (.eval 0 () ())).2 :=
  (clone_same_value _ _ _
    (constSem_precisionCorrect _ _ (fun p => Nat.le_add_right p 10) (Cache.floor_shiftStable cst))
    (init Cache.memoInit) ⟨[], rfl⟩ 0 freshMp rfl rfl rfl (by decide) ops hops () ()).1

/-- the frame theorem is not vacuous: a program on a clone and on `iv`, observed from `mp` -/
example : (runOps paramSem (init ())
    [.clone 0, .setPrec 3 200, .setDps 1 40, .setRounding 3 .c, .setPretty 3 true, .eval 3 () (),
     .clone 3, .setPrec 4 17]).cells[0]? = some freshMp := by decide

end Mp

/-
  MpProofs/StrRepr.lean — the digit count of `repr` (C08).  `prec_to_dps` runs binary64 arithmetic (`F64`,
  MpModel/Str.lean): `round(n / 3.32…)`.  Both roundings in it are to nearest, hence at least the truncated
  quotient `⌊n·2^51 / m⌋` (`m` the mantissa of the float `log2_10`); with that lower bound the Matula/Goldberg
  condition `2^p < 10^(repr_dps p - 1)` becomes a statement about integer division, swept up to 20000.
  (No Mathlib import: `2 ^ p` is to be `Nat.pow`, which the kernel computes on numerals.)
-/
import MpModel.Str
import MpProofs.Sweep

namespace Mp

theorem shiftRight_le_roundShift_near (man : Nat) {n : Nat} (hn : 1 ≤ n) :
    man >>> n ≤ roundShift .n 0 man n := by
  have : man >>> n = man >>> (n - 1) >>> 1 := by rw [← Nat.shiftRight_add, Nat.sub_add_cancel hn]
  rw [this, roundShift]
  split <;> omega

/-- Rounding `m·2^-t` to 53 bits and then to an integer gives at least `⌊m·2^-t⌋`: `round53` shifts by
`s = bitcount m - 53`, `roundHalfEven` by the `t - s` places that are left. -/
theorem shiftRight_le_round53_roundHalfEven {m t : Nat} (hb : 53 < bitcount m) (ht : bitcount m - 53 < t) :
    m >>> t ≤ (F64.round53 m (-(t : Int))).roundHalfEven := by
  obtain ⟨s, hs⟩ : ∃ s, bitcount m - 53 = s := ⟨_, rfl⟩
  obtain ⟨r, rfl⟩ : ∃ r, t = s + r := ⟨t - s, by omega⟩
  simp only [F64.round53, if_neg (Nat.not_le.2 hb), hs, F64.roundHalfEven]
  rw [if_neg (by omega), show (-(-((s + r : Nat) : Int) + (s : Int))).toNat = r by omega, Nat.shiftRight_add,
    Nat.shiftRight_eq_div_pow _ r]
  refine Nat.le_trans (Nat.div_le_div_right (shiftRight_le_roundShift_near m (by omega))) ?_
  rw [← Nat.shiftRight_eq_div_pow]
  exact shiftRight_le_roundShift_near _ (by omega)

theorem shiftLeft_bounds {n : Nat} (h0 : n ≠ 0) (k : Nat) :
    2 ^ (n.log2 + k) ≤ n <<< k ∧ n <<< k < 2 ^ (n.log2 + 1 + k) := by
  rw [Nat.shiftLeft_eq, Nat.pow_add, Nat.pow_add _ _ k]
  exact ⟨Nat.mul_le_mul_right _ (Nat.log2_self_le h0),
    Nat.mul_lt_mul_of_pos_right Nat.lt_log2_self (Nat.two_pow_pos k)⟩

/-- a 109-bit numerator over the 53-bit mantissa of `log2_10`: the quotient with a sticky bit has 57 or 58 bits -/
theorem bitcount_quot_log2_10 {num st : Nat} (h1 : 2 ^ 108 ≤ num) (h2 : num < 2 ^ 109) (hst : st ≤ 1) :
    57 ≤ bitcount (2 * (num / F64.log2_10.m) + st) ∧ bitcount (2 * (num / F64.log2_10.m) + st) ≤ 58 := by
  obtain ⟨qq, hqq⟩ : ∃ qq, 2 * (num / F64.log2_10.m) + st = qq := ⟨_, rfl⟩
  rw [hqq]
  simp only [F64.log2_10] at hqq
  have hq0 : qq ≠ 0 := by omega
  rw [bitcount, if_neg hq0]
  exact ⟨Nat.succ_le_succ ((Nat.le_log2 hq0).2 (by omega)), (Nat.log2_lt hq0).2 (by omega)⟩

/-- `prec_to_dps n ≥ ⌊n / log2_10⌋ - 1`: in `F64.div (F64.ofNat n) F64.log2_10` the numerator is `n·2^k` with
109 bits, the result `round53` of the quotient `qq` at exponent `50 - k`, and `qq >>> (k - 50)` is at least
`⌊n·2^51 / m⌋`. -/
theorem div_log2_10_le_prec_to_dps {n : Nat} (h0 : n ≠ 0) (h : n < 2 ^ 53) :
    n <<< 51 / F64.log2_10.m ≤ prec_to_dps n + 1 := by
  have hlog : n.log2 + 1 ≤ 53 := (Nat.log2_lt h0).2 h
  have hb : bitcount n = n.log2 + 1 := by rw [bitcount, if_neg h0]
  have hL : bitcount F64.log2_10.m = 53 := by
    rw [bitcount, if_neg (by decide), (Nat.log2_eq_iff (by decide)).2 (by decide : 2 ^ 52 ≤ _ ∧ _ < 2 ^ 53)]
  obtain ⟨j, hk⟩ : ∃ j, 56 + 53 - (n.log2 + 1) = 51 + j := ⟨57 - n.log2, by omega⟩
  obtain ⟨hn1, hn2⟩ := shiftLeft_bounds h0 (51 + j)
  rw [show n.log2 + (51 + j) = 108 by omega] at hn1
  rw [show n.log2 + 1 + (51 + j) = 109 by omega] at hn2
  have hfloor : n <<< 51 / F64.log2_10.m ≤ (2 * (n <<< (51 + j) / F64.log2_10.m)) >>> (1 + j) := by
    rw [Nat.shiftRight_eq_div_pow, Nat.pow_add, Nat.pow_one, Nat.mul_div_mul_left _ _ (by decide),
      Nat.div_div_eq_div_mul, Nat.shiftLeft_eq, Nat.shiftLeft_eq, Nat.pow_add, ← Nat.mul_assoc,
      Nat.mul_div_mul_right _ _ (Nat.two_pow_pos _)]
    exact Nat.le_refl _
  obtain ⟨st, hst, hst1⟩ : ∃ st, (if n <<< (51 + j) % F64.log2_10.m = 0 then 0 else 1) = st ∧ st ≤ 1 := by
    refine ⟨_, rfl, ?_⟩; split <;> omega
  obtain ⟨hq1, hq2⟩ := bitcount_quot_log2_10 hn1 hn2 hst1
  have hround := shiftRight_le_round53_roundHalfEven (m := 2 * (n <<< (51 + j) / F64.log2_10.m) + st) (t := 1 + j)
    (by omega) (by omega)
  have hof : F64.ofNat n = ⟨n, 0⟩ := by simp only [F64.ofNat, F64.round53, hb, if_pos hlog]
  simp only [prec_to_dps, hof, hb, F64.div, if_neg h0, hL, hk, hst, show F64.log2_10.e = -51 from rfl]
  rw [show (0 - -51 - ((51 + j : Nat) : Int) - 1) = -((1 + j : Nat) : Int) by omega]
  have hsticky : (2 * (n <<< (51 + j) / F64.log2_10.m)) >>> (1 + j)
      ≤ (2 * (n <<< (51 + j) / F64.log2_10.m) + st) >>> (1 + j) := by
    rw [Nat.shiftRight_eq_div_pow, Nat.shiftRight_eq_div_pow]
    exact Nat.div_le_div_right (Nat.le_add_right _ _)
  exact Nat.le_trans (Nat.le_trans hfloor (Nat.le_trans hsticky hround)) (by omega)

/-- `repr_dps n - 1 ≥ ⌊n / log2_10⌋ + 1`, except where `repr_dps` returns 17 for `n ≤ 53` -/
theorem repr_dps_lower {n : Nat} (h0 : n ≠ 0) (h : n < 2 ^ 53) :
    (repr_dps n = 17 ∧ n ≤ 53) ∨ n <<< 51 / F64.log2_10.m + 1 ≤ repr_dps n - 1 := by
  have := div_log2_10_le_prec_to_dps h0 h
  unfold repr_dps
  dsimp only
  split
  · next hc => exact Or.inl ⟨rfl, hc.2⟩
  · right; omega

theorem two_pow_lt_ten_pow_sweep :
    allBelow (fun i => Nat.blt (2 ^ (1 + i)) (10 ^ ((1 + i) <<< 51 / F64.log2_10.m + 1))) 20000 = true := by
  decide +kernel

end Mp

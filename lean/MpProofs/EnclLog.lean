/-
  MpProofs/EnclLog.lean — soundness of `logI`
  (`log x = s·log 2 + 2^j·log(u^(1/2^j))`, series of `-log(1-t)` with Mathlib's remainder bound).
-/
import MpProofs.EnclArith
import Mathlib.Analysis.SpecialFunctions.Log.Deriv

namespace Mp.Encl
open Finset

theorem logTerms_sound (wp : ℕ) (T : DI) (t : ℝ) (ht : T.Mem t) (n : ℕ) :
    (logTerms wp T n).1.Mem (t ^ (n + 1)) ∧
    (logTerms wp T n).2.Mem (∑ i ∈ range n, t ^ (i + 1) / ((i : ℝ) + 1)) := by
  induction n with
  | zero => simpa [logTerms] using And.intro ht DI.mem_zero
  | succ n ih =>
    rw [Finset.sum_range_succ, pow_succ t (n + 1), ← Nat.cast_succ]
    exact ⟨DI.mem_round (DI.mem_mul ih.1 ht) wp,
      DI.mem_round (DI.mem_add ih.2 (DI.mem_divNat wp ih.1 (Nat.succ_pos n))) wp⟩

theorem log1mNeg_sound (wp n : ℕ) (T : DI) (t : ℝ) (ht : T.Mem t) (h2 : |t| ≤ 1 / 2) :
    (log1mNeg wp n T).Mem (-Real.log (1 - t)) := by
  obtain ⟨hp, hs⟩ := logTerms_sound wp T t ht n
  have hm := DI.abs_le_mag hp
  rw [abs_pow] at hm
  refine DI.mem_widen hs ?_
  rw [← abs_neg, neg_sub, sub_neg_eq_add]
  refine (Real.abs_log_sub_add_sum_range_le (h2.trans_lt (by norm_num)) n).trans ?_
  -- `|t|^(n+1) / (1 - |t|) ≤ 2·|t|^(n+1)` as `1 - |t| ≥ 1/2`
  rw [Dy.val_shift, zpow_one, div_le_iff₀ (by linarith)]
  calc |t| ^ (n + 1) ≤ (logTerms wp T n).1.mag.val := hm
    _ = (logTerms wp T n).1.mag.val * 2 * (1 / 2) := by ring
    _ ≤ (logTerms wp T n).1.mag.val * 2 * (1 - |t|) :=
        mul_le_mul_of_nonneg_left (by linarith) (mul_nonneg (DI.mag_nonneg hp) zero_le_two)

theorem sqrtN_sound (wp j : ℕ) : ∀ (U : DI) (u : ℝ), U.Mem u → (sqrtN wp j U).Mem (Real.sqrt^[j] u) := by
  induction j with
  | zero => intro U u h; simpa [sqrtN] using h
  | succ j ih =>
    intro U u h
    rw [Function.iterate_succ_apply]
    exact ih _ _ (sqrtI_sound wp U u h)

theorem log_sqrt_iter (j : ℕ) : ∀ (u : ℝ), 0 < u →
    0 < Real.sqrt^[j] u ∧ Real.log (Real.sqrt^[j] u) * (2 : ℝ) ^ (j : ℤ) = Real.log u := by
  induction j with
  | zero => intro u hu; simpa using hu
  | succ j ih =>
    intro u hu
    obtain ⟨h1, h2⟩ := ih (Real.sqrt u) (Real.sqrt_pos.2 hu)
    rw [Function.iterate_succ_apply, Nat.cast_succ, zpow_add_one₀ two_ne_zero, ← mul_assoc, h2,
      Real.log_sqrt hu.le, div_mul_cancel₀ _ two_ne_zero]
    exact ⟨h1, rfl⟩

theorem logCore_sound (wp j : ℕ) (U : DI) (u : ℝ) (hU : U.Mem u) :
    Encloses (logCore wp j U) (Real.log u) (0 < u) := by
  unfold logCore
  simp only
  split
  · rename_i hc
    have hu : 0 < u := lt_of_lt_of_le ((Dy.val_pos_iff _).2 hc.1) hU.1
    obtain ⟨hv, hlog⟩ := log_sqrt_iter j u hu
    have hT := DI.mem_sub DI.mem_one (sqrtN_sound wp j U u hU)
    have habs : |1 - Real.sqrt^[j] u| ≤ 1 / 2 :=
      (DI.abs_le_mag hT).trans (((Dy.le_iff _ _).1 hc.2).trans (by simp [Dy.val]))
    have h1 := fun n => DI.mem_neg (log1mNeg_sound wp n _ _ hT habs)
    simp only [sub_sub_cancel, neg_neg] at h1
    rw [← hlog]
    exact .some (DI.mem_round (DI.mem_shift (h1 _) _) wp) hu
  · exact .none

theorem logWith_sound (wp wp' j r : ℕ) (s : ℤ) (u : Dy) :
    Encloses (logWith wp wp' j r s u) (Real.log (u.val * (2 : ℝ) ^ s)) (0 < u.val) := by
  have hu := logCore_sound wp' j _ u.val (DI.mem_point u)
  unfold logWith
  split
  · rename_i hs
    rw [hs, zpow_zero, mul_one]
    exact hu.round wp
  · split
    · rename_i a b ha hb
      obtain ⟨h1, h2⟩ := hu a ha
      obtain ⟨h3, _⟩ := logCore_sound wp' r _ 2 (by simpa using DI.mem_ofInt 2) b hb
      rw [Real.log_mul h2.ne' (zpow_pos two_pos s).ne', Real.log_zpow, add_comm, mul_comm]
      exact .some (DI.mem_round (DI.mem_add (DI.mem_mul h3 (DI.mem_ofInt s)) h1) wp) h2
    · exact .none

theorem logPoint_sound (wp : ℕ) (x : Dy) : Encloses (logPoint wp x) (Real.log x.val) (0 < x.val) := by
  unfold logPoint
  split
  · exact .none
  · simp only
    generalize (if (Dy.mk x.m (x.e - ((blen x.m : ℤ) + x.e))).le ⟨3, -2⟩ = true
      then (blen x.m : ℤ) + x.e - 1 else (blen x.m : ℤ) + x.e) = s
    have e : (Dy.mk x.m (x.e - s)).val * (2 : ℝ) ^ s = x.val := Dy.val_mk_sub x.m x.e s
    refine Encloses.imp (P := 0 < (Dy.mk x.m (x.e - s)).val) ?_ fun _ => (Dy.val_pos_iff x).2 (not_le.1 ‹_›)
    rw [← e]
    exact logWith_sound _ _ _ _ s _

theorem encloses_logI {wp : ℕ} {I : DI} {x : ℝ} (hx : I.Mem x) : Encloses (logI wp I) (Real.log x) (0 < x) := by
  unfold logI
  split
  · rename_i a b ha hb
    obtain ⟨h1, h2⟩ := logPoint_sound wp _ a ha
    obtain ⟨h3, _⟩ := logPoint_sound wp _ b hb
    have hx0 : 0 < x := h2.trans_le hx.1
    exact .some ⟨h1.1.trans (Real.log_le_log h2 hx.1), (Real.log_le_log hx0 hx.2).trans h3.2⟩ hx0
  · exact .none

/-- `logI` refuses intervals that are not strictly positive -/
theorem logI_none_of_nonpos (wp : ℕ) (I : DI) (h : I.lo.m ≤ 0) : logI wp I = none := by
  unfold logI
  have : logPoint wp I.lo = none := by unfold logPoint; simp [h]
  rw [this]

end Mp.Encl

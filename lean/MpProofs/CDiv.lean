/-
  MpProofs/CDiv.lean — the relative-error argument for one quotient of complex division and of real/complex
  division (Props/C04div.lean), and the reciprocal, which negative powers use as well.

  `mpc_div z w` forms `T = ac + bd`, `U = bc − ad`, `M = c² + d²` with EXACT products and ONE truncation of each sum to
  `prec + 10` bits, then divides `T/M`, `U/M` with the requested rounding.  Every component therefore carries three
  relative perturbations `(1+e₁)(1+e₃)/(1+e₂)`, `|e₁|,|e₂| ≤ 2^(−9−prec)`, `|e₃| ≤ 2^(1−prec)`: the relative error of
  EACH COMPONENT is below `2^(2−prec)` (two units in the last place), which is stronger than the modulus statement of
  the property.
-/
import MpProofs.Div
import MpProofs.Faithful
import MpProofs.CArith

namespace Mp

/-! ### relative perturbations

`|a − A| ≤ |A|·ε` says `a = A(1 + e)` with `|e| ≤ ε`.  A quotient `q ≈ t/m` of perturbed `t ≈ T`, `m ≈ M` is then
`T/M · (1+e₁)(1+d)/(1+e₂)`, and only a fact about the three factors is left. -/

theorem exists_rel_factor {a A ε : ℚ} (hε : 0 ≤ ε) (h : |a - A| ≤ |A| * ε) : ∃ e, |e| ≤ ε ∧ a = A * (1 + e) := by
  rcases eq_or_ne A 0 with rfl | hA
  · exact ⟨0, by simpa using hε, by simpa [sub_eq_zero] using h⟩
  · refine ⟨(a - A) / A, ?_, by field_simp; ring⟩
    rwa [abs_div, div_le_iff₀ (abs_pos.2 hA), mul_comm]

theorem sq_le_of_rel {a A ε : ℚ} (h : |a - A| ≤ |A| * ε) : (a - A) ^ 2 ≤ ε ^ 2 * A ^ 2 := by
  rw [← sq_abs (a - A), ← sq_abs A, ← mul_pow, mul_comm]
  exact pow_le_pow_left₀ (abs_nonneg _) h 2

theorem abs_sub_neg_eq (a b : ℚ) : |a - -b| = |-a - b| := by
  rw [← abs_neg]; congr 1; ring

theorem factor_between {e₁ e₂ d ε₁ ε₂ δ : ℚ} (h1 : ε₁ ≤ 1) (h2 : ε₂ < 1) (hδ : δ ≤ 1)
    (he₁ : |e₁| ≤ ε₁) (he₂ : |e₂| ≤ ε₂) (hd : |d| ≤ δ) :
    (1 - ε₁) * (1 - δ) / (1 + ε₂) ≤ (1 + e₁) * (1 + d) / (1 + e₂) ∧
      (1 + e₁) * (1 + d) / (1 + e₂) ≤ (1 + ε₁) * (1 + δ) / (1 - ε₂) := by
  obtain ⟨a1, a2⟩ := abs_le.1 he₁
  obtain ⟨b1, b2⟩ := abs_le.1 he₂
  obtain ⟨c1, c2⟩ := abs_le.1 hd
  have p2 : 0 < 1 + e₂ := by linarith
  constructor
  · exact div_le_div₀ (mul_nonneg (by linarith) (by linarith))
      (mul_le_mul (by linarith) (by linarith) (by linarith) (by linarith)) p2 (by linarith)
  · exact div_le_div₀ (mul_nonneg (by linarith) (by linarith))
      (mul_le_mul (by linarith) (by linarith) (by linarith) (by linarith)) (by linarith) (by linarith)

/-- `kup`, `klo` are what is needed of the sizes `ε₁`, `ε₂`, `δ` for the three factors to stay within `K` of `1` -/
theorem factor_bound {e₁ e₂ d ε₁ ε₂ δ K : ℚ} (h1 : ε₁ ≤ 1) (h2 : ε₂ < 1) (hδ : δ ≤ 1)
    (kup : (1 + ε₁) * (1 + δ) ≤ (1 + K) * (1 - ε₂)) (klo : (1 - K) * (1 + ε₂) ≤ (1 - ε₁) * (1 - δ))
    (he₁ : |e₁| ≤ ε₁) (he₂ : |e₂| ≤ ε₂) (hd : |d| ≤ δ) :
    |(1 + e₁) * (1 + d) / (1 + e₂) - 1| ≤ K := by
  obtain ⟨lo, hi⟩ := factor_between h1 h2 hδ he₁ he₂ hd
  have q2 : 0 < 1 - ε₂ := sub_pos.2 h2
  have r2 : 0 < 1 + ε₂ := by linarith [abs_nonneg e₂]
  rw [abs_le, le_sub_iff_add_le, sub_le_iff_le_add, neg_add_eq_sub, add_comm K]
  exact ⟨((le_div_iff₀ r2).2 klo).trans lo, hi.trans ((div_le_iff₀ q2).2 kup)⟩

/-- `q ≈ t/m` within `δ`, `t ≈ T` within `ε₁`, `m ≈ M` within `ε₂`: then `q ≈ T/M` within `K` -/
theorem div_perturb {T M t m q ε₁ ε₂ δ K : ℚ} (hM : 0 < M)
    (h1 : 0 ≤ ε₁) (h1' : ε₁ ≤ 1) (h2 : 0 ≤ ε₂) (h2' : ε₂ < 1) (hδ0 : 0 ≤ δ) (hδ1 : δ ≤ 1)
    (kup : (1 + ε₁) * (1 + δ) ≤ (1 + K) * (1 - ε₂)) (klo : (1 - K) * (1 + ε₂) ≤ (1 - ε₁) * (1 - δ))
    (ht : |t - T| ≤ |T| * ε₁) (hmM : |m - M| ≤ M * ε₂) (hq : |q - t / m| ≤ |t / m| * δ) :
    |q - T / M| ≤ |T / M| * K := by
  have hmM' : |m - M| ≤ |M| * ε₂ := by rwa [abs_of_pos hM]
  obtain ⟨e₁, he₁, rfl⟩ := exists_rel_factor h1 ht
  obtain ⟨e₂, he₂, rfl⟩ := exists_rel_factor h2 hmM'
  obtain ⟨d, hd, rfl⟩ := exists_rel_factor hδ0 hq
  have e : T * (1 + e₁) / (M * (1 + e₂)) * (1 + d) - T / M = T / M * ((1 + e₁) * (1 + d) / (1 + e₂) - 1) := by
    rw [mul_div_mul_comm]; ring
  rw [e, abs_mul]
  exact mul_le_mul_of_nonneg_left (factor_bound h1' h2' hδ1 kup klo he₁ he₂ hd) (abs_nonneg _)

/-- the arithmetic core: three relative perturbations of the sizes that occur in `mpc_div` stay within `2δ` -/
theorem three_perturbations {T M t m q δ ε : ℚ} (hM : 0 < M) (hm : 0 < m) (hδ0 : 0 ≤ δ) (hδ1 : δ ≤ 1)
    (hε0 : 0 ≤ ε) (hε : 1024 * ε ≤ δ)
    (ht : |t - T| ≤ |T| * ε) (hmM : |m - M| ≤ |M| * ε) (hq : |q - t / m| ≤ |t / m| * δ) :
    |q - T / M| ≤ |T / M| * (2 * δ) := by
  rw [abs_of_pos hM] at hmM
  have h0 : 0 ≤ ε * δ := mul_nonneg hε0 hδ0
  have h1 : ε * δ ≤ ε := mul_le_of_le_one_right hε0 hδ1
  exact div_perturb hM hε0 (by linarith) hε0 (by linarith) hδ0 hδ1 (by linarith) (by linarith) ht hmM hq

/-- one quotient of `mpc_div`: a canonical numerator `t` within relative `2^(-9-prec)` of `T` (exact, or one truncation to
`prec+10` bits), denominator `M > 0` truncated to `prec+10` bits as `m` -/
theorem quotient_spec {t m : Mpf} {T M : ℚ} {prec : ℤ} (hp : 0 < prec) (rnd : Rnd)
    (htc : CanonFin t) (hterr : |val t - T| ≤ |T| * 2 ^ (1 - (prec + 10)))
    (hm : RoundOK (prec + 10) .d M m) (hM : 0 < M) :
    ∃ r, mpf_div t m prec rnd = .ok r ∧ CanonFin r ∧ r.bc ≤ prec ∧
      |val r - T / M| ≤ |T / M| * 2 ^ (2 - prec) := by
  have hp10 : 0 < prec + 10 := by omega
  have hmpos : 0 < val m := hm.pos hp10 hM
  obtain ⟨r, hr, hok⟩ := mpf_div_spec htc hm.canon (ne_fzero_of_val_ne_zero hmpos.ne') hp rnd
  refine ⟨r, hr, hok.canon, hok.bc_le hp, ?_⟩
  have hδ1 : (2 : ℚ) ^ (1 - prec) ≤ 1 := zpow_le_one_of_nonpos₀ (by norm_num) (by omega)
  have hε : 1024 * (2 : ℚ) ^ (1 - (prec + 10)) = 2 ^ (1 - prec) := by
    rw [show (1024 : ℚ) = 2 ^ (10 : ℤ) by norm_num, ← zpow_add₀ two_ne_zero]; congr 1; ring
  rw [show (2 : ℤ) - prec = 1 + (1 - prec) by ring, zpow_add₀ two_ne_zero, zpow_one]
  exact three_perturbations hM hmpos (by positivity) hδ1 (by positivity) hε.le hterr (hm.relerr hp10) (hok.relerr hp)

theorem quotient_spec_exact {t m : Mpf} {M : ℚ} {prec : ℤ} (hp : 0 < prec) (rnd : Rnd)
    (htc : CanonFin t) (hm : RoundOK (prec + 10) .d M m) (hM : 0 < M) :
    ∃ r, mpf_div t m prec rnd = .ok r ∧ CanonFin r ∧ r.bc ≤ prec ∧
      |val r - val t / M| ≤ |val t / M| * 2 ^ (2 - prec) :=
  quotient_spec hp rnd htc (by rw [sub_self, abs_zero]; positivity) hm hM

theorem normsq_pos {c d : Mpf} (hc : CanonFin c) (hd : CanonFin d) (h : ¬ (c = fzero ∧ d = fzero)) :
    0 < val c * val c + val d * val d := by
  by_cases h1 : c = fzero
  · exact add_pos_of_nonneg_of_pos (mul_self_nonneg _)
      (mul_self_pos.2 (val_ne_zero_of_ne_fzero hd fun h2 => h ⟨h1, h2⟩))
  · exact add_pos_of_pos_of_nonneg (mul_self_pos.2 (val_ne_zero_of_ne_fzero hc h1)) (mul_self_nonneg _)

theorem val_mpf_neg0 {r : Mpf} (hr : CanonFin r) : CanonFin (mpf_neg r) ∧ val (mpf_neg r) = -val r ∧ (mpf_neg r).bc = r.bc := by
  have h := mpf_neg_spec hr (le_refl 0) .d
  refine ⟨h.canon, h.exact, ?_⟩
  unfold mpf_neg
  rcases hr.cases with rfl | ⟨hm, _, _, _⟩
  · decide
  · simp [hm]

/-- **complex reciprocal** `1/z = (a − b i)/(a² + b²)`: each component within two units in the last place -/
theorem mpc_reciprocal_spec {z : Mpc} (hz1 : CanonFin z.1) (hz2 : CanonFin z.2)
    (hz : ¬ (z.1 = fzero ∧ z.2 = fzero)) {prec : ℤ} (hp : 0 < prec) (rnd : Rnd) :
    ∃ re im, mpc_reciprocal z prec rnd = .ok (re, im) ∧ CanonFin re ∧ CanonFin im ∧ re.bc ≤ prec ∧ im.bc ≤ prec ∧
      |val re - val z.1 / (val z.1 * val z.1 + val z.2 * val z.2)| ≤
        |val z.1 / (val z.1 * val z.1 + val z.2 * val z.2)| * 2 ^ (2 - prec) ∧
      |val im - (-(val z.2 / (val z.1 * val z.1 + val z.2 * val z.2)))| ≤
        |val z.2 / (val z.1 * val z.1 + val z.2 * val z.2)| * 2 ^ (2 - prec) := by
  have hmag := add_mul_spec hz1 hz2 hz1 hz2 (by omega : (0 : ℤ) ≤ prec + 10) .d
  have hM := normsq_pos hz1 hz2 hz
  obtain ⟨re, hre, c1, b1, e1⟩ := quotient_spec_exact hp rnd hz1 hmag hM
  obtain ⟨im, him, c2, b2, e2⟩ := quotient_spec_exact hp rnd hz2 hmag hM
  obtain ⟨n1, n2, n3⟩ := val_mpf_neg0 c2
  refine ⟨re, mpf_neg im, ?_, c1, n1, b1, by rw [n3]; exact b2, e1, ?_⟩
  · unfold mpc_reciprocal
    simp only [hre, him]
    rfl
  · rwa [n2, abs_sub_neg_eq, neg_neg]

end Mp

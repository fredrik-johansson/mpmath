/-
  MpProofs/CPow.lean — the exact regime of `mpc_pow_int`: `complex_int_pow` computes `(a + b·i)^n` in ℤ[i] exactly
  (binary exponentiation, loop invariant `w · base^n = z^N`), the two mantissas are aligned to a common exponent, and
  each component is rounded once by `from_man_exp`.
-/
import MpProofs.Arith
import MpModel.Complex
import Mathlib.NumberTheory.Zsqrtd.GaussianInt

namespace Mp

/-- `(x + y i)^n = cpowQ x y n .1 + cpowQ x y n .2 · i` -/
def cpowQ (x y : ℚ) : ℕ → ℚ × ℚ
  | 0 => (1, 0)
  | n + 1 => ((cpowQ x y n).1 * x - (cpowQ x y n).2 * y, (cpowQ x y n).1 * y + (cpowQ x y n).2 * x)

theorem cpowQ_normsq (x y : ℚ) (n : ℕ) :
    (cpowQ x y n).1 * (cpowQ x y n).1 + (cpowQ x y n).2 * (cpowQ x y n).2 = (x * x + y * y) ^ n := by
  induction n with
  | zero => simp [cpowQ]
  | succ n ih =>
    simp only [cpowQ, pow_succ, ← ih]
    ring

theorem cpowQ_scale (A B : ℤ) (s : ℚ) (n : ℕ) :
    cpowQ (A * s) (B * s) n =
      ((((⟨A, B⟩ : GaussianInt) ^ n).re : ℚ) * s ^ n, (((⟨A, B⟩ : GaussianInt) ^ n).im : ℚ) * s ^ n) := by
  induction n with
  | zero => simp [cpowQ]
  | succ n ih =>
    simp only [cpowQ, ih, pow_succ, Zsqrtd.re_mul, Zsqrtd.im_mul]
    ext <;> push_cast <;> ring

theorem gaussianInt_mk_mul (a b c d : ℤ) : (⟨a, b⟩ * ⟨c, d⟩ : GaussianInt) = ⟨a * c - b * d, b * c + a * d⟩ := by
  ext <;> simp [Zsqrtd.re_mul, Zsqrtd.im_mul] <;> ring

theorem complexIntPowLoop_succ (fuel : ℕ) (wre wim a b : ℤ) {n : ℕ} (h0 : n ≠ 0) :
    complexIntPowLoop (fuel + 1) wre wim a b n =
      if n % 2 = 1 then complexIntPowLoop fuel (wre * a - wim * b) (wim * a + wre * b) (a * a - b * b) (2 * a * b) (n / 2)
      else complexIntPowLoop fuel wre wim (a * a - b * b) (2 * a * b) (n / 2) := by
  rw [complexIntPowLoop, if_neg h0]
  split_ifs with h
  · show complexIntPowLoop fuel _ _ _ _ ((n - 1) / 2) = _
    rw [show (n - 1) / 2 = n / 2 by omega]
  · rfl

theorem complexIntPowLoop_spec :
    ∀ (fuel : ℕ) (wre wim a b : ℤ) (n : ℕ), n < 2 ^ fuel →
      (⟨(complexIntPowLoop fuel wre wim a b n).1, (complexIntPowLoop fuel wre wim a b n).2⟩ : GaussianInt) =
        ⟨wre, wim⟩ * (⟨a, b⟩ : GaussianInt) ^ n := by
  intro fuel
  induction fuel with
  | zero =>
    intro wre wim a b n h
    obtain rfl : n = 0 := by simpa using h
    rw [pow_zero, mul_one]; rfl
  | succ fuel ih =>
    intro wre wim a b n h
    rcases eq_or_ne n 0 with rfl | h0
    · rw [pow_zero, mul_one]; rfl
    have hk : n / 2 < 2 ^ fuel := by rw [pow_succ] at h; omega
    have hsq : (⟨a * a - b * b, 2 * a * b⟩ : GaussianInt) = ⟨a, b⟩ ^ 2 := by
      rw [pow_two, gaussianInt_mk_mul]; congr 1; ring
    have hn : (⟨a, b⟩ : GaussianInt) ^ n = ⟨a, b⟩ ^ (n % 2) * (⟨a, b⟩ ^ 2) ^ (n / 2) := by
      rw [← pow_mul, ← pow_add, Nat.mod_add_div]
    rw [complexIntPowLoop_succ _ _ _ _ _ h0, hn]
    split_ifs with hodd
    · rw [ih _ _ _ _ _ hk, hsq, hodd, pow_one, ← mul_assoc, gaussianInt_mk_mul wre wim a b]
    · rw [ih _ _ _ _ _ hk, hsq, show n % 2 = 0 by omega, pow_zero, one_mul]

theorem complex_int_pow_spec (a b : ℤ) (n : ℕ) :
    (⟨(complex_int_pow a b n).1, (complex_int_pow a b n).2⟩ : GaussianInt) = (⟨a, b⟩ : GaussianInt) ^ n := by
  unfold complex_int_pow
  rw [complexIntPowLoop_spec _ _ _ _ _ _ (bitcount_lt n)]
  have : (⟨1, 0⟩ : GaussianInt) = 1 := by ext <;> simp
  rw [this, one_mul]

theorem pow_aligned_spec (A B e : ℤ) (n : ℕ) {prec : ℤ} (hp : 0 ≤ prec) (rnd : Rnd) :
    RoundOK prec rnd (cpowQ (A * 2 ^ e) (B * 2 ^ e) n).1 (from_man_exp (complex_int_pow A B n).1 (n * e) prec rnd) ∧
    RoundOK prec rnd (cpowQ (A * 2 ^ e) (B * 2 ^ e) n).2 (from_man_exp (complex_int_pow A B n).2 (n * e) prec rnd) := by
  have hpow := complex_int_pow_spec A B n
  have hs : ((2 : ℚ) ^ e) ^ n = 2 ^ ((n : ℤ) * e) := by rw [← zpow_natCast, ← zpow_mul, mul_comm]
  rw [cpowQ_scale, hs, ← hpow]
  exact ⟨from_man_exp_spec _ _ hp rnd, from_man_exp_spec _ _ hp rnd⟩

theorem val_aligned {x : ℚ} {A e e' : ℤ} (hx : x = (A : ℚ) * 2 ^ e) (h : e' ≤ e) :
    x = ((ishl A (e - e').toNat : ℤ) : ℚ) * 2 ^ e' := by
  rw [hx, ishl_cast, mul_assoc, ← zpow_natCast, ← zpow_add₀ two_ne_zero, Int.toNat_of_nonneg (by omega),
    sub_add_cancel]

/-- the exact regime: each component is the correct rounding of the exact component of `(a + b i)^n` -/
theorem mpcPowExact_spec (a b : Mpf) (ha : a.sign ≤ 1) (hb : b.sign ≤ 1) (n : ℕ) {prec : ℤ} (hp : 0 ≤ prec) (rnd : Rnd) :
    RoundOK prec rnd (cpowQ (val a) (val b) n).1 (mpcPowExact a b n prec rnd).1 ∧
    RoundOK prec rnd (cpowQ (val a) (val b) n).2 (mpcPowExact a b n prec rnd).2 := by
  unfold mpcPowExact
  simp only [ne_eq, ite_not]
  have hva := val_eq_manZ ha
  have hvb := val_eq_manZ hb
  by_cases hde : a.exp - b.exp > 0
  · simp only [hde, if_true]
    rw [hvb, val_aligned hva (by omega : b.exp ≤ a.exp)]
    exact pow_aligned_spec _ _ _ n hp rnd
  · simp only [hde, if_false]
    rw [hva, val_aligned hvb (by omega : a.exp ≤ b.exp), neg_sub]
    exact pow_aligned_spec _ _ _ n hp rnd

theorem mpc_pow_int_exact_eq (fallback : Mpc → Int → Int → Rnd → Except Err Mpc) {z : Mpc} (ha : z.1 ≠ fzero)
    (hb : z.2 ≠ fzero) {n : ℤ} (hn : 3 ≤ n)
    (hsize : n * (((z.1.exp - z.2.exp).natAbs : ℤ) + max z.1.bc z.2.bc) < 10000) (prec : ℤ) (rnd : Rnd) :
    mpc_pow_int fallback z n prec rnd = .ok (mpcPowExact z.1 z.2 n.toNat prec rnd) := by
  unfold mpc_pow_int
  have h0 : ¬ n = 0 := by omega
  have h1 : ¬ n = 1 := by omega
  have h2 : ¬ n = 2 := by omega
  have h3 : ¬ n = -1 := by omega
  have h4 : ¬ n < 0 := by omega
  simp only [hb, ha, h0, h1, h2, h3, h4, if_false, dif_neg, not_false_eq_true, hsize, if_true]

theorem mpc_pow_int_neg_eq (fallback : Mpc → Int → Int → Rnd → Except Err Mpc) {z : Mpc} (ha : z.1 ≠ fzero)
    (hb : z.2 ≠ fzero) {n : ℤ} (hn : n < -1) (prec : ℤ) (rnd : Rnd) :
    mpc_pow_int fallback z n prec rnd =
      (mpc_pow_int fallback z (-n) (prec + 4) .d >>= fun w => mpc_reciprocal w prec rnd) := by
  rw [mpc_pow_int]
  have h0 : ¬ n = 0 := by omega
  have h1 : ¬ n = 1 := by omega
  have h2 : ¬ n = 2 := by omega
  have h3 : ¬ n = -1 := by omega
  have h4 : n < 0 := by omega
  simp only [hb, ha, h0, h1, h2, h3, h4, if_false, dif_pos]

end Mp

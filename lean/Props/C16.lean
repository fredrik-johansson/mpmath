/-
  Props/C16.lean — C16: interval comparisons are sound AND complete three-valued predicates
  (finite endpoints of any length).
-/
import MpProofs.IntervalSound

namespace Mp

/-- `<` : True iff it holds for every pair of members, False iff it fails for every pair (hence None
exactly when neither). -/
theorem C16_lt {s t : Mpi} (hs : FinIv s) (ht : FinIv t) :
    (mpi_lt s t = some true ↔ ∀ x y, MemIv x s → MemIv y t → x < y) ∧
    (mpi_lt s t = some false ↔ ∀ x y, MemIv x s → MemIv y t → ¬ x < y) := by
  have top : MemIv (val s.2) s := ⟨hs.2.2, le_refl _⟩
  have bot : MemIv (val s.1) s := ⟨le_refl _, hs.2.2⟩
  have top' : MemIv (val t.2) t := ⟨ht.2.2, le_refl _⟩
  have bot' : MemIv (val t.1) t := ⟨le_refl _, ht.2.2⟩
  constructor
  · rw [mpi_lt_true_iff, mpf_lt_spec hs.2.1 ht.1, decide_eq_true_eq]
    exact ⟨fun c x y hx hy => hx.2.trans_lt (c.trans_le hy.1), fun h => h _ _ top bot'⟩
  · rw [mpi_lt_false_iff, mpf_lt_spec hs.2.1 ht.1, mpf_ge_spec hs.1 ht.2.1, decide_eq_false_iff_not, decide_eq_true_eq]
    exact ⟨fun c x y hx hy => not_lt.2 (hy.2.trans (c.2.trans hx.1)),
      fun h => ⟨h _ _ top bot', not_lt.1 (h _ _ bot top')⟩⟩

theorem C16_le {s t : Mpi} (hs : FinIv s) (ht : FinIv t) :
    (mpi_le s t = some true ↔ ∀ x y, MemIv x s → MemIv y t → x ≤ y) ∧
    (mpi_le s t = some false ↔ ∀ x y, MemIv x s → MemIv y t → ¬ x ≤ y) := by
  have top : MemIv (val s.2) s := ⟨hs.2.2, le_refl _⟩
  have bot : MemIv (val s.1) s := ⟨le_refl _, hs.2.2⟩
  have top' : MemIv (val t.2) t := ⟨ht.2.2, le_refl _⟩
  have bot' : MemIv (val t.1) t := ⟨le_refl _, ht.2.2⟩
  constructor
  · rw [mpi_le_true_iff, mpf_le_spec hs.2.1 ht.1, decide_eq_true_eq]
    exact ⟨fun c x y hx hy => hx.2.trans (c.trans hy.1), fun h => h _ _ top bot'⟩
  · rw [mpi_le_false_iff, mpf_le_spec hs.2.1 ht.1, mpf_gt_spec hs.1 ht.2.1, decide_eq_false_iff_not, decide_eq_true_eq]
    exact ⟨fun c x y hx hy => not_le.2 (hy.2.trans_lt (c.2.trans_le hx.1)),
      fun h => ⟨h _ _ top bot', not_le.1 (h _ _ bot top')⟩⟩

/-- `>` and `>=` are the mirrored predicates (definitionally, as in the code) -/
theorem C16_gt_ge (s t : Mpi) : mpi_gt s t = mpi_lt t s ∧ mpi_ge s t = mpi_le t s := ⟨rfl, rfl⟩

/-- `==` compares the endpoints exactly -/
theorem C16_eq {s t : Mpi} (hs : FinIv s) (ht : FinIv t) :
    mpi_eq s t = true ↔ val s.1 = val t.1 ∧ val s.2 = val t.2 := by
  rw [mpi_eq_iff]
  constructor
  · rintro ⟨h1, h2⟩; rw [h1, h2]; exact ⟨rfl, rfl⟩
  · rintro ⟨h1, h2⟩
    exact ⟨canonFin_val_inj hs.1 ht.1 h1, canonFin_val_inj hs.2.1 ht.2.1 h2⟩

theorem C16_ne (s t : Mpi) : mpi_ne s t = !mpi_eq s t := rfl

/-- `t in s` (interval operands): True exactly when `t` lies inside `s` -/
theorem C16_contains {s t : Mpi} (hs : FinIv s) (ht : FinIv t) :
    ivmpf_contains_iv s t = true ↔ (val s.1 ≤ val t.1 ∧ val t.2 ≤ val s.2) := by
  rw [ivmpf_contains_iv_iff, mpf_le_spec hs.1 ht.1, mpf_le_spec ht.2.1 hs.2.1]
  simp

end Mp

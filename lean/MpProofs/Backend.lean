/-
  MpProofs/Backend.lean — the table/float driven pure-Python helpers equal `bitcount` / `trailing`.
-/
import MpModel.Backend
import MpProofs.Bits

namespace Mp.Backend
open Mp

theorem bisectPowers_eq (n : Nat) : ∀ K, bisectPowers n K = min (bitcount n) K
  | 0 => by simp [bisectPowers]
  | K + 1 => by
    unfold bisectPowers
    split
    · rename_i h
      have := lt_bitcount_of_le h
      omega
    · rename_i h
      have h' : n < 2 ^ K := by omega
      have := bitcount_le_of_lt h'
      rw [bisectPowers_eq n K]
      omega

theorem bctable_eq {i : Nat} (h : i < 1024) : bctable i = some (bitcount i) := by
  unfold bctable
  rw [if_pos h, bisectPowers_eq]
  have : bitcount i ≤ 10 := bitcount_le_of_lt (by simpa using h)
  congr 1
  omega

/-- below 2^299 the float is never consulted -/
theorem pythonBitcount_small (n : Nat) (est : Int) (h : bitcount n < 300) :
    pythonBitcount n est = .ok (bitcount n) := by
  unfold pythonBitcount
  simp only [bisectPowers_eq]
  have : min (bitcount n) 300 = bitcount n := by omega
  rw [this, if_pos (by omega)]

theorem bitcount_shiftRight (n k : Nat) : bitcount (n >>> k) = bitcount n - k := by
  rw [Nat.shiftRight_eq_div_pow]
  rcases Nat.lt_or_ge k (bitcount n) with h | h
  · exact bitcount_div h
  · rw [Nat.div_eq_of_lt ((bitcount_lt n).trans_le (Nat.pow_le_pow_right (by norm_num) h)), bitcount_zero]
    omega

theorem pythonBitcount_large (n : Nat) (est : Int) (h4 : 4 ≤ est)
    (hlo : est - 4 ≤ bitcount n) (hhi : (bitcount n : Int) ≤ est - 4 + 10) :
    pythonBitcount n est = .ok (bitcount n) := by
  by_cases hs : bitcount n < 300
  · exact pythonBitcount_small n est hs
  unfold pythonBitcount
  simp only [bisectPowers_eq]
  have : min (bitcount n) 300 = 300 := by omega
  rw [this]
  simp only [ne_eq, not_true_eq_false, if_false]
  rw [if_neg (by omega)]
  obtain ⟨k, hk⟩ : ∃ k : Nat, est - 4 = k := ⟨(est - 4).toNat, by omega⟩
  rw [hk, Int.toNat_natCast]
  have hbc := bitcount_shiftRight n k
  have hlt : n >>> k < 1024 :=
    (bitcount_lt (n >>> k)).trans_le (Nat.pow_le_pow_right (by norm_num) (by omega : bitcount (n >>> k) ≤ 10))
  rw [bctable_eq hlt, hbc]
  simp only
  congr 1
  omega

/-- the table `small_trailing` holds the number of trailing zero bits of every non-zero byte (and 0 at 0) -/
theorem smallTrailing_eq : ∀ b < 256, smallTrailing b = trailing b := by decide +kernel

theorem trailing_unique {n k : Nat} (hd : 2 ^ k ∣ n) (ho : (n / 2 ^ k) % 2 = 1) : trailing n = k := by
  have hn : n ≠ 0 := by
    rintro rfl
    simp at ho
  have hd' := trailing_dvd n
  have ho' := trailing_odd hn
  -- if 2^(a+1) ∣ n then n / 2^a is even
  have even_of {a : Nat} (h : 2 ^ (a + 1) ∣ n) : (n / 2 ^ a) % 2 = 0 := by
    obtain ⟨c, hc⟩ := h
    have : n / 2 ^ a = 2 * c := by
      rw [hc, pow_succ, Nat.mul_assoc, Nat.mul_div_cancel_left _ (by positivity)]
    omega
  rcases Nat.lt_trichotomy (trailing n) k with h | h | h
  · have := even_of (Nat.dvd_trans (Nat.pow_dvd_pow 2 (by omega : trailing n + 1 ≤ k)) hd)
    omega
  · exact h
  · have := even_of (Nat.dvd_trans (Nat.pow_dvd_pow 2 (by omega : k + 1 ≤ trailing n)) hd')
    omega

theorem trailing_mul_two_pow {n : Nat} (hn : n ≠ 0) (k : Nat) : trailing (n * 2 ^ k) = trailing n + k := by
  apply trailing_unique
  · rw [pow_add]; exact Nat.mul_dvd_mul (trailing_dvd n) (dvd_refl _)
  · rw [pow_add, Nat.mul_div_mul_right _ _ (Nat.two_pow_pos k)]; exact trailing_odd hn

theorem trailing_mod_two_pow {m k : Nat} (h : m % 2 ^ k ≠ 0) : trailing m = trailing (m % 2 ^ k) := by
  have ht : trailing (m % 2 ^ k) < k :=
    (trailing_lt_bitcount h).trans_le (bitcount_le_of_lt (Nat.mod_lt _ (Nat.two_pow_pos k)))
  have hd := trailing_dvd (m % 2 ^ k)
  have ho := trailing_odd h
  generalize trailing (m % 2 ^ k) = t at *
  have hk : 2 ^ (t + 1) ∣ 2 ^ k := Nat.pow_dvd_pow 2 ht
  apply trailing_unique
  · exact (Nat.dvd_mod_iff (Nat.pow_dvd_pow 2 ht.le)).mp hd
  · -- bit `t` of `m` is bit `t` of `m mod 2^k`
    rw [← Nat.mod_mul_right_div_self, ← pow_succ, ← Nat.mod_mod_of_dvd m hk, pow_succ,
      Nat.mod_mul_right_div_self]
    exact ho

theorem trailing_byte_zero {m : Nat} (h0 : m ≠ 0) (h : m % 256 = 0) :
    trailing m = trailing (m / 256) + 8 := by
  rw [← trailing_mul_two_pow (by omega : m / 256 ≠ 0) 8, show m / 256 * 2 ^ 8 = m by omega]

theorem trailing_byte_nonzero {m : Nat} (h : m % 256 ≠ 0) : trailing m = trailing (m % 256) :=
  trailing_mod_two_pow (k := 8) h

theorem trailingLoop_eq : ∀ (fuel m t : Nat), m ≠ 0 → bitcount m ≤ fuel →
    trailingLoop fuel m t = t + trailing m
  | 0, m, t, h0, hb => by
    have := bitcount_pos h0
    omega
  | fuel + 1, m, t, h0, hb => by
    unfold trailingLoop
    split
    · rename_i hz
      have hq : m / 256 ≠ 0 := by omega
      have hsh : m >>> 8 = m / 256 := by rw [Nat.shiftRight_eq_div_pow]
      have hbq : bitcount (m / 256) ≤ fuel := by
        have h8 : 8 < bitcount m := by
          have : 2 ^ 8 ≤ m := by norm_num; omega
          exact lt_bitcount_of_le this
        have := bitcount_div (n := m) (k := 8) h8
        norm_num at this
        omega
      rw [hsh, trailingLoop_eq fuel (m / 256) (t + 8) hq hbq, trailing_byte_zero h0 hz]
      omega
    · rename_i hz
      rw [smallTrailing_eq _ (Nat.mod_lt _ (by norm_num)), trailing_byte_nonzero hz]

end Mp.Backend

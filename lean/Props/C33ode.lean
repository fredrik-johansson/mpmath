/-
  Props/C33ode.lean — C33 for the segment cache of `odefun` (`series_boundaries` / `series_data`,
  mpmath/calculus/odes.py:244-267; model MpModel/OdeSeg.lean).

  Setting of every theorem: `step` is what `ode_taylor` computes from the last cached segment (new
  coefficients, new right boundary; `none` = it raises); `Incr step`: every step moves the boundary
  strictly to the right; `seg0 = (ser, x0, xb)` is the segment computed by `odefun` itself, with
  `x0 < xb`.  A history is ANY list of calls `f(x)` (`Req`: any abscissa in any order, repeated,
  `x < x0`, any loop fuel, and any call aborted by a transient exception raised at the `j`-th
  `ode_taylor` call of that request).  `canon step seg0 k` is the `k`-th segment of the sequence
  `seg0, next seg0, next (next seg0), …` that a single uninterrupted extension would produce.
-/
import MpProofs.OdeSeg

namespace Mp
open Mp.OdeSeg

/-- (a) History independence of the cache contents.  After every history the cache is non-empty,
its `k`-th segment is the `k`-th canonical segment, `series_boundaries` is `x0` followed by the right
end points of the cached segments (so `len(series_boundaries) = len(series_data)+1`), and it is
strictly increasing. -/
theorem odeSeg_cache_canonical {σ : Type} (step : Seg σ → Option (σ × Int)) (hinc : Incr step)
    (x0 : Int) (seg0 : Seg σ) (h0 : seg0.xa = x0) (h1 : x0 < seg0.xb) (h : List Req) :
    (after step x0 (init x0 seg0) h).data ≠ [] ∧
    (∀ k, k < (after step x0 (init x0 seg0) h).data.length →
      (after step x0 (init x0 seg0) h).data[k]? = canon step seg0 k) ∧
    (after step x0 (init x0 seg0) h).bounds =
      x0 :: (after step x0 (init x0 seg0) h).data.map (·.xb) ∧
    (after step x0 (init x0 seg0) h).bounds.Pairwise (· < ·) := by
  have hi := inv_after hinc h0 h1 h _ (inv_init (step := step) x0 seg0)
  exact ⟨hi.ne, hi.seq, hi.bounds, sortedLt_pairwise (hi.sorted hinc h0 h1)⟩

/-- (a, two histories) The caches left by any two histories agree as far as both go: the shorter
one is an initial piece of the longer one, boundaries and segments alike. -/
theorem odeSeg_cache_history_independent {σ : Type} (step : Seg σ → Option (σ × Int))
    (hinc : Incr step) (x0 : Int) (seg0 : Seg σ) (h0 : seg0.xa = x0) (h1 : x0 < seg0.xb)
    (hA hB : List Req)
    (hle : (after step x0 (init x0 seg0) hA).data.length ≤ (after step x0 (init x0 seg0) hB).data.length) :
    (after step x0 (init x0 seg0) hA).data =
      (after step x0 (init x0 seg0) hB).data.take (after step x0 (init x0 seg0) hA).data.length ∧
    (after step x0 (init x0 seg0) hA).bounds =
      (after step x0 (init x0 seg0) hB).bounds.take (after step x0 (init x0 seg0) hA).bounds.length :=
  inv_prefix (inv_after hinc h0 h1 hA _ (inv_init x0 seg0)) (inv_after hinc h0 h1 hB _ (inv_init x0 seg0)) hle

/-- (b) The segment used for `x` after any history is a canonical segment `[xa, xb]` with
`xa ≤ x ≤ xb`.  Either it is served from the cache — then the cache is unchanged and `xa ≤ x < xb` —
or it was appended by this very call, it is the last cached segment, and it is the first new one
with `x ≤ xb` (`xa < x`, or it is the first appended segment).  `get_series` never fails with an
IndexError, and raises ValueError exactly for `x < x0`. -/
theorem odeSeg_segment_valid {σ : Type} (step : Seg σ → Option (σ × Int)) (hinc : Incr step)
    (x0 : Int) (seg0 : Seg σ) (h0 : seg0.xa = x0) (h1 : x0 < seg0.xb) (h : List Req)
    (fuel : Nat) (fault : Option Nat) (x : Int) :
    let s := after step x0 (init x0 seg0) h
    let r := getSeries step x0 fuel fault s x
    r.2 ≠ .indexError ∧ (r.2 = .valueError ↔ x < x0) ∧
    ∀ sg, r.2 = .seg sg →
      ∃ k, canon step seg0 k = some sg ∧ sg.xa ≤ x ∧ x ≤ sg.xb ∧
        (r.1 = s ∧ k < s.data.length ∧ x < sg.xb ∨
         s.data.length ≤ k ∧ r.1.data.length = k + 1 ∧ r.1.data.getLast? = some sg ∧
           (sg.xa < x ∨ k = s.data.length)) := by
  intro s r
  have hi := inv_after hinc h0 h1 h _ (inv_init (step := step) x0 seg0)
  obtain ⟨_, _, e3, e4, e5⟩ := getSeries_spec hinc h0 h1 hi fuel fault x
  exact ⟨e3, e4, e5⟩

/-- (b, two histories) The segment used for `x` depends on the history at most at a boundary point:
the segments selected after two arbitrary histories are the same, or `x` is the common end point
of the two (then both are valid expansions at `x`). -/
theorem odeSeg_segment_history_independent {σ : Type} (step : Seg σ → Option (σ × Int))
    (hinc : Incr step) (x0 : Int) (seg0 : Seg σ) (h0 : seg0.xa = x0) (h1 : x0 < seg0.xb)
    (hA hB : List Req) (fuelA fuelB : Nat) (faultA faultB : Option Nat) (x : Int) (sgA sgB : Seg σ)
    (hsA : (getSeries step x0 fuelA faultA (after step x0 (init x0 seg0) hA) x).2 = .seg sgA)
    (hsB : (getSeries step x0 fuelB faultB (after step x0 (init x0 seg0) hB) x).2 = .seg sgB) :
    sgA = sgB ∨ (sgA.xb = x ∧ sgB.xa = x) ∨ (sgB.xb = x ∧ sgA.xa = x) := by
  obtain ⟨_, _, hA'⟩ := odeSeg_segment_valid step hinc x0 seg0 h0 h1 hA fuelA faultA x
  obtain ⟨_, _, hB'⟩ := odeSeg_segment_valid step hinc x0 seg0 h0 h1 hB fuelB faultB x
  obtain ⟨j, a1, a2, a3, _⟩ := hA' sgA hsA
  obtain ⟨k, b1, b2, b3, _⟩ := hB' sgB hsB
  exact canon_unique hinc a1 b1 a2 a3 b2 b3

/-- (b, total) When `ode_taylor` never raises, a call `f(x)`, `x ≥ x0`, that is not aborted returns
a segment after any history; the loop fuel `fuelFor` (distance to the last boundary) suffices. -/
theorem odeSeg_answers {σ : Type} (step : Seg σ → Option (σ × Int)) (hinc : Incr step)
    (htot : ∀ s, step s ≠ none) (x0 : Int) (seg0 : Seg σ) (h0 : seg0.xa = x0) (h1 : x0 < seg0.xb)
    (h : List Req) (x : Int) (hx : x0 ≤ x) :
    ∃ sg, (getSeries step x0 (fuelFor (after step x0 (init x0 seg0) h) x) none
      (after step x0 (init x0 seg0) h) x).2 = .seg sg :=
  getSeries_answers hinc htot h0 h1 (inv_after hinc h0 h1 h _ (inv_init x0 seg0)) hx

/-- (c) `f(x0)` is evaluated from the FIRST segment whatever happened before, and leaves the cache
untouched. -/
theorem odeSeg_x0_first_segment {σ : Type} (step : Seg σ → Option (σ × Int)) (hinc : Incr step)
    (x0 : Int) (seg0 : Seg σ) (h0 : seg0.xa = x0) (h1 : x0 < seg0.xb) (h : List Req)
    (fuel : Nat) (fault : Option Nat) :
    getSeries step x0 fuel fault (after step x0 (init x0 seg0) h) x0 =
      (after step x0 (init x0 seg0) h, .seg seg0) :=
  getSeries_x0 hinc h0 h1 (inv_after hinc h0 h1 h _ (inv_init x0 seg0)) fuel fault

/-- (c, mutant) With `bisect_left` instead of `bisect` (`getSeriesLeft`) statement (c) is false:
for unit steps from `x0 = 0`, after the single call `f(3)` the lookup of `x0` gives
`n = 0`, `series_data[-1]`: the LAST segment `[2,3]` instead of the first one `[0,1]`. -/
theorem odeSeg_bisect_left_counterexample :
    ∃ (step : Seg Nat → Option (Nat × Int)) (x0 : Int) (seg0 : Seg Nat) (h : List Req) (fuel : Nat),
      Incr step ∧ seg0.xa = x0 ∧ x0 < seg0.xb ∧
      (getSeriesLeft step x0 fuel none (afterLeft step x0 (init x0 seg0) h) x0).2 = .seg ⟨2, 2, 3⟩ ∧
      (getSeriesLeft step x0 fuel none (afterLeft step x0 (init x0 seg0) h) x0).2 ≠ .seg seg0 ∧
      (getSeries step x0 fuel none (after step x0 (init x0 seg0) h) x0).2 = .seg seg0 := by
  refine ⟨fun s => some (s.ser + 1, s.xb + 1), 0, ⟨0, 0, 1⟩, [⟨3, none, 10⟩], 0, ?_, rfl, by decide,
    by decide, by decide, by decide⟩
  intro s ser xb hs
  simp only [Option.some.injEq, Prod.mk.injEq] at hs
  omega

/-- (d) A call aborted by an exception (at any `ode_taylor` call `j`, deterministic or transient)
leaves a cache that satisfies (a), that extends the previous cache only at its end, and in which
boundaries and segments were appended together.  If the very first `ode_taylor` call of the request
is the one that raises (`j = 0`), the cache is unchanged. -/
theorem odeSeg_abort_safe {σ : Type} (step : Seg σ → Option (σ × Int)) (hinc : Incr step)
    (x0 : Int) (seg0 : Seg σ) (h0 : seg0.xa = x0) (h1 : x0 < seg0.xb) (h : List Req)
    (fuel : Nat) (fault : Option Nat) (x : Int) :
    let s := after step x0 (init x0 seg0) h
    let r := getSeries step x0 fuel fault s x
    r.2 = .raised →
      Inv step x0 seg0 r.1 ∧ (∃ l, r.1.data = s.data ++ l) ∧
      r.1.bounds.length = r.1.data.length + 1 ∧ (fault = some 0 → r.1 = s) := by
  intro s r _
  have hi := inv_after hinc h0 h1 h _ (inv_init (step := step) x0 seg0)
  obtain ⟨e1, e2, _⟩ := getSeries_spec hinc h0 h1 hi fuel fault x
  refine ⟨e1, e2, e1.len_bounds, ?_⟩
  intro hf
  show (getSeries step x0 fuel fault s x).1 = s
  by_cases hx : x < x0
  · rw [getSeries_lt hx]
  · by_cases hn : bisectRight s.bounds x < s.bounds.length
    · obtain ⟨_, sg, c1, _⟩ := cached_spec hinc h0 h1 hi (by omega) hn
      rw [getSeries_cached hx fuel fault hn c1]
    · rw [getSeries_extend hx fuel fault hn]
      cases fuel with
      | zero => rfl
      | succ f =>
        simp only [extend]
        split
        · rfl
        · simp [hf]

/-- (d, outside the quantifier) The two `append`s are separate statements.  No call — hence no
exception of the program — can occur between them; an asynchronous interrupt exactly there
(`series_boundaries` one longer than `series_data` + 1) does break the cache: from the state
`boundaries = [0,1,2]`, `data = [(·,0,1)]` the call `f(1)` raises IndexError, and `f(2)` appends the
boundary `2` a second time. -/
theorem odeSeg_async_counterexample :
    let step : Seg Nat → Option (Nat × Int) := fun s => some (s.ser + 1, s.xb + 1)
    let broken : State Nat := ⟨(init 0 ⟨0, 0, 1⟩).bounds ++ [2], (init 0 ⟨0, 0, 1⟩).data⟩
    (getSeries step 0 5 none broken 1).2 = .indexError ∧
    (getSeries step 0 5 none broken 2).1.bounds = [0, 1, 2, 2] := by
  decide

/-! Non-vacuity: the hypotheses are satisfiable, and a concrete history exercises every branch
(cached, extension by several segments, `x = x0`, a boundary point, an aborted call, `x < x0`). -/
example : Incr (fun s : Seg Nat => some (s.ser + 1, s.xb + 5)) := by
  intro s ser xb hs
  simp only [Option.some.injEq, Prod.mk.injEq] at hs
  omega

example :
    let step : Seg Nat → Option (Nat × Int) := fun s => some (s.ser + 1, s.xb + 5)
    let s := after step 0 (init 0 ⟨0, 0, 5⟩) [⟨17, none, 9⟩, ⟨0, none, 0⟩, ⟨33, some 1, 9⟩, ⟨-2, none, 9⟩]
    s.bounds = [0, 5, 10, 15, 20, 25] ∧
    (getSeries step 0 9 none s 15).2 = .seg ⟨3, 15, 20⟩ ∧
    (getSeries step 0 9 none s 27).2 = .seg ⟨5, 25, 30⟩ ∧
    (getSeries step 0 9 none s 30).2 = .seg ⟨5, 25, 30⟩ ∧
    (getSeries step 0 9 none (getSeries step 0 9 none s 27).1 30).2 = .seg ⟨6, 30, 35⟩ ∧
    (getSeries step 0 9 (some 0) s 27) = (s, .raised) ∧
    (getSeries step 0 9 none s (-1)).2 = .valueError := by
  decide

end Mp

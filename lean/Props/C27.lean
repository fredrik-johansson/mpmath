/-
  Props/C27.lean — C27 (series, products, limits, extrapolation), level: translation validation with a
  PROVED validator, plus proofs of the pure index / table logic.

  Sampled (tie T2): the harness runs the real `nsum` (every acceleration method), `nprod`, `limit`, `sumem`,
  `sumap` on members of the families `Mp.Calc.Ser` / `Prd` / `Lim` (rational parameters), reads the result
  exactly and asks the compiled checker.  Proved here:
    * the closed form IS the limit of the partial sums / partial products / the limit of the function
      (Mathlib: geometric series, ζ(2) = π²/6, ζ(4) = π⁴/90, exp / sin / cos / log series, Leibniz' series,
      telescoping sums and products, `(1+t/x)^x → e^t`, difference quotients);
    * finite ranges: the model's exact partial sum / product is the finite sum / product of the terms;
    * two-sided and two-dimensional sums of these families (`s₁ + s₂`, `s₁·s₂`);
    * a verdict of the checker is a theorem: `|y − v| ≤ 2^(10−p)·|v|` ("accurate to within 2^(10−p) relative");
    * `nsum`'s index-range standardisation enumerates exactly the original index set (`C27_standardize_spec`),
      the 2-D shell folding partitions ℕ×ℕ, finite folding is the iterated sum;
    * `richardson` (exact rational model of the code) returns `L` exactly on `s_i = L + Σ_{j≤M} c_j/i^j`.
  Not claimed: convergence of any acceleration method on any class; levin / cohen_alt tables are not modelled.
-/
import MpProofs.CalcSer
import MpProofs.CalcLogicA

namespace Mp
open Mp.Calc Mp.Encl Filter Topology Finset

/-- infinite series: the partial sums `Σ_{k=start}^{start+n-1} term k` tend to the closed form -/
theorem C27_series_sum (s : Ser) (r : Ref) (h : s.sumRef = some r) :
    Tendsto (fun n => ∑ k ∈ range n, s.term (s.start + k)) atTop (𝓝 r.sem) :=
  Ser.tendsto_partial s r h

/-- finite ranges: the exact rational `Ser.partial s a b` is `Σ_{k=a}^{b} term k` -/
theorem C27_finite_sum (s : Ser) (a b : ℕ) :
    ((s.partial a b : ℚ) : ℝ) = ∑ i ∈ range (b + 1 - a), s.term (a + i) :=
  Ser.partial_eq s a b

/-- infinite products: the partial products tend to the closed form -/
theorem C27_product (s : Prd) (r : Ref) (h : s.prodRef = some r) :
    Tendsto (fun n => ∏ k ∈ range n, s.factor (s.start + k)) atTop (𝓝 r.sem) :=
  Prd.tendsto_partial s r h

/-- finite products -/
theorem C27_finite_product (s : Prd) (a b : ℕ) :
    ((s.partial a b : ℚ) : ℝ) = ∏ i ∈ range (b + 1 - a), s.factor (a + i) :=
  Prd.partial_eq s a b

/-- limits: `l.fn x → l.limRef` as `x → +∞` (`ratSeq`, `euler`) resp. `x → 0, x ≠ 0` (`slopeExp`, `slopeSin`) -/
theorem C27_limit (l : Lim) (r : Ref) (h : l.limRef = some r) : Tendsto l.fn l.filter (𝓝 r.sem) := by
  cases l with
  | ratSeq a b c d =>
    by_cases hc : c = 0
    · simp [Lim.limRef, hc] at h
    obtain rfl : Ref.rat (a / c) = r := by simpa [Lim.limRef, hc] using h
    have hc' : (c : ℝ) + d * 0 ≠ 0 := by rw [mul_zero, add_zero]; exact_mod_cast hc
    -- divide numerator and denominator by `x`; then `x⁻¹ → 0`
    have hi := tendsto_inv_atTop_zero (𝕜 := ℝ)
    have ht := ((hi.const_mul (b : ℝ)).const_add (a : ℝ)).div ((hi.const_mul (d : ℝ)).const_add (c : ℝ)) hc'
    have e : ((a : ℝ) + b * 0) / ((c : ℝ) + d * 0) = ((a / c : ℚ) : ℝ) := by
      rw [mul_zero, mul_zero, add_zero, add_zero, Rat.cast_div]
    rw [e] at ht
    refine ht.congr' ?_
    filter_upwards [eventually_ne_atTop (0 : ℝ)] with x hx
    show ((a : ℝ) + b * x⁻¹) / ((c : ℝ) + d * x⁻¹) = ((a : ℝ) * x + b) / ((c : ℝ) * x + d)
    rw [← mul_div_mul_right ((a : ℝ) + b * x⁻¹) ((c : ℝ) + d * x⁻¹) hx, add_mul, add_mul, mul_assoc,
      mul_assoc, inv_mul_cancel₀ hx, mul_one, mul_one]
  | euler t =>
    simp only [Lim.limRef, Option.some.injEq] at h; subst h
    show Tendsto (fun x : ℝ => (1 + (t : ℝ) / x) ^ x) atTop (𝓝 (Real.exp (t : ℝ)))
    exact Real.tendsto_one_add_div_rpow_exp (t : ℝ)
  | slopeExp c =>
    simp only [Lim.limRef, Option.some.injEq] at h; subst h
    show Tendsto (Lim.slopeExp c).fn (𝓝[≠] 0) (𝓝 (c : ℝ))
    have hd : HasDerivAt (fun x : ℝ => Real.exp ((c : ℝ) * x)) (c : ℝ) 0 := by
      have := ((hasDerivAt_id' (0 : ℝ)).const_mul (c : ℝ)).exp
      simpa using this
    have := hd.tendsto_slope_zero
    refine this.congr fun x => ?_
    simp [Lim.fn, div_eq_inv_mul]
  | slopeSin c =>
    simp only [Lim.limRef, Option.some.injEq] at h; subst h
    show Tendsto (Lim.slopeSin c).fn (𝓝[≠] 0) (𝓝 (c : ℝ))
    have hd : HasDerivAt (fun x : ℝ => Real.sin ((c : ℝ) * x)) (c : ℝ) 0 := by
      have := ((hasDerivAt_id' (0 : ℝ)).const_mul (c : ℝ)).sin
      simpa using this
    have := hd.tendsto_slope_zero
    refine this.congr fun x => ?_
    simp [Lim.fn, div_eq_inv_mul]

/-- doubly infinite sums: with `f k = s₁.term (start₁ + k)` for `k ≥ 0` and `f (−k) = s₂.term (start₂ + k − 1)`
for `k ≥ 1`, the symmetric partial sums `Σ_{j=−n}^{n} f j` tend to `s₁ + s₂` (`sumRef2 s₁ s₂ false`) -/
theorem C27_two_sided (s1 s2 : Ser) (r : Ref) (h : sumRef2 s1 s2 false = some r) :
    Tendsto (fun n => ∑ k ∈ range (n + 1), s1.term (s1.start + k) + ∑ k ∈ range n, s2.term (s2.start + k))
      atTop (𝓝 r.sem) := by
  simp only [sumRef2, Option.bind_eq_bind, Option.pure_def] at h
  cases h1 : s1.sumRef with
  | none => simp [h1] at h
  | some r1 =>
    cases h2 : s2.sumRef with
    | none => simp [h1, h2] at h
    | some r2 =>
      simp only [h1, h2, Option.bind_some, Bool.false_eq_true, if_false, Option.some.injEq] at h
      subst h
      have t1 := (tendsto_add_atTop_iff_nat 1).2 (Ser.tendsto_partial s1 r1 h1)
      exact t1.add (Ser.tendsto_partial s2 r2 h2)

/-- two-dimensional sums of products `a_j·b_k`: the square partial sums (which `nsum`'s shell folding produces,
see `C27_shell_partial_sum`) tend to the product of the two sums (`sumRef2 s₁ s₂ true`) -/
theorem C27_product_2d (s1 s2 : Ser) (r : Ref) (h : sumRef2 s1 s2 true = some r) :
    Tendsto (fun n => ∑ j ∈ range n, ∑ k ∈ range n, s1.term (s1.start + j) * s2.term (s2.start + k))
      atTop (𝓝 r.sem) := by
  simp only [sumRef2, Option.bind_eq_bind, Option.pure_def] at h
  cases h1 : s1.sumRef with
  | none => simp [h1] at h
  | some r1 =>
    cases h2 : s2.sumRef with
    | none => simp [h1, h2] at h
    | some r2 =>
      simp only [h1, h2, Option.bind_some, if_true, Option.some.injEq] at h
      subst h
      exact tendsto_square_partial _ _ _ _ (Ser.tendsto_partial s1 r1 h1) (Ser.tendsto_partial s2 r2 h2)

/-- verdict `ok` in the mode used for C27 (`fl = 0`, non-strict): relative error within `2^(k−p)` -/
theorem C27_checker_ok (r : Ref) (y : Dy) (p k : ℕ) (h : checkClose r y p k 0 false = .ok) :
    |y.val - r.sem| ≤ (2 : ℝ) ^ ((k : ℤ) - (p : ℤ)) * |r.sem| := by
  have := (checkClose_sound_ok r y p k 0 false h).1 rfl
  simpa only [tol, Rat.cast_zero, max_eq_left (abs_nonneg r.sem)] using this

/-- verdict `violates` ⇒ the relative error exceeds `2^(k−p)` -/
theorem C27_checker_violates (r : Ref) (y : Dy) (p k : ℕ) (h : checkClose r y p k 0 false = .violates) :
    (2 : ℝ) ^ ((k : ℤ) - (p : ℤ)) * |r.sem| < |y.val - r.sem| := by
  have := (checkClose_sound_violates r y p k 0 false h).1 rfl
  simpa only [tol, Rat.cast_zero, max_eq_left (abs_nonneg r.sem)] using this

/-! ### index logic of `nsum` (exact model `MpModel/CalcLogicA.lean`) -/

/-- the standardised series of a half-infinite / doubly infinite range enumerates exactly the
original index set, each index once: the first `n+1` standardised terms are the terms with index in
`[a, a+n]`, `[b−n, b]`, `[−n, n]` respectively -/
theorem C27_standardize_spec (f : ℤ → ℚ) (n : ℕ) :
    (∀ a, ∑ k ∈ range (n + 1), stdTerm (.toInf a) f k = ∑ j ∈ Icc a (a + n), f j) ∧
    (∀ b, ∑ k ∈ range (n + 1), stdTerm (.fromNegInf b) f k = ∑ j ∈ Icc (b - n) b, f j) ∧
    (∑ k ∈ range (n + 1), stdTerm .all f k = ∑ j ∈ Icc (-(n : ℤ)) n, f j) :=
  stdTerm_partial_sum f n

/-- over a finite range the folded summand is the exact finite sum (0 when `b < a`) -/
theorem C27_finite_nsum_exact (a b : ℤ) (f : ℤ → ℚ) (k : ℕ) :
    stdTerm (.fin a b) f k = ∑ j ∈ Icc a b, f j :=
  stdTerm_fin a b f k

/-- 2-D infinite × infinite: the shells `max(x,y) = n` produced by `fold_infinite` partition ℕ×ℕ -/
theorem C27_shell_partial_sum (f : ℕ → ℕ → ℚ) (N : ℕ) :
    ∑ n ∈ range (N + 1), shell f n = ∑ x ∈ range (N + 1), ∑ y ∈ range (N + 1), f x y :=
  shell_partial_sum f N

/-- 2-D finite × finite: `fold_finite` over the cartesian product is the iterated sum -/
theorem C27_fold_finite_2d (f : ℤ → ℤ → ℚ) (a1 b1 a2 b2 : ℤ) :
    foldFinite2 f a1 b1 a2 b2 = ∑ x ∈ Icc a1 b1, ∑ y ∈ Icc a2 b2, f x y :=
  foldFinite2_eq f a1 b1 a2 b2

/-- `richardson_exact`: on `seq[i] = L + c₁/i + … + c_M/i^M` (the entries actually read, `N ≤ i ≤ 2N`,
`N = len/2 − 1`, `M ≤ N`, no-subsampling branch) the code's weighted sum returns `L` exactly -/
theorem C27_richardson_exact (seq : List ℚ) (N M : ℕ) (L : ℚ) (c : ℕ → ℚ)
    (hlen : 3 ≤ seq.length) (hN : N = seq.length / 2 - 1) (hM : M ≤ N)
    (hsign : richSignTest seq = false)
    (hs : ∀ i, N ≤ i → i ≤ 2 * N → seq.getD i 0 = L + ∑ j ∈ Icc 1 M, c j / (i : ℚ) ^ j) :
    ∃ maxc, richardson seq = .ok (L, maxc) :=
  richardson_exact seq N M L c hlen hN hM hsign hs

/-- the model of `richardson` never raises on a list of length ≥ 3 (no IndexError, no division by zero), in either branch of the sign test -/
theorem C27_richardson_total (seq : List ℚ) (hlen : 3 ≤ seq.length) : ∃ r, richardson seq = .ok r :=
  richardson_ok seq hlen

-- non-vacuity
example : (Ser.geom 3 (1 / 2) 2).sumRef ≠ none := by decide +kernel
example : checkClose (Ser.zeta2.sumRef.getD (.rat 0)) ⟨7408124450506707, -52⟩ 53 10 0 false = .ok :=
  Example.zeta2_verdicts.1
example : checkClose (Ser.zeta2.sumRef.getD (.rat 0)) ⟨13, -3⟩ 53 10 0 false = .violates :=
  Example.zeta2_verdicts.2
example : ∃ maxc, richardson [0, 2, 3 / 2, 4 / 3, 5 / 4] = .ok (1, maxc) :=
  C27_richardson_exact _ 1 1 1 (fun _ => 1) (by decide) (by decide) le_rfl (by decide +kernel)
    (by intro i h1 h2; have : i = 1 ∨ i = 2 := by omega
        rcases this with rfl | rfl <;> norm_num)

end Mp

/-
  Props/C14inf.lean — C14, "half-infinite or infinite endpoints": containment for interval addition, subtraction and negation
  when endpoints may be infinite.

  An extended interval has a lower endpoint that is `-inf` or finite canonical and an upper endpoint that is `+inf` or finite
  canonical.  `MemExt x I`: the rational `x` is not below a finite lower endpoint and not above a finite upper endpoint.
  For all such intervals (finite endpoints of any bit length), every precision: `x + y`, `x − y`, `−x` lie in the result, which
  is again an extended interval (`inf − inf` inside `mpf_add` gives nan, for which the code puts the infinite endpoint).
-/
import Props.C02special
import MpProofs.IntervalSound

namespace Mp

/-- lower endpoints: `-inf` or finite canonical; upper endpoints: `+inf` or finite canonical -/
def LowOK (a : Mpf) : Prop := a = fninf ∨ CanonFin a
def UpOK (b : Mpf) : Prop := b = finf ∨ CanonFin b
def ExtIv (I : Mpi) : Prop := LowOK I.1 ∧ UpOK I.2
def AboveLow (x : ℚ) (a : Mpf) : Prop := a = fninf ∨ (CanonFin a ∧ val a ≤ x)
def BelowUp (x : ℚ) (b : Mpf) : Prop := b = finf ∨ (CanonFin b ∧ x ≤ val b)
def MemExt (x : ℚ) (I : Mpi) : Prop := AboveLow x I.1 ∧ BelowUp x I.2

theorem fninf_not_canonFin : ¬ CanonFin fninf := by decide
theorem finf_not_canonFin : ¬ CanonFin finf := by decide

/-- lower endpoint of a sum: floor-rounded, `-inf` as soon as one summand's lower endpoint is `-inf` -/
theorem add_lower {a c : Mpf} {x y : ℚ} (ha : AboveLow x a) (hc : AboveLow y c) {prec : ℤ} (hp : 0 ≤ prec) :
    AboveLow (x + y) (if mpf_add a c prec .f = fnan then fninf else mpf_add a c prec .f) := by
  rcases ha with rfl | ⟨ca, la⟩
  · rcases hc with rfl | ⟨cc, _⟩
    · have := (C02_add_inf_inf prec .f).2.1
      rw [this]; exact Or.inl (by decide)
    · have := (C02_add_inf_finite cc prec .f).2.1
      rw [this]; exact Or.inl (by decide)
  · rcases hc with rfl | ⟨cc, lc⟩
    · have := (C02_add_inf_finite ca prec .f).2.2.2
      rw [this]; exact Or.inl (by decide)
    · have h := mpf_add_spec ca cc hp .f false
      simp only [Bool.false_eq_true, if_false] at h
      have hn := roundOK_ne_nan h
      rw [if_neg hn]
      exact Or.inr ⟨h.1, le_trans (roundOK_f_le hp h) (add_le_add la lc)⟩

theorem add_upper {b d : Mpf} {x y : ℚ} (hb : BelowUp x b) (hd : BelowUp y d) {prec : ℤ} (hp : 0 ≤ prec) :
    BelowUp (x + y) (if mpf_add b d prec .c = fnan then finf else mpf_add b d prec .c) := by
  rcases hb with rfl | ⟨cb, lb⟩
  · rcases hd with rfl | ⟨cd, _⟩
    · have := (C02_add_inf_inf prec .c).1
      rw [this]; exact Or.inl (by decide)
    · have := (C02_add_inf_finite cd prec .c).1
      rw [this]; exact Or.inl (by decide)
  · rcases hd with rfl | ⟨cd, ld⟩
    · have := (C02_add_inf_finite cb prec .c).2.2.1
      rw [this]; exact Or.inl (by decide)
    · have h := mpf_add_spec cb cd hp .c false
      simp only [Bool.false_eq_true, if_false] at h
      have hn := roundOK_ne_nan h
      rw [if_neg hn]
      exact Or.inr ⟨h.1, le_trans (add_le_add lb ld) (roundOK_c_ge hp h)⟩

theorem AboveLow.lowOK {x : ℚ} {a : Mpf} (h : AboveLow x a) : LowOK a := by
  rcases h with h | h
  · exact Or.inl h
  · exact Or.inr h.1

theorem BelowUp.upOK {x : ℚ} {b : Mpf} (h : BelowUp x b) : UpOK b := by
  rcases h with h | h
  · exact Or.inl h
  · exact Or.inr h.1

theorem C14_add_ext {s t : Mpi} {prec : ℤ} (hp : 0 ≤ prec) {x y : ℚ} (hx : MemExt x s) (hy : MemExt y t) :
    ExtIv (mpi_add s t prec) ∧ MemExt (x + y) (mpi_add s t prec) := by
  have l := add_lower hx.1 hy.1 hp
  have u := add_upper hx.2 hy.2 hp
  rw [mpi_add_eq]
  exact ⟨⟨l.lowOK, u.upOK⟩, l, u⟩

theorem sub_inf_finite {t : Mpf} (ht : CanonFin t) (prec : ℤ) (rnd : Rnd) :
    mpf_sub fninf t prec rnd = fninf ∧ mpf_sub t finf prec rnd = fninf ∧
    mpf_sub finf t prec rnd = finf ∧ mpf_sub t fninf prec rnd = finf :=
  ⟨(mpf_add_inf_left (.inr rfl) t prec rnd true).trans (if_pos (.inr ht.man_ne_or_exp_eq)),
   (mpf_add_inf_right ht (.inl rfl) prec rnd true).trans (by decide),
   (mpf_add_inf_left (.inl rfl) t prec rnd true).trans (if_pos (.inr ht.man_ne_or_exp_eq)),
   (mpf_add_inf_right ht (.inr rfl) prec rnd true).trans (by decide)⟩

theorem sub_inf_inf (prec : ℤ) (rnd : Rnd) :
    mpf_sub fninf finf prec rnd = fninf ∧ mpf_sub finf fninf prec rnd = finf :=
  ⟨(mpf_add_inf_left (.inr rfl) finf prec rnd true).trans (if_pos (by decide)),
   (mpf_add_inf_left (.inl rfl) fninf prec rnd true).trans (if_pos (by decide))⟩

theorem sub_lower {a d : Mpf} {x y : ℚ} (ha : AboveLow x a) (hd : BelowUp y d) {prec : ℤ} (hp : 0 ≤ prec) :
    AboveLow (x - y) (if mpf_sub a d prec .f = fnan then fninf else mpf_sub a d prec .f) := by
  rcases ha with rfl | ⟨ca, la⟩
  · rcases hd with rfl | ⟨cd, _⟩
    · rw [(sub_inf_inf prec .f).1]; exact Or.inl (by decide)
    · rw [(sub_inf_finite cd prec .f).1]; exact Or.inl (by decide)
  · rcases hd with rfl | ⟨cd, ld⟩
    · rw [(sub_inf_finite ca prec .f).2.1]; exact Or.inl (by decide)
    · have h := mpf_sub_spec ca cd hp .f
      have hn := roundOK_ne_nan h
      rw [if_neg hn]
      exact Or.inr ⟨h.1, le_trans (roundOK_f_le hp h) (sub_le_sub la ld)⟩

theorem sub_upper {b c : Mpf} {x y : ℚ} (hb : BelowUp x b) (hc : AboveLow y c) {prec : ℤ} (hp : 0 ≤ prec) :
    BelowUp (x - y) (if mpf_sub b c prec .c = fnan then finf else mpf_sub b c prec .c) := by
  rcases hb with rfl | ⟨cb, lb⟩
  · rcases hc with rfl | ⟨cc, _⟩
    · rw [(sub_inf_inf prec .c).2]; exact Or.inl (by decide)
    · rw [(sub_inf_finite cc prec .c).2.2.1]; exact Or.inl (by decide)
  · rcases hc with rfl | ⟨cc, lc⟩
    · rw [(sub_inf_finite cb prec .c).2.2.2]; exact Or.inl (by decide)
    · have h := mpf_sub_spec cb cc hp .c
      have hn := roundOK_ne_nan h
      rw [if_neg hn]
      exact Or.inr ⟨h.1, le_trans (sub_le_sub lb lc) (roundOK_c_ge hp h)⟩

theorem C14_sub_ext {s t : Mpi} {prec : ℤ} (hp : 0 ≤ prec) {x y : ℚ} (hx : MemExt x s) (hy : MemExt y t) :
    ExtIv (mpi_sub s t prec) ∧ MemExt (x - y) (mpi_sub s t prec) := by
  have l := sub_lower hx.1 hy.2 hp
  have u := sub_upper hx.2 hy.1 hp
  rw [mpi_sub_eq]
  exact ⟨⟨l.lowOK, u.upOK⟩, l, u⟩

theorem C14_neg_ext {s : Mpi} {prec : ℤ} (hp : 0 ≤ prec) {x : ℚ} (hx : MemExt x s) :
    ExtIv (mpi_neg s prec) ∧ MemExt (-x) (mpi_neg s prec) := by
  have n1 : ∀ r : Rnd, mpf_neg finf prec r = fninf := fun _ => rfl
  have n2 : ∀ r : Rnd, mpf_neg fninf prec r = finf := fun _ => rfl
  have l : AboveLow (-x) (mpf_neg s.2 prec .f) := by
    rcases hx.2 with h | ⟨c, le⟩
    · rw [h, n1]; exact Or.inl rfl
    · have hh := mpf_neg_spec c hp .f
      exact Or.inr ⟨hh.1, le_trans (roundOK_f_le hp hh) (neg_le_neg le)⟩
  have u : BelowUp (-x) (mpf_neg s.1 prec .c) := by
    rcases hx.1 with h | ⟨c, le⟩
    · rw [h, n2]; exact Or.inl rfl
    · have hh := mpf_neg_spec c hp .c
      exact Or.inr ⟨hh.1, le_trans (neg_le_neg le) (roundOK_c_ge hp hh)⟩
  exact ⟨⟨l.lowOK, u.upOK⟩, l, u⟩

/-! non-vacuity: [-inf, 1] + [2, inf] = [-inf, inf];  3 ∈ [-inf, 5] -/
example : mpi_add (fninf, fone) (ftwo, finf) 53 = (fninf, finf) := by decide
example : MemExt 3 (fninf, ⟨0, 5, 0, 3⟩) := by
  refine ⟨Or.inl rfl, Or.inr ⟨Or.inr ⟨by decide, by decide, by decide⟩, ?_⟩⟩
  simp [val]; norm_num

end Mp

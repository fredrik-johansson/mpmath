/-
  Props/C38PC.lean — "Contexts are isolated from each other", the caches a context object OWNS.

  World model: MpModel/WorldPC.lean (MpModel/World.lean plus one private-cache component per context
  object: `_misc_const_cache`, `_rs_cache`, `stieltjes_cache`, `hyp_summators`, quadrature node
  caches, `memoize` closures; `clone()` constructs a new object whose private caches are EMPTY).
  That the running objects have this shape is observed on every run by harness/props/C38.py: which
  table functions write private state is measured, the private state of a clone taken from a parent
  that has run all of them is compared with that of a new context, and every such function is run
  through parent-evaluates / clone / parent-changes-precision / clone-evaluates programs whose
  values are compared with a pristine single-context process.

    frame_private              a statement executed on context `i` leaves the settings AND the
                               private caches of every other context object unchanged
    frame_private_program      the same for whole programs
    clone_private_empty        the clone owns empty private caches (and the cell of `clone_fresh`)
    clone_forgets_parent_history
                               what a clone computes does not depend on what its parent (or any
                               other context) has computed or cached privately before the clone
                               was taken, nor on any other context's settings
    eval_reads_own_ctx         a value computed in context `i` is a function of that context object
                               (settings, private caches) and of the shared caches only
    forget_private             forgetting the private caches, the settings evolve exactly as in
                               MpModel/World.lean (so every theorem of Props/C38.lean about settings
                               holds of this model too)
-/
import MpProofs.WorldPC
import MpProofs.World

namespace Mp
open Mp.World Mp.WorldPC

variable {C P F X V : Type}

/-- **Frame, with private caches.**  A statement executed on context `op.target` leaves every
OTHER existing context object `j` unchanged: its settings and the caches it owns. -/
theorem frame_private (S : SemP C P F X V) (w : WorldP C P) (op : Op F X) (j : Nat) (c : Ctx P)
    (hj : j ≠ op.target) (hc : w.ctxs[j]? = some c) : (WorldPC.step S w op).1.ctxs[j]? = some c := by
  have hlt : j < w.ctxs.length := (List.getElem?_eq_some_iff.1 hc).elim fun h _ => h
  cases op <;> simp only [Op.target] at hj <;> simp only [WorldPC.step, setCell]
  all_goals
    split
    · exact hc
    · first
      | (simp only [List.getElem?_set_ne (Ne.symm hj)]; exact hc)
      | (split <;> first
          | exact hc
          | (simp only [List.getElem?_set_ne (Ne.symm hj)]; exact hc)
          | (simp only [List.getElem?_append_left hlt]; exact hc))
      | exact hc

/-- Frame for whole programs: if no statement of `ops` is executed on `j`, the context object `j`
(settings and private caches) is unchanged. -/
theorem frame_private_program (S : SemP C P F X V) (ops : List (Op F X)) (w : WorldP C P) (j : Nat)
    (c : Ctx P) (hj : ∀ op ∈ ops, j ≠ op.target) (hc : w.ctxs[j]? = some c) :
    (WorldPC.runOps S w ops).ctxs[j]? = some c := by
  induction ops generalizing w with
  | nil => exact hc
  | cons op ops ih =>
    exact ih (WorldPC.step S w op).1 (fun o ho => hj o (List.mem_cons_of_mem _ ho))
      (frame_private S w op j c (hj op List.mem_cons_self) hc)

/-- **clone_private_empty.**  Cloning an mp context returns a new id whose object has the parent's
precision (cell `cloneOf`) and EMPTY private caches; no existing context object is written. -/
theorem clone_private_empty (S : SemP C P F X V) (w : WorldP C P) (i : Nat) (c : Ctx P)
    (hc : w.ctxs[i]? = some c) (hk : c.cell.kind = .mp) :
    (WorldPC.step S w (.clone i : Op F X)).2 = (.created w.ctxs.length : Outcome V) ∧
    (WorldPC.step S w (.clone i : Op F X)).1.ctxs[w.ctxs.length]? = some ⟨c.cell.cloneOf, S.empty⟩ ∧
    (∀ (j : Nat) (d : Ctx P), w.ctxs[j]? = some d → (WorldPC.step S w (.clone i : Op F X)).1.ctxs[j]? = some d) := by
  refine ⟨by simp only [WorldPC.step, hc, hk], by simp [WorldPC.step, hc, hk], ?_⟩
  intro j d hd
  have hlt : j < w.ctxs.length := by
    rcases Nat.lt_or_ge j w.ctxs.length with h | h
    · exact h
    · rw [List.getElem?_eq_none h] at hd; cases hd
  simp only [WorldPC.step, hc, hk, List.getElem?_append_left hlt]
  exact hd

/-- The value computed in context `i` depends on that context object (settings and private caches)
and the shared caches only. -/
theorem eval_reads_own_ctx (S : SemP C P F X V) (w w' : WorldP C P) (i : Nat) (f : F) (x : X)
    (hlen : w.ctxs.length = w'.ctxs.length) (hctx : w.ctxs[i]? = w'.ctxs[i]?)
    (hcache : w.caches = w'.caches) :
    (WorldPC.step S w (.eval i f x)).2 = (WorldPC.step S w' (.eval i f x)).2 :=
  (step_agree S i w w' ⟨hlen, hctx, hcache⟩ (.eval i f x) rfl).1

/-- **clone_forgets_parent_history.**  Take two processes with the same number of context objects
and the same shared caches in which the mp context `i` has the same SETTINGS — but possibly different
private caches (it has computed different things before), and whose other contexts differ
arbitrarily.  Clone `i` in both and run any program on the clone (settings changes, computations,
clones of the clone): every outcome — in particular every computed value — is the same.
(With `clone_private_empty`: the clone behaves like a newly constructed context at that precision.) -/
theorem clone_forgets_parent_history (S : SemP C P F X V) (w w' : WorldP C P) (i : Nat)
    (c c' : Ctx P) (hc : w.ctxs[i]? = some c) (hc' : w'.ctxs[i]? = some c')
    (hcell : c.cell = c'.cell) (hk : c.cell.kind = .mp)
    (hlen : w.ctxs.length = w'.ctxs.length) (hcache : w.caches = w'.caches)
    (ops : List (Op F X)) (hops : ∀ op ∈ ops, op.target = w.ctxs.length) :
    outcomes S (WorldPC.step S w (.clone i : Op F X)).1 ops =
      outcomes S (WorldPC.step S w' (.clone i : Op F X)).1 ops := by
  apply outcomes_agree S w.ctxs.length ops _ _ _ hops
  have hk' : c'.cell.kind = .mp := hcell ▸ hk
  obtain ⟨_, h1, _⟩ := clone_private_empty S w i c hc hk
  obtain ⟨_, h2, _⟩ := clone_private_empty S w' i c' hc' hk'
  refine ⟨?_, ?_, ?_⟩
  · simp [WorldPC.step, hc, hc', hk, hk', hlen]
  · rw [h1, hlen, h2, hcell]
  · simp only [WorldPC.step, hc, hc', hk, hk']; exact hcache

set_option hygiene false in
/-- one constructor of `forget_private` -/
local macro "forget_case" i:ident : tactic => `(tactic| (
    simp only [WorldPC.step, World.step, setCell, WorldP.cells, List.getElem?_map]
    rcases Option.eq_none_or_eq_some (w.ctxs[$i]?) with hci | ⟨c, hci⟩
    · simp only [hci, Option.map_none]
    · simp only [hci, Option.map_some]
      first
        | (simp [List.map_set]; done)
        | (cases hk : c.cell.kind <;> simp [List.map_set]; done)
        | (simp only [List.map_set]
           exact list_set_self _ _ _ (by simp [hci]))))

/-- Forgetting the private caches commutes with every statement: the cells evolve exactly as in
MpModel/World.lean (so the settings theorems of Props/C38.lean hold of this model too). -/
theorem forget_private (S : SemP C P F X V) (T : Sem C F X V) (w : WorldP C P) (op : Op F X) :
    (WorldPC.step S w op).1.cells = (World.step T ⟨w.cells, w.caches⟩ op).1.cells := by
  cases op
  case setPrec i n => forget_case i
  case setDps i n => forget_case i
  case setRounding i r => forget_case i
  case setTrap i b => forget_case i
  case setPretty i b => forget_case i
  case default i => forget_case i
  case clone i => forget_case i
  case eval i f x => forget_case i

/-! ### non-vacuity -/

/-- a semantics whose private cache remembers the highest precision the context has evaluated at
and whose VALUE exposes it (a deliberately history-dependent function, like a precision-tagged memo) -/
def memoSem : SemP Unit Int Unit Unit (Int × Int) where
  empty := 0
  run _ _ p _ prec _ _ := ((), max p prec, (prec, max p prec))

/-- the parent has evaluated at 200 bits (private cache = 200); its clone starts from the empty
cache: at 100 bits it reports (100, 100), not (100, 200) -/
example :
    let w1 := WorldPC.runOps memoSem (WorldPC.init memoSem ()) [.setPrec 0 200, .eval 0 () (), .setPrec 0 100]
    outcomes memoSem w1 [.clone 0, .eval 3 () (), .eval 0 () ()] =
      [.created 3, .value (100, 100), .value (100, 200)] := by decide

/-- `frame_private_program` is not vacuous: a program on a clone and on fp, observed from mp -/
example : (WorldPC.runOps memoSem (WorldPC.init memoSem ())
    [.clone 0, .setPrec 3 200, .eval 3 () (), .eval 2 () (), .clone 3, .eval 4 () ()]).ctxs[0]? =
    some ⟨freshMp, 0⟩ := by decide

end Mp

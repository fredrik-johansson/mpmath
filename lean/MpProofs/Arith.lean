/-
  MpProofs/Arith.lean — `from_man_exp`, `from_int`, unary plus / negation / absolute value and multiplication meet `RoundOK`.
-/
import MpProofs.Normalize

namespace Mp

theorem CanonFin.cases {s : Mpf} (h : CanonFin s) :
    s = fzero ∨ (s.man ≠ 0 ∧ s.sign ≤ 1 ∧ s.man % 2 = 1 ∧ s.bc = (bitcount s.man : Int)) := by
  rcases h with h | ⟨h1, h2, h3⟩
  · exact Or.inl h
  · exact Or.inr ⟨by omega, h1, h2, h3⟩

theorem val_def (s : Mpf) : val s = (-1 : ℚ) ^ s.sign * ((s.man : ℚ) * 2 ^ s.exp) := by
  simp [val, mul_assoc]

theorem CanonFin.finite {s : Mpf} (h : CanonFin s) : isSpecial s = false := by
  rcases h.cases with rfl | ⟨h0, _⟩
  · rfl
  · simp [isSpecial, h0]

/-- the signed integer mantissa of a finite value -/
def manZ (s : Mpf) : ℤ := if s.sign = 0 then (s.man : ℤ) else -(s.man : ℤ)

theorem val_eq_manZ {s : Mpf} (hs : s.sign ≤ 1) : val s = (manZ s : ℚ) * 2 ^ s.exp := by
  rw [val_def, manZ]
  have : s.sign = 0 ∨ s.sign = 1 := by omega
  rcases this with h | h <;> simp [h]

theorem ishl_cast (m : ℤ) (k : ℕ) : ((ishl m k : ℤ) : ℚ) = (m : ℚ) * 2 ^ k := by
  simp [ishl]

theorem roundOK_zero {rnd : Rnd} {x : ℚ} {r : Mpf} (hc : CanonFin r) (hv : val r = x) : RoundOK 0 rnd x r :=
  ⟨hc, fun _ => hv, fun h => by omega⟩

theorem roundOK_fzero {prec : ℤ} (hp : 0 ≤ prec) (rnd : Rnd) : RoundOK prec rnd 0 fzero :=
  ⟨canonFin_fzero, fun _ => val_fzero, fun _ => by
    rw [val_fzero]; exact ⟨isRound_zero _ _, by simp [fzero]; omega⟩⟩

theorem roundOK_self {prec : ℤ} (hp : 0 < prec) (rnd : Rnd) {r : Mpf} (hc : CanonFin r) (hb : r.bc ≤ prec) :
    RoundOK prec rnd (val r) r := by
  refine ⟨hc, fun h => by omega, fun _ => ⟨isRound_self rnd ?_, hb⟩⟩
  rcases hc.cases with rfl | ⟨_, _, _, hbc⟩
  · rw [val_fzero]; exact repb_zero _
  · rw [val_def]; exact repb_of_bitcount_le (by omega) _ _

@[simp] theorem normalize_zero_man (s : ℕ) (e b p : ℤ) (r : Rnd) : normalize s 0 e b p r = fzero := by
  simp [normalize]

@[simp] theorem normalize1_zero_man (s : ℕ) (e b p : ℤ) (r : Rnd) : normalize1 s 0 e b p r = fzero := by
  simp [normalize1]

/-- `normalize` with the effective precision `prec or bc` used by `mpf_add` & co. -/
theorem normalize_nat {sign : ℕ} (hs : sign ≤ 1) (m : ℕ) (e : ℤ) {prec : ℤ} (hp : 0 ≤ prec) (rnd : Rnd) :
    RoundOK prec rnd ((-1 : ℚ) ^ sign * ((m : ℚ) * 2 ^ e))
      (normalize sign m e (bitcount m) (if prec ≠ 0 then prec else (bitcount m : ℤ)) rnd) := by
  by_cases h0 : prec = 0
  · subst h0
    simp only [ne_eq, not_true_eq_false, if_false]
    by_cases hz : m = 0
    · subst hz
      simp only [normalize, if_true]
      exact roundOK_zero canonFin_fzero (by simp [val_fzero])
    · have hb := bitcount_pos hz
      have h1 := normalize_spec hs m e (prec := (bitcount m : ℤ)) (by omega) rnd
      exact roundOK_zero h1.1 (normalize_val_of_fits _ _ (le_refl _) _)
  · simp only [ne_eq, h0, not_false_eq_true, if_true]
    exact normalize_spec hs m e (by omega) rnd

theorem normalize_int (Z e : ℤ) {prec : ℤ} (hp : 0 ≤ prec) (rnd : Rnd) :
    RoundOK prec rnd ((Z : ℚ) * 2 ^ e)
      (normalize (if Z ≥ 0 then 0 else 1) Z.natAbs e (bitcount Z.natAbs)
        (if prec ≠ 0 then prec else (bitcount Z.natAbs : ℤ)) rnd) := by
  have h := normalize_nat (sign := if Z ≥ 0 then 0 else 1) (by split <;> omega) Z.natAbs e hp rnd
  rwa [← mul_assoc, neg_one_pow_mul_natAbs] at h

theorem normalize1_nat {sign : ℕ} (hs : sign ≤ 1) {m : ℕ} (hodd : m % 2 = 1 ∨ m = 0) (e : ℤ) {prec : ℤ}
    (hp : 0 ≤ prec) (rnd : Rnd) :
    RoundOK prec rnd ((-1 : ℚ) ^ sign * ((m : ℚ) * 2 ^ e))
      (normalize1 sign m e (bitcount m) (if prec ≠ 0 then prec else (bitcount m : ℤ)) rnd) := by
  rcases hodd with hodd | h0
  · rw [normalize1_eq_normalize _ hodd]; exact normalize_nat hs m e hp rnd
  · subst h0
    have : normalize1 sign 0 e (bitcount 0) (if prec ≠ 0 then prec else (bitcount 0 : ℤ)) rnd
        = normalize sign 0 e (bitcount 0) (if prec ≠ 0 then prec else (bitcount 0 : ℤ)) rnd := by
      simp [normalize1, normalize]
    rw [this]; exact normalize_nat hs 0 e hp rnd

/-- `from_man_exp` is `_normalize` at the effective precision `prec or bc`: its exact-mode
shortcuts (odd mantissa, mantissa `2·odd`, general stripping) all strip the trailing zeros. -/
theorem from_man_exp_eq_normalize (Z e prec : ℤ) (rnd : Rnd) :
    from_man_exp Z e prec rnd = normalize (if Z ≥ 0 then 0 else 1) Z.natAbs e (bitcount Z.natAbs)
      (if prec ≠ 0 then prec else (bitcount Z.natAbs : ℤ)) rnd := by
  have hsg : (if Z < 0 then 1 else 0 : ℕ) = (if Z ≥ 0 then 0 else 1 : ℕ) := by
    split <;> split <;> omega
  unfold from_man_exp
  dsimp only
  rw [hsg]
  by_cases h0 : prec = 0
  swap
  · rw [if_neg h0, if_pos h0]
  rw [if_pos h0, if_neg (not_not.2 h0)]
  by_cases hz : Z.natAbs = 0
  · rw [if_pos hz, hz, normalize_zero_man]
  have hn : ∀ s, normalize s Z.natAbs e (bitcount Z.natAbs) (bitcount Z.natAbs) rnd
      = stripTrailing s Z.natAbs e (bitcount Z.natAbs) := fun s => by
    unfold normalize; dsimp only; rw [if_neg hz, sub_self, if_neg (lt_irrefl 0)]
  rw [if_neg hz, hn, stripTrailing_exact hz]
  by_cases heven : Z.natAbs % 2 = 0
  · rw [if_pos heven]
    by_cases h2 : (Z.natAbs / 2) % 2 = 1
    · rw [if_pos h2, trailing_eq_one heven h2]; rfl
    · rw [if_neg h2]
  · rw [if_neg heven, trailing_of_odd (by omega)]; simp

theorem from_man_exp_spec (Z e : ℤ) {prec : ℤ} (hp : 0 ≤ prec) (rnd : Rnd) :
    RoundOK prec rnd ((Z : ℚ) * 2 ^ e) (from_man_exp Z e prec rnd) := by
  rw [from_man_exp_eq_normalize]; exact normalize_int Z e hp rnd

theorem from_int_spec (n : ℤ) {prec : ℤ} (hp : 0 ≤ prec) (rnd : Rnd) :
    RoundOK prec rnd (n : ℚ) (from_int n prec rnd) := by
  have := from_man_exp_spec n 0 hp rnd
  simpa [from_int] using this

theorem mpf_pos_spec {s : Mpf} (hs : CanonFin s) {prec : ℤ} (hp : 0 ≤ prec) (rnd : Rnd) :
    RoundOK prec rnd (val s) (mpf_pos s prec rnd) := by
  unfold mpf_pos
  by_cases h0 : prec = 0
  · subst h0; simp only [ne_eq, not_true_eq_false, if_false]; exact roundOK_zero hs rfl
  · simp only [ne_eq, h0, not_false_eq_true, if_true, hs.finite]
    rcases hs.cases with rfl | ⟨hm, hsg, hodd, hbc⟩
    · have : normalize1 fzero.sign fzero.man fzero.exp fzero.bc prec rnd = fzero := by simp [fzero]
      simp only [Bool.false_eq_true, if_false, this, val_fzero]
      exact roundOK_fzero hp rnd
    · simp only [Bool.false_eq_true, if_false]
      rw [hbc, val_def]
      exact normalize1_spec hsg (Or.inl hodd) s.exp (by omega) rnd

theorem val_neg_canon {s : Mpf} (hsg : s.sign ≤ 1) :
    (-1 : ℚ) ^ (1 - s.sign) * ((s.man : ℚ) * 2 ^ s.exp) = -val s := by
  rw [val_def]
  have : s.sign = 0 ∨ s.sign = 1 := by omega
  rcases this with h | h <;> simp [h]

theorem mpf_neg_spec {s : Mpf} (hs : CanonFin s) {prec : ℤ} (hp : 0 ≤ prec) (rnd : Rnd) :
    RoundOK prec rnd (-val s) (mpf_neg s prec rnd) := by
  rcases hs.cases with rfl | ⟨hm, hsg, hodd, hbc⟩
  · have : mpf_neg fzero prec rnd = fzero := by simp [mpf_neg, fzero]
    rw [this, val_fzero, neg_zero]; exact roundOK_fzero hp rnd
  · unfold mpf_neg
    simp only [hm, if_false]
    by_cases h0 : prec = 0
    · subst h0
      simp only [if_true]
      refine roundOK_zero (Or.inr ⟨by show 1 - s.sign ≤ 1; omega, hodd, hbc⟩) ?_
      rw [val_mk, val_neg_canon hsg]
    · simp only [h0, if_false]
      rw [hbc, ← val_neg_canon hsg]
      exact normalize1_spec (by omega) (Or.inl hodd) s.exp (by omega) rnd

theorem mpf_abs_spec {s : Mpf} (hs : CanonFin s) {prec : ℤ} (hp : 0 ≤ prec) (rnd : Rnd) :
    RoundOK prec rnd |val s| (mpf_abs s prec rnd) := by
  rcases hs.cases with rfl | ⟨hm, hsg, hodd, hbc⟩
  · have : mpf_abs fzero prec rnd = fzero := by
      by_cases h0 : prec = 0 <;> simp [mpf_abs, fzero, isSpecial, h0]
    rw [this, val_fzero, abs_zero]; exact roundOK_fzero hp rnd
  · unfold mpf_abs
    simp only [hs.finite, Bool.false_eq_true, if_false]
    have habs : |val s| = (-1 : ℚ) ^ 0 * ((s.man : ℚ) * 2 ^ s.exp) := by
      rw [val_def, abs_mul, abs_pow, abs_neg, abs_one, one_pow, one_mul, pow_zero, one_mul]
      exact abs_of_nonneg (by positivity)
    by_cases h0 : prec = 0
    · subst h0
      simp only [if_true]
      split
      · refine roundOK_zero (Or.inr ⟨by show 0 ≤ 1; omega, hodd, hbc⟩) ?_
        rw [val_mk, habs]
      · rename_i hsz
        have hsz : s.sign = 0 := by omega
        refine roundOK_zero hs ?_
        rw [habs, val_def, hsz]
    · simp only [h0, if_false]
      rw [hbc, habs]
      exact normalize1_spec (by omega) (Or.inl hodd) s.exp (by omega) rnd

/-- the fast bit-count update of `python_mpf_mul` is exact -/
theorem mul_bc_fast {a b : ℕ} (ha : a ≠ 0) (hb : b ≠ 0) :
    (bitcount a : ℤ) + bitcount b - 1 + (((a * b) >>> ((bitcount a : ℤ) + bitcount b - 1).toNat : ℕ) : ℤ)
      = bitcount (a * b) := by
  obtain ⟨h1, h2⟩ := bitcount_mul_bounds ha hb
  have pa := bitcount_pos ha; have pb := bitcount_pos hb
  have hk : ((bitcount a : ℤ) + bitcount b - 1).toNat = bitcount a + bitcount b - 1 := by omega
  rw [hk, Nat.shiftRight_eq_div_pow]
  have hab : a * b ≠ 0 := Nat.mul_ne_zero ha hb
  rcases Nat.lt_or_ge (a * b) (2 ^ (bitcount a + bitcount b - 1)) with hlt | hge
  · have : a * b / 2 ^ (bitcount a + bitcount b - 1) = 0 := Nat.div_eq_of_lt hlt
    have := bitcount_le_of_lt hlt
    omega
  · have hlt := bitcount_lt (a * b)
    have : a * b / 2 ^ (bitcount a + bitcount b - 1) = 1 := by
      apply Nat.div_eq_of_lt_le
      · simpa using hge
      · have : 2 ^ bitcount (a * b) ≤ 2 ^ (bitcount a + bitcount b) := Nat.pow_le_pow_right (by norm_num) h2
        have e : 2 ^ (bitcount a + bitcount b) = (1 + 1) * 2 ^ (bitcount a + bitcount b - 1) := by
          have : bitcount a + bitcount b = (bitcount a + bitcount b - 1) + 1 := by omega
          conv_lhs => rw [this, pow_succ]
          ring
        omega
    have := lt_bitcount_of_le hge
    omega

theorem xor_le_one {a b : ℕ} (ha : a ≤ 1) (hb : b ≤ 1) : a ^^^ b ≤ 1 := by
  have : a = 0 ∨ a = 1 := by omega
  have : b = 0 ∨ b = 1 := by omega
  rcases ‹a = 0 ∨ a = 1› with rfl | rfl <;> rcases ‹b = 0 ∨ b = 1› with rfl | rfl <;> decide

theorem neg_one_pow_xor {a b : ℕ} (ha : a ≤ 1) (hb : b ≤ 1) :
    (-1 : ℚ) ^ (a ^^^ b) = (-1) ^ a * (-1) ^ b := by
  have : a = 0 ∨ a = 1 := by omega
  have : b = 0 ∨ b = 1 := by omega
  rcases ‹a = 0 ∨ a = 1› with rfl | rfl <;> rcases ‹b = 0 ∨ b = 1› with rfl | rfl <;> norm_num

theorem val_mul_canon (s t : Mpf) (hs : s.sign ≤ 1) (ht : t.sign ≤ 1) :
    (-1 : ℚ) ^ (s.sign ^^^ t.sign) * (((s.man * t.man : ℕ) : ℚ) * 2 ^ (s.exp + t.exp)) = val s * val t := by
  rw [val_def, val_def, neg_one_pow_xor hs ht, zpow_add₀ (by norm_num)]
  push_cast; ring

theorem mulSpecial_finite {s t : Mpf} (hs : isSpecial s = false) (ht : isSpecial t = false) :
    mulSpecial s t = fzero := by
  simp [mulSpecial, hs, ht]

theorem mpf_mul_spec {s t : Mpf} (hs : CanonFin s) (ht : CanonFin t) {prec : ℤ} (hp : 0 ≤ prec) (rnd : Rnd) :
    RoundOK prec rnd (val s * val t) (mpf_mul s t prec rnd) := by
  unfold mpf_mul
  rcases hs.cases with rfl | ⟨hsm, hss, hso, hsb⟩
  · have : fzero.man * t.man = 0 := by simp [fzero]
    have h2 : mulSpecial fzero t = fzero := mulSpecial_finite (by rfl) ht.finite
    simp only [this, ne_eq, not_true_eq_false, if_false, h2, val_fzero, zero_mul]
    exact roundOK_fzero hp rnd
  rcases ht.cases with rfl | ⟨htm, hts, hto, htb⟩
  · have : s.man * fzero.man = 0 := by simp [fzero]
    have h2 : mulSpecial s fzero = fzero := mulSpecial_finite hs.finite (by rfl)
    simp only [this, ne_eq, not_true_eq_false, if_false, h2, val_fzero, mul_zero]
    exact roundOK_fzero hp rnd
  have hman : s.man * t.man ≠ 0 := Nat.mul_ne_zero hsm htm
  have hodd : (s.man * t.man) % 2 = 1 := by rw [Nat.mul_mod, hso, hto]
  have hbc := mul_bc_fast hsm htm
  have hsign := xor_le_one hss hts
  simp only [ne_eq, hman, not_false_eq_true, if_true, hsb, htb, hbc]
  rw [← val_mul_canon s t hss hts]
  by_cases h0 : prec = 0
  · subst h0
    simp only [not_true_eq_false, if_false]
    exact roundOK_zero (Or.inr ⟨hsign, hodd, rfl⟩) (by rw [val_mk])
  · simp only [h0, not_false_eq_true, if_true]
    exact normalize1_spec hsign (Or.inl hodd) _ (by omega) rnd

theorem mpf_mul_eq_mulSpecial {s t : Mpf} (h : s.man = 0 ∨ t.man = 0) (prec : ℤ) (rnd : Rnd) :
    mpf_mul s t prec rnd = mulSpecial s t := by
  unfold mpf_mul
  exact if_neg (not_not.2 (Nat.mul_eq_zero.2 h))

/-- exact mode (`prec = 0`) of `mpf_mul` -/
theorem mul_exact {p q : Mpf} (hp : CanonFin p) (hq : CanonFin q) :
    CanonFin (mpf_mul p q) ∧ val (mpf_mul p q) = val p * val q ∧ mpf_mul p q ≠ fnan := by
  have h := mpf_mul_spec hp hq (le_refl 0) .d
  exact ⟨h.canon, h.exact, roundOK_ne_nan h⟩

/-- both multiplication variants are the same function on canonical finite operands -/
theorem gmpy_mpf_mul_eq {s t : Mpf} (hs : CanonFin s) (ht : CanonFin t) (prec : ℤ) (rnd : Rnd) :
    gmpy_mpf_mul s t prec rnd = mpf_mul s t prec rnd := by
  unfold gmpy_mpf_mul mpf_mul
  rcases hs.cases with rfl | ⟨hsm, hss, hso, hsb⟩
  · simp [fzero]
  rcases ht.cases with rfl | ⟨htm, hts, hto, htb⟩
  · simp [fzero]
  have hbc := mul_bc_fast hsm htm
  simp only [hsb, htb, hbc]

theorem val_ne_zero_of_ne_fzero {s : Mpf} (hs : CanonFin s) (h0 : s ≠ fzero) : val s ≠ 0 := by
  rcases hs.cases with rfl | ⟨hm, _⟩
  · exact absurd rfl h0
  · rw [val_def]
    have : (0 : ℚ) < s.man := by exact_mod_cast Nat.pos_of_ne_zero hm
    have h2 : (0 : ℚ) < (s.man : ℚ) * 2 ^ s.exp := by positivity
    have h1 : ((-1 : ℚ)) ^ s.sign ≠ 0 := pow_ne_zero _ (by norm_num)
    exact mul_ne_zero h1 h2.ne'

theorem ne_fzero_of_val_ne_zero {s : Mpf} (h : val s ≠ 0) : s ≠ fzero := by
  intro h0; rw [h0, val_fzero] at h; exact h rfl

end Mp

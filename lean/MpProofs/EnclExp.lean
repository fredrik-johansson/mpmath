/-
  MpProofs/EnclExp.lean — soundness of `expI` (Taylor sum + `Real.exp_bound` + repeated squaring).
-/
import MpProofs.EnclArith
import Mathlib.Analysis.Complex.Exponential

namespace Mp.Encl
open Finset

theorem expTerms_sound (wp : ℕ) (X : DI) (x : ℝ) (hx : X.Mem x) (n : ℕ) :
    (expTerms wp X n).1.Mem (x ^ n / n.factorial) ∧
    (expTerms wp X n).2.Mem (∑ m ∈ range n, x ^ m / m.factorial) := by
  induction n with
  | zero => simpa [expTerms] using And.intro DI.mem_one DI.mem_zero
  | succ n ih =>
    rw [Finset.sum_range_succ]
    exact ⟨DI.mem_taylorStep wp ih.1 hx, DI.mem_round (DI.mem_add ih.2 ih.1) wp⟩

theorem expSmall_sound (wp n : ℕ) (X : DI) (x : ℝ) (hx : X.Mem x) (h1 : |x| ≤ 1) (hn : 0 < n) :
    (expSmall wp n X).Mem (Real.exp x) := by
  obtain ⟨ht, hs⟩ := expTerms_sound wp X x hx n
  exact DI.mem_round (DI.mem_widen hs ((Real.exp_bound h1 hn).trans (DI.exp_remainder_le hn ht))) wp

theorem sqrN_sound (wp : ℕ) (k : ℕ) : ∀ (E : DI) (y : ℝ), E.Mem (Real.exp y) →
    (sqrN wp k E).Mem (Real.exp (y * (2 : ℝ) ^ k)) := by
  induction k with
  | zero => intro E y h; simpa [sqrN] using h
  | succ k ih =>
    intro E y h
    have h2 : ((E.mul E).round wp).Mem (Real.exp (y + y)) := by
      rw [Real.exp_add]; exact DI.mem_round (DI.mem_mul h h) wp
    have := ih _ _ h2
    have e : (y + y) * (2 : ℝ) ^ k = y * (2 : ℝ) ^ (k + 1) := by ring
    rw [e] at this
    exact this

theorem natAbs_lt_two_pow_blen (m : ℤ) : m.natAbs < 2 ^ blen m := by
  unfold blen
  split
  · rename_i h; subst h; simp
  · exact Nat.lt_log2_self

theorem abs_val_lt (x : Dy) : |x.val| < (2 : ℝ) ^ ((blen x.m : ℤ) + x.e) := by
  unfold Dy.val
  rw [abs_mul, abs_of_pos (zpow_pos (two_pos (α := ℝ)) x.e), zpow_add₀ (by norm_num : (2 : ℝ) ≠ 0)]
  apply mul_lt_mul_of_pos_right _ (zpow_pos (two_pos (α := ℝ)) x.e)
  have h := natAbs_lt_two_pow_blen x.m
  have h2 : ((x.m.natAbs : ℕ) : ℝ) < ((2 ^ blen x.m : ℕ) : ℝ) := by exact_mod_cast h
  rw [Nat.cast_natAbs] at h2
  push_cast at h2
  rw [zpow_natCast]
  exact h2

theorem expPoint_sound (wp : ℕ) (x : Dy) : (expPoint wp x).Mem (Real.exp x.val) := by
  unfold expPoint
  simp only
  generalize hk : ((blen x.m : ℤ) + x.e + ((Nat.sqrt wp + 1 : ℕ) : ℤ)).toNat = k
  -- `x = x'·2^k` with `|x'| < 2^(blen m + e - k) ≤ 1`
  have hk' := Int.self_le_toNat ((blen x.m : ℤ) + x.e + ((Nat.sqrt wp + 1 : ℕ) : ℤ))
  rw [hk, Nat.cast_succ] at hk'
  have hsmall : |(Dy.mk x.m (x.e - k)).val| ≤ 1 :=
    (abs_val_lt _).le.trans (zpow_le_one_of_nonpos₀ one_le_two (by simp only; omega))
  have hval : x.val = (Dy.mk x.m (x.e - k)).val * (2 : ℝ) ^ k := by
    rw [← zpow_natCast]; exact (Dy.val_mk_sub x.m x.e k).symm
  rw [hval]
  exact DI.mem_round (sqrN_sound _ _ _ _
    (expSmall_sound _ _ _ _ (DI.mem_point _) hsmall (by unfold nTerms; omega))) wp

theorem expI_mem (wp : ℕ) {I : DI} {x : ℝ} (hx : I.Mem x) : (expI wp I).Mem (Real.exp x) :=
  ⟨(expPoint_sound wp I.lo).1.trans (Real.exp_le_exp.2 hx.1), (Real.exp_le_exp.2 hx.2).trans (expPoint_sound wp I.hi).2⟩

end Mp.Encl

/-
  MpProofs/CalcOdeX.lean — the closed form of `MpModel/CalcOdeX.lean` (`y' = −2(x − c)y²`, `y(x0) = y0 > 0`, `c ≤ x0`) is THE
  solution on `[x0, T]`: it takes the initial value, satisfies the differential equation (differentiation) and is the only
  such function (`eqOn_of_deriv_eq_mul_sq`, which also serves `riccati` in `MpProofs/CalcOde.lean`).
-/
import MpModel.CalcOdeX
import MpProofs.CalcRef
import Mathlib.Analysis.ODE.ExistUnique
import Mathlib.Analysis.Calculus.Deriv.Inv
import Mathlib.Analysis.Calculus.Deriv.Pow

namespace Mp.Calc
open Set

/-- Uniqueness on `[a, T]` for a scalar equation `y' = k(t)·y²` with `k` bounded on `[a, T)`: two solutions that agree
at `a` agree on `[a, T]`, whatever their sign or size.  Both are continuous on the compact interval, so they stay in
a ball of some radius `R`, on which `y ↦ k(t)·y²` is Lipschitz with constant `2·|M|·R` (Grönwall). -/
theorem eqOn_of_deriv_eq_mul_sq {k : ℝ → ℝ} {M a T : ℝ} (hk : ∀ t ∈ Ico a T, |k t| ≤ M) {f g : ℝ → ℝ}
    (hf : ContinuousOn f (Icc a T)) (hf' : ∀ t ∈ Ico a T, HasDerivWithinAt f (k t * f t ^ 2) (Ici t) t)
    (hg : ContinuousOn g (Icc a T)) (hg' : ∀ t ∈ Ico a T, HasDerivWithinAt g (k t * g t ^ 2) (Ici t) t)
    (h0 : f a = g a) : EqOn f g (Icc a T) := by
  obtain ⟨C₁, hC₁⟩ := isCompact_Icc.exists_bound_of_continuousOn hf
  obtain ⟨C₂, hC₂⟩ := isCompact_Icc.exists_bound_of_continuousOn hg
  set R : ℝ := max (max C₁ C₂) 0
  have hR0 : 0 ≤ R := le_max_right _ _
  refine ODE_solution_unique_of_mem_Icc_right (v := fun t y => k t * y ^ 2)
    (s := fun _ => Metric.closedBall (0 : ℝ) R) (K := ⟨2 * |M| * R, by positivity⟩)
    (fun t ht => ?_) hf hf' (fun t ht => ?_) hg hg' (fun t ht => ?_) h0
  · refine LipschitzOnWith.of_dist_le_mul fun y hy z hz => ?_
    rw [mem_closedBall_zero_iff, Real.norm_eq_abs] at hy hz
    rw [Real.dist_eq, Real.dist_eq, show k t * y ^ 2 - k t * z ^ 2 = k t * (y + z) * (y - z) by ring,
      abs_mul, abs_mul]
    refine mul_le_mul_of_nonneg_right ?_ (abs_nonneg _)
    calc |k t| * |y + z| ≤ |M| * (2 * R) :=
          mul_le_mul ((hk t ht).trans (le_abs_self M)) ((abs_add_le y z).trans (by linarith))
            (abs_nonneg _) (abs_nonneg _)
      _ = 2 * |M| * R := by ring
  · exact mem_closedBall_zero_iff.2
      ((hC₁ t (Ico_subset_Icc_self ht)).trans ((le_max_left _ _).trans (le_max_left _ _)))
  · exact mem_closedBall_zero_iff.2
      ((hC₂ t (Ico_subset_Icc_self ht)).trans ((le_max_right _ _).trans (le_max_left _ _)))

/-- the solution as a real function -/
noncomputable def RicX.sol (o : RicX) (x : ℝ) : ℝ :=
  1 / (1 / (o.y0 : ℝ) + (x - (o.c : ℝ)) ^ 2 - ((o.x0 : ℝ) - (o.c : ℝ)) ^ 2)

noncomputable def RicX.den (o : RicX) (x : ℝ) : ℝ :=
  1 / (o.y0 : ℝ) + (x - (o.c : ℝ)) ^ 2 - ((o.x0 : ℝ) - (o.c : ℝ)) ^ 2

theorem RicX.ok_iff (o : RicX) : o.ok = true ↔ 0 < o.y0 ∧ o.c ≤ o.x0 := by
  simp [RicX.ok]

theorem RicX.den_pos (o : RicX) (hok : o.ok = true) (x : ℝ) (hx : (o.x0 : ℝ) ≤ x) : 0 < o.den x := by
  obtain ⟨hy, hc⟩ := (o.ok_iff).1 hok
  have hy' : (0 : ℝ) < o.y0 := by exact_mod_cast hy
  have hc' : (o.c : ℝ) ≤ o.x0 := by exact_mod_cast hc
  have h1 : 0 < 1 / (o.y0 : ℝ) := by positivity
  have h2 : ((o.x0 : ℝ) - o.c) ^ 2 ≤ (x - o.c) ^ 2 := by
    apply pow_le_pow_left₀ (by linarith) (by linarith)
  unfold RicX.den
  linarith

theorem RicX.solRef_sem (o : RicX) (x : ℚ) (r : Ref) (h : o.solRef x = some r) : r.sem = o.sol (x : ℝ) := by
  unfold RicX.solRef at h
  split at h
  · simp only [Option.some.injEq] at h
    subst h
    simp only [Ref.sem, RicX.solQ, RicX.sol]
    push_cast
    rfl
  · simp at h

theorem RicX.sol_init (o : RicX) (hok : o.ok = true) : o.sol (o.x0 : ℝ) = (o.y0 : ℝ) := by
  obtain ⟨hy, _⟩ := (o.ok_iff).1 hok
  have hy' : (o.y0 : ℝ) ≠ 0 := by
    have : (0 : ℝ) < o.y0 := by exact_mod_cast hy
    exact ne_of_gt this
  unfold RicX.sol
  field_simp
  ring

theorem RicX.sol_hasDerivAt (o : RicX) (hok : o.ok = true) (x : ℝ) (hx : (o.x0 : ℝ) ≤ x) :
    HasDerivAt o.sol (-2 * (x - (o.c : ℝ)) * (o.sol x) ^ 2) x := by
  have hd : 0 < o.den x := o.den_pos hok x hx
  have hin : HasDerivAt o.den (2 * (x - (o.c : ℝ))) x := by
    have h1 := ((hasDerivAt_id' x).sub_const (o.c : ℝ)).pow 2
    have h2 := (h1.const_add (1 / (o.y0 : ℝ))).sub_const (((o.x0 : ℝ) - (o.c : ℝ)) ^ 2)
    have hf : o.den = fun t : ℝ => 1 / (o.y0 : ℝ) + (t - (o.c : ℝ)) ^ 2 - ((o.x0 : ℝ) - (o.c : ℝ)) ^ 2 := rfl
    rw [hf]
    refine h2.congr_deriv ?_
    simp
  have h := hin.inv (ne_of_gt hd)
  have hfun : o.sol = fun t : ℝ => (o.den t)⁻¹ := by
    funext t; simp [RicX.sol, RicX.den]
  rw [hfun]
  refine h.congr_deriv ?_
  have hne : o.den x ≠ 0 := ne_of_gt hd
  field_simp

theorem RicX.sol_continuousOn (o : RicX) (hok : o.ok = true) (T : ℝ) :
    ContinuousOn o.sol (Icc (o.x0 : ℝ) T) := fun t ht =>
  (o.sol_hasDerivAt hok t ht.1).continuousAt.continuousWithinAt

/-- **uniqueness.**  Any function continuous on `[x0, T]` with right derivative `−2(t − c)·f(t)²` on `[x0, T)` and
`f(x0) = y0` equals the closed form on `[x0, T]`. -/
theorem RicX.sol_unique (o : RicX) (hok : o.ok = true) (T : ℝ) (f : ℝ → ℝ)
    (hc : ContinuousOn f (Icc (o.x0 : ℝ) T))
    (hd : ∀ t ∈ Ico (o.x0 : ℝ) T, HasDerivWithinAt f (-2 * (t - (o.c : ℝ)) * (f t) ^ 2) (Ici t) t)
    (h0 : f (o.x0 : ℝ) = (o.y0 : ℝ)) :
    ∀ t ∈ Icc (o.x0 : ℝ) T, f t = o.sol t := by
  obtain ⟨_, hc0⟩ := (o.ok_iff).1 hok
  have hc0' : (o.c : ℝ) ≤ o.x0 := by exact_mod_cast hc0
  -- on `[x0, T)` the coefficient `−2(t − c)` is bounded by `2(T − c)`, because `c ≤ x0`
  refine eqOn_of_deriv_eq_mul_sq (k := fun t => -2 * (t - (o.c : ℝ))) (M := 2 * (T - o.c))
    (fun t ht => ?_) hc hd (o.sol_continuousOn hok T)
    (fun t ht => (o.sol_hasDerivAt hok t ht.1).hasDerivWithinAt) (h0.trans (o.sol_init hok).symm)
  rw [abs_le]
  constructor <;> linarith [ht.1, ht.2]

end Mp.Calc

/-
  MpProofs/Faithful.lean — faithful rounding ("within one unit in the last place"):
  rounding to nearest a value `Y` that is within a relative distance `2^(-p-3)` of `Z`
  gives one of the two `p`-bit neighbours of `Z`.
-/
import MpProofs.Format
import Mathlib.Data.Int.Log
import Mathlib.Data.Rat.Floor

namespace Mp

/-- `y` is a faithful `p`-bit rounding of `x`: the greatest representable number below `x` or the least
one above it (so `y = x` when `x` is representable, and `|y - x|` is less than one unit in the last place). -/
def Faithful (p : ℕ) (x y : ℚ) : Prop := IsRoundF p x y ∨ IsRoundC p x y

theorem Faithful.neg {p : ℕ} {x y : ℚ} (h : Faithful p x y) : Faithful p (-x) (-y) := by
  rcases h with h | h
  · exact Or.inr (isRoundC_neg.2 h)
  · exact Or.inl (isRoundF_neg.2 h)

theorem Faithful.repb {p : ℕ} {x y : ℚ} (h : Faithful p x y) : Repb p y := by
  rcases h with h | h <;> exact h.1

theorem Faithful.eq_of_repb {p : ℕ} {x y : ℚ} (h : Faithful p x y) (hx : Repb p x) : y = x := by
  rcases h with h | h
  · exact isRoundF_unique h (isRoundF_self hx)
  · exact isRoundC_unique h (isRoundC_self hx)

theorem exists_cell {p : ℕ} (hp : 0 < p) {Z : ℚ} (hZ : 0 < Z) :
    ∃ (q : ℕ) (E : ℤ), 2 ^ (p - 1) ≤ q ∧ q < 2 ^ p ∧ (q : ℚ) * 2 ^ E ≤ Z ∧ Z < ((q : ℚ) + 1) * 2 ^ E := by
  have h1 : (2 : ℚ) ^ (Int.log 2 Z) ≤ Z := by
    simpa using Int.zpow_log_le_self (b := 2) (by norm_num) hZ
  have h2 : Z < (2 : ℚ) ^ (Int.log 2 Z + 1) := by
    simpa using Int.lt_zpow_succ_log_self (b := 2) (by norm_num) Z
  generalize Int.log 2 Z = L at h1 h2
  obtain ⟨k, rfl⟩ : ∃ k, p = k + 1 := ⟨p - 1, by omega⟩
  simp only [Nat.add_sub_cancel]
  have hE : (0 : ℚ) < 2 ^ (L - k) := by positivity
  have e1 : (2 : ℚ) ^ L = 2 ^ k * 2 ^ (L - k) := by
    rw [← zpow_natCast, ← zpow_add₀ (by norm_num)]; congr 1; omega
  have e2 : (2 : ℚ) ^ (L + 1) = 2 ^ (k + 1) * 2 ^ (L - k) := by
    rw [← zpow_natCast, ← zpow_add₀ (by norm_num)]; congr 1; push_cast; omega
  have hy0 : 0 ≤ Z / 2 ^ (L - k) := by positivity
  have hy1 : (2 : ℚ) ^ k ≤ Z / 2 ^ (L - k) := by rw [le_div_iff₀ hE]; linarith
  have hy2 : Z / 2 ^ (L - k) < 2 ^ (k + 1) := by rw [div_lt_iff₀ hE]; linarith
  refine ⟨⌊Z / 2 ^ (L - k)⌋₊, L - k, ?_, ?_, ?_, ?_⟩
  · apply Nat.le_floor; push_cast; exact hy1
  · rw [Nat.floor_lt hy0]; push_cast; exact hy2
  · have := Nat.floor_le hy0
    rwa [le_div_iff₀ hE] at this
  · have := Nat.lt_floor_add_one (Z / 2 ^ (L - k))
    rwa [div_lt_iff₀ hE] at this

theorem nearer_of_between {Y Z c r δ : ℚ} (hd : |Y - Z| ≤ δ) (h1 : r + 2 * δ < c) (h2 : c ≤ Z) :
    |Y - c| < |Y - r| := by
  have := abs_le.1 hd
  rw [abs_of_pos (by linarith : 0 < Y - r), abs_lt]
  constructor <;> linarith

theorem nearer_of_between' {Y Z c r δ : ℚ} (hd : |Y - Z| ≤ δ) (h1 : c + 2 * δ < r) (h2 : Z ≤ c) :
    |Y - c| < |Y - r| := by
  have := abs_le.1 hd
  rw [abs_sub_comm Y r, abs_of_pos (by linarith : 0 < r - Y), abs_lt]
  constructor <;> linarith

section near
variable {p : ℕ} (hp : 0 < p)
include hp

/-- Positive case of `faithful_of_near`.  Let `[q·u, (q+1)·u)` be the cell of `Z`.  The rounding `r`
of `Y` is representable, hence not inside the cell; were it strictly beyond an end, it would be at
least half a cell further out (the cells next to the ends are empty too), while `Y` is within an
eighth of a cell of `Z`: the end itself would be strictly nearer to `Y` than `r`. -/
theorem faithful_of_near_pos {Y Z r : ℚ} (hZ : 0 < Z) (hN : IsRoundN p Y r)
    (hnear : |Y - Z| ≤ Z * 2 ^ (-(p : ℤ) - 3)) : Faithful p Z r := by
  obtain ⟨q, E, hq1, hq2, hZ1, hZ2⟩ := exists_cell hp hZ
  have hu : (0 : ℚ) < 2 ^ E := by positivity
  have hd : |Y - Z| ≤ 2 ^ E / 8 := by
    have e : (2 : ℚ) ^ p * 2 ^ E * 2 ^ (-(p : ℤ) - 3) = 2 ^ E / 8 := by
      rw [← zpow_natCast, ← zpow_add₀ (by norm_num), ← zpow_add₀ (by norm_num)]
      have : ((p : ℤ) + E + (-(p : ℤ) - 3)) = E - 3 := by ring
      rw [this, zpow_sub₀ (by norm_num)]; norm_num
    have hq2' : (q : ℚ) + 1 ≤ 2 ^ p := by exact_mod_cast hq2
    have : Z ≤ 2 ^ p * 2 ^ E := hZ2.le.trans (mul_le_mul_of_nonneg_right hq2' hu.le)
    exact hnear.trans (e ▸ mul_le_mul_of_nonneg_right this (by positivity))
  have hpw := Nat.two_pow_pos (p - 1)
  obtain ⟨t, ht⟩ : ∃ t, 2 * q = t + 1 := ⟨2 * q - 1, by omega⟩
  have ht' : (t : ℚ) = 2 * q - 1 := by
    have : ((2 * q : ℕ) : ℚ) = ((t + 1 : ℕ) : ℚ) := by rw [ht]
    push_cast at this; linarith
  have hu2 : (2 : ℚ) ^ (E - 1) = 2 ^ E / 2 := by rw [zpow_sub_one₀ two_ne_zero, div_eq_mul_inv]
  -- `r` against the cell of `Z`, the half-width cell below it and the cell above it
  have o1 := repb_outside_cell hp hq1 (E := E) hN.1
  have o2 := repb_outside_cell hp (q := t) (by omega) (E := E - 1) hN.1
  have o3 := repb_outside_cell hp (q := q + 1) (by omega) (E := E) hN.1
  have n1 := hN.le (repb_nat hq2 E)
  have n2 := hN.le (repb_nat_succ hp hq2 E)
  have hFZ := isRoundF_of_cell hp hq1 hq2 hZ1 hZ2
  have hCZ := fun h => isRoundC_of_cell hp hq1 hq2 (X := Z) h hZ2.le
  rw [ht', hu2] at o2
  push_cast at o3
  generalize (2 : ℚ) ^ E = u at *
  rcases o1 with hr | hr
  · rcases hr.eq_or_lt with heq | hlt
    · exact heq ▸ Or.inl hFZ
    · refine absurd (nearer_of_between (c := q * u) hd ?_ hZ1) (not_lt.2 n1)
      rcases o2 with h | h <;> linarith
  · rcases hZ1.eq_or_lt with hZq | hZq
    · exact absurd (nearer_of_between' (c := q * u) hd (by linarith) hZq.symm.le) (not_lt.2 n1)
    · rcases hr.eq_or_lt with heq | hlt
      · exact heq ▸ Or.inr (hCZ hZq)
      · refine absurd (nearer_of_between' (c := (q + 1) * u) hd ?_ hZ2.le) (not_lt.2 n2)
        rcases o3 with h | h <;> linarith

/-- **rounding to nearest a good approximation is faithful**: if `r` is `Y` rounded to nearest at `p` bits
and `Y` is within the relative distance `2^(-p-3)` of `Z`, then `r` is one of the two `p`-bit neighbours
of `Z` (or `Z` itself). -/
theorem faithful_of_near {Y Z r : ℚ} (hN : IsRoundN p Y r)
    (hnear : |Y - Z| ≤ |Z| * 2 ^ (-(p : ℤ) - 3)) : Faithful p Z r := by
  rcases lt_trichotomy Z 0 with hneg | h0 | hpos
  · have h1 : IsRoundN p (-Y) (-r) := isRoundN_neg.2 hN
    have h2 : |(-Y) - (-Z)| ≤ (-Z) * 2 ^ (-(p : ℤ) - 3) := by
      rw [abs_of_neg hneg] at hnear
      have : -Y - -Z = -(Y - Z) := by ring
      rw [this, abs_neg]; exact hnear
    have := (faithful_of_near_pos hp (by linarith) h1 h2).neg
    simpa using this
  · subst h0
    simp only [abs_zero, zero_mul, sub_zero] at hnear
    have hY : Y = 0 := abs_eq_zero.1 (le_antisymm hnear (abs_nonneg _))
    subst hY
    have := isRoundN_unique hN (isRoundN_self (repb_zero p))
    rw [this]; exact Or.inl (isRoundF_self (repb_zero p))
  · rw [abs_of_pos hpos] at hnear
    exact faithful_of_near_pos hp hpos hN hnear

theorem Faithful.relerr {Z r : ℚ} (h : Faithful p Z r) : |r - Z| ≤ |Z| * 2 ^ (1 - (p : ℤ)) := by
  wlog hpos : 0 < Z generalizing Z r
  · rcases eq_or_lt_of_le (not_lt.1 hpos) with h0 | hneg
    · subst h0
      have := h.eq_of_repb (repb_zero p)
      subst this; simp
    · have := this h.neg (by linarith)
      have e : -r - -Z = -(r - Z) := by ring
      rwa [e, abs_neg, abs_neg] at this
  obtain ⟨q, E, hq1, hq2, hZ1, hZ2⟩ := exists_cell hp hpos
  have hu : (0 : ℚ) < 2 ^ E := by positivity
  have hF := isRoundF_of_cell (K := ℚ) hp hq1 hq2 hZ1 hZ2
  -- the cell width is at most 2^(1-p)·Z
  have hw : (2 : ℚ) ^ E ≤ Z * 2 ^ (1 - (p : ℤ)) := by
    have hq1' : ((2 ^ (p - 1) : ℕ) : ℚ) ≤ q := by exact_mod_cast hq1
    have e : ((2 ^ (p - 1) : ℕ) : ℚ) * 2 ^ (1 - (p : ℤ)) = 1 := by
      push_cast
      rw [← zpow_natCast, ← zpow_add₀ (by norm_num)]
      have : (((p - 1 : ℕ) : ℤ) + (1 - (p : ℤ))) = 0 := by omega
      rw [this, zpow_zero]
    have hpos2 : (0 : ℚ) < 2 ^ (1 - (p : ℤ)) := by positivity
    have : (2 : ℚ) ^ E = (((2 ^ (p - 1) : ℕ) : ℚ) * 2 ^ E) * 2 ^ (1 - (p : ℤ)) := by
      rw [mul_right_comm, e, one_mul]
    rw [this]
    apply mul_le_mul_of_nonneg_right _ hpos2.le
    calc ((2 ^ (p - 1) : ℕ) : ℚ) * 2 ^ E ≤ (q : ℚ) * 2 ^ E := mul_le_mul_of_nonneg_right hq1' hu.le
      _ ≤ Z := hZ1
  rw [abs_of_pos hpos]
  rcases h with h | h
  · rw [isRoundF_unique h hF, abs_of_nonpos (by linarith)]
    linarith
  · rcases eq_or_lt_of_le hZ1 with heq | hlt
    · have hrep : Repb p Z := by rw [← heq]; exact repb_nat hq2 E
      rw [isRoundC_unique h (isRoundC_self hrep)]; simp; positivity
    · have hC := isRoundC_of_cell (K := ℚ) hp hq1 hq2 hlt hZ2.le
      rw [isRoundC_unique h hC, abs_of_nonneg (by linarith)]
      linarith

theorem isRoundF_pos {x y : ℚ} (hx : 0 < x) (h : IsRoundF p x y) : 0 < y := by
  obtain ⟨q, E, hq1, hq2, h1, h2⟩ := exists_cell hp hx
  rw [isRoundF_unique h (isRoundF_of_cell hp hq1 hq2 h1 h2)]
  have : 0 < q := lt_of_lt_of_le (Nat.two_pow_pos _) hq1
  have : (0 : ℚ) < q := by exact_mod_cast this
  positivity

theorem isRoundN_pos {x y : ℚ} (hx : 0 < x) (h : IsRoundN p x y) : 0 < y := by
  obtain ⟨q, E, hq1, hq2, h1, h2⟩ := exists_cell hp hx
  have hf : (0 : ℚ) < (q : ℚ) * 2 ^ E :=
    mul_pos (Nat.cast_pos.2 (lt_of_lt_of_le (Nat.two_pow_pos _) hq1)) (two_zpow_pos E)
  by_contra hy
  have key := h.le (repb_nat hq2 E)
  rw [abs_of_nonneg (by linarith), abs_of_nonneg (by linarith)] at key
  linarith

/-- a correctly rounded value has the sign of the rounded number (the exponent range is unbounded) -/
theorem isRound_pos {rnd : Rnd} {x y : ℚ} (hx : 0 < x) (h : IsRound p rnd x y) : 0 < y := by
  rcases isRound_eq p rnd x with e | e | e <;> rw [e] at h
  exacts [isRoundN_pos hp hx h, isRoundF_pos hp hx h, lt_of_lt_of_le hx h.2.1]

theorem isRound_neg' {rnd : Rnd} {x y : ℚ} (hx : x < 0) (h : IsRound p rnd x y) : y < 0 := by
  have hx' : 0 < -x := neg_pos.2 hx
  rcases isRound_eq p rnd x with e | e | e <;> rw [e] at h
  · exact neg_pos.1 (isRoundN_pos hp hx' (isRoundN_neg.2 h))
  · exact lt_of_le_of_lt h.2.1 hx
  · exact neg_pos.1 (isRoundF_pos hp hx' (isRoundF_neg.2 h))

end near

theorem IsRound.faithful {p : ℕ} (hp : 0 < p) {rnd : Rnd} {x y : ℚ} (h : IsRound p rnd x y) : Faithful p x y := by
  rcases isRound_eq p rnd x with e | e | e <;> rw [e] at h
  · exact faithful_of_near hp h (by simp only [sub_self, abs_zero]; positivity)
  · exact Or.inl h
  · exact Or.inr h

/-- a correctly rounded result has relative error at most `2^(1-prec)` (one unit in the last place) -/
theorem RoundOK.relerr {prec : ℤ} (hp : 0 < prec) {rnd : Rnd} {x : ℚ} {r : Mpf} (h : RoundOK prec rnd x r) :
    |val r - x| ≤ |x| * 2 ^ (1 - prec) := by
  have hp' : 0 < prec.toNat := by omega
  have := ((h.isRound hp).faithful hp').relerr hp'
  rwa [Int.toNat_of_nonneg hp.le] at this

theorem RoundOK.pos {prec : ℤ} (hp : 0 < prec) {rnd : Rnd} {x : ℚ} {r : Mpf} (h : RoundOK prec rnd x r)
    (hx : 0 < x) : 0 < val r :=
  isRound_pos (by omega) hx (h.isRound hp)

end Mp

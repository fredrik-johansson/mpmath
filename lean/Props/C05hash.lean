/-
  Props/C05hash.lean — property C05, hash half:
  "whenever two numbers among mpf, mpc, int, float and complex compare equal, their hash values
   are equal."

  Vocabulary
  * `mpf_hash`, `mpc_hash`, `mpq_hash`    models of the functions in /repo (MpModel/Core.lean, Hash.lean);
                                          the value RETURNED by `__hash__`.
  * `mpf_hash_raw`                        `mpf_hash` up to, not including, its last line `if h == -1: h = -2`.
  * `mpc_hash_old`                        NOT the code in /repo: the variant of `mpc_hash` that combines the raw
                                          component hashes, reduces unsigned modulo 2^64 and has no -1 ↦ -2 line;
                                          the theorems about it say on exactly which inputs these steps matter.
  * `finalHash h`                         what the builtin `hash()` makes of a returned Python int `h`
                                          (re-hash outside the Py_ssize_t range, then -1 ↦ -2).
  * `pyHashInt`, `pyHashDyadic`, `pyHashFloatOfDyadic`, `pyHashFraction`, `pyHashComplex`
                                          CPython's documented hashes of int / the rational
                                          (-1)^sign·man·2^exp / float / Fraction / complex.
  * `val x`                               the rational value of a raw mpf (MpProofs/Spec.lean).

  Result in one paragraph.  `mpf_hash_raw` is right for every finite mpf and every exponent
  (`mpf_hash_raw_spec`, `mpf_hash_raw_eq_int`, `mpf_hash_raw_eq_float`, `mpf_hash_raw_eq_of_val_eq`).
  `mpc_hash` satisfies the law unconditionally (`mpc_hash_spec`, `mpc_hash_eq_complex`, `mpc_hash_real`).
  The variant `mpc_hash_old` does not (`mpc_hash_old_counterexample*`): with it `hash(mpc)` equals `hash(complex)`
  exactly when neither component hash is -1 and the combined value reduced modulo 2^64 is below 2^63
  (`mpc_hash_old_spec_iff`, `mpc_hash_old_spec_partial`).
-/
import MpProofs.Hash

namespace Mp

/-! ## mpf -/

/-- For every finite raw mpf — any sign field, any mantissa (odd or not), ANY exponent — Python's
`hash(mpf)` is the documented hash of the rational number `(-1)^sign · man · 2^exp`.
Three equivalent readings: through the builtin `hash()`, through the bare -1 ↦ -2 rule, and for
`mpf_hash` directly. -/
theorem mpf_hash_raw_spec (x : Mpf) (hx : Finite x) :
    finalHash (mpf_hash_raw x) = pyHashDyadic x.sign x.man x.exp ∧
    fixM1 (mpf_hash_raw x) = pyHashDyadic x.sign x.man x.exp ∧
    mpf_hash x = pyHashDyadic x.sign x.man x.exp := by
  have h := mpf_hash_raw_closed x (notSpecialTuple_of_finite hx)
  have hc := pyHashDyadic_closed x.sign x.man x.exp
  refine ⟨?_, ?_, ?_⟩
  · rw [finalHash_mpf_hash_raw, h, hc]
  · rw [h, hc]
  · rw [mpf_hash_eq, h, hc]

example : Finite ⟨1, 3, -70, 2⟩ := by decide
example : Finite ⟨0, 12, 100000000000000000000, 4⟩ := by decide

/-- The value returned for the specials: `sys.hash_info.inf`, its negative, `sys.hash_info.nan`. -/
theorem mpf_hash_raw_specials :
    mpf_hash_raw finf = pyHashInf ∧ mpf_hash_raw fninf = -pyHashInf ∧ mpf_hash_raw fnan = 0 := by decide

/-- Two finite mpfs (sign fields 0/1; no other well-formedness assumed: mantissas may be even,
bit counts arbitrary) with the same rational value return the same hash. -/
theorem mpf_hash_raw_eq_of_val_eq (x y : Mpf) (hx : Finite x) (hy : Finite y)
    (sx : x.sign ≤ 1) (sy : y.sign ≤ 1) (h : val x = val y) : mpf_hash_raw x = mpf_hash_raw y := by
  rw [mpf_hash_raw_closed x (notSpecialTuple_of_finite hx), mpf_hash_raw_closed y (notSpecialTuple_of_finite hy)]
  exact hashTriple_congr sx sy h

example : Finite ⟨0, 1, 1, 1⟩ ∧ Finite ⟨0, 2, 0, 2⟩ ∧ val ⟨0, 1, 1, 1⟩ = val ⟨0, 2, 0, 2⟩ := by
  refine ⟨by decide, by decide, ?_⟩
  norm_num [val]

/-- An mpf whose value is the integer `n` hashes like the Python int `n`. -/
theorem mpf_hash_raw_eq_int (x : Mpf) (hx : Finite x) (sx : x.sign ≤ 1) (n : Int)
    (h : val x = (n : ℚ)) : finalHash (mpf_hash_raw x) = pyHashInt n := by
  rw [finalHash_mpf_hash_raw, mpf_hash_raw_closed x (notSpecialTuple_of_finite hx), pyHashInt_eq_hashTriple]
  congr 1
  apply hashTriple_congr sx (by split <;> omega)
  rw [val_of_int]
  exact h

example : Finite ⟨1, 5, 3, 3⟩ ∧ val ⟨1, 5, 3, 3⟩ = ((-40 : Int) : ℚ) := by
  refine ⟨by decide, ?_⟩
  norm_num [val]

/-- An mpf whose value is that of the finite Python float `(-1)^s · m · 2^e` hashes like that float. -/
theorem mpf_hash_raw_eq_float (x : Mpf) (hx : Finite x) (sx : x.sign ≤ 1) (s m : Nat) (e : Int) (hs : s ≤ 1)
    (h : val x = (-1 : ℚ) ^ s * (m : ℚ) * (2 : ℚ) ^ e) :
    finalHash (mpf_hash_raw x) = pyHashFloatOfDyadic s m e := by
  rw [finalHash_mpf_hash_raw, mpf_hash_raw_closed x (notSpecialTuple_of_finite hx)]
  unfold pyHashFloatOfDyadic
  rw [pyHashDyadic_closed]
  congr 1
  exact hashTriple_congr sx hs h

example : Finite ⟨1, 3, -1, 2⟩ ∧ val ⟨1, 3, -1, 2⟩ = (-1 : ℚ) ^ 1 * ((6 : Nat) : ℚ) * (2 : ℚ) ^ (-2 : Int) := by
  refine ⟨by decide, ?_⟩
  norm_num [val]

/-- The specification itself is well defined on values: the documented hash of a dyadic rational does
not depend on the representation (in particular not on whether the fraction is in lowest terms). -/
theorem pyHashDyadic_congr (s1 m1 s2 m2 : Nat) (e1 e2 : Int) (h1 : s1 ≤ 1) (h2 : s2 ≤ 1)
    (h : (-1 : ℚ) ^ s1 * (m1 : ℚ) * (2 : ℚ) ^ e1 = (-1 : ℚ) ^ s2 * (m2 : ℚ) * (2 : ℚ) ^ e2) :
    pyHashDyadic s1 m1 e1 = pyHashDyadic s2 m2 e2 := by
  rw [pyHashDyadic_closed, pyHashDyadic_closed, hashTriple_congr h1 h2 h]

/-- The documented hash of the int `n` is the documented hash of the fraction `n/1`. -/
theorem pyHashFraction_one (n : Int) : pyHashFraction n 1 = pyHashInt n := by
  unfold pyHashFraction pyHashInt pyHashNat
  have h1 : ¬ (1 % pyP = 0) := by decide
  simp only [h1, if_false, powMod_one, Nat.mul_one, Nat.mod_mod]

/-! ## mpc — the variant `mpc_hash_old` (unsigned reduction, no -1 ↦ -2) -/

/-- The law is FALSE of `mpc_hash_old`:
    `∀ re im, Finite re → Finite im →
       finalHash (mpc_hash_old re im) =
         pyHashComplex (pyHashDyadic re.sign re.man re.exp) (pyHashDyadic im.sign im.man im.exp)`.
Witness z = -1 + 0i : `hash(mpc(-1,0))` is 7, `hash(complex(-1,0))` is -2. -/
theorem mpc_hash_old_counterexample :
    Finite fnone ∧ Finite fzero ∧
    mpc_hash_old fnone fzero = 18446744073709551615 ∧
    finalHash (mpc_hash_old fnone fzero) = 7 ∧
    pyHashComplex (pyHashDyadic fnone.sign fnone.man fnone.exp)
      (pyHashDyadic fzero.sign fzero.man fzero.exp) = -2 := by decide +kernel

/-- The same defect inside mpmath's own types: `mpf(-1) == mpc(-1,0)` but the hashes are -2 and 7. -/
theorem mpc_hash_old_counterexample_mpf :
    finalHash (mpf_hash_raw fnone) = -2 ∧ finalHash (mpc_hash_old fnone fzero) = 7 := by decide +kernel

/-- Not only negative components: z = 2^44·i has both component hashes ≥ 0 and still
`hash(mpc(0, 2**44)) = 1451337756478275591 ≠ -854505252735418368 = hash(complex(0, 2**44))`
(the combined value 1000003·2^44 has bit 63 set). -/
theorem mpc_hash_old_counterexample_positive :
    finalHash (mpc_hash_old fzero ⟨0, 1, 44, 1⟩) = 1451337756478275591 ∧
    pyHashComplex (pyHashDyadic 0 0 0) (pyHashDyadic 0 1 44) = -854505252735418368 := by decide +kernel

/-- EXACT characterisation, all raw mpf components (finite or special): `hash(mpc)` agrees with the
documented complex hash of the two component hashes if and only if neither component hash returned
by `mpf_hash_raw` is -1 and the value returned by `mpc_hash_old` is below 2^63. -/
theorem mpc_hash_old_spec_iff (re im : Mpf) :
    finalHash (mpc_hash_old re im) = pyHashComplex (finalHash (mpf_hash_raw re)) (finalHash (mpf_hash_raw im)) ↔
      (mpf_hash_raw re ≠ -1 ∧ mpf_hash_raw im ≠ -1 ∧ mpc_hash_old re im < 2 ^ 63) := by
  rw [finalHash_mpf_hash_raw, finalHash_mpf_hash_raw]
  have h := mpc_core_iff (mpf_hash_raw re) (mpf_hash_raw im)
  unfold mpc_hash_old
  simp only [HASH_IMAG, HASH_WIDTH]
  norm_num
  exact h

/-- The part of the intended statement that holds, under the exact side condition of `mpc_hash_old_spec_iff`. -/
theorem mpc_hash_old_spec_partial (re im : Mpf) (hre : Finite re) (him : Finite im)
    (h1 : mpf_hash_raw re ≠ -1) (h2 : mpf_hash_raw im ≠ -1) (h3 : mpc_hash_old re im < 2 ^ 63) :
    finalHash (mpc_hash_old re im) =
      pyHashComplex (pyHashDyadic re.sign re.man re.exp) (pyHashDyadic im.sign im.man im.exp) := by
  rw [← (mpf_hash_raw_spec re hre).1, ← (mpf_hash_raw_spec im him).1]
  exact (mpc_hash_old_spec_iff re im).mpr ⟨h1, h2, h3⟩

example : Finite ⟨0, 3, -2, 2⟩ ∧ Finite ⟨0, 5, 7, 3⟩ ∧ mpf_hash_raw ⟨0, 3, -2, 2⟩ ≠ -1 ∧
    mpf_hash_raw ⟨0, 5, 7, 3⟩ ≠ -1 ∧ mpc_hash_old ⟨0, 3, -2, 2⟩ ⟨0, 5, 7, 3⟩ < 2 ^ 63 := by decide +kernel

/-- mpc against mpc is fine even with `mpc_hash_old`: equal component values give equal returned hashes. -/
theorem mpc_hash_old_eq_of_val_eq (re im re' im' : Mpf)
    (h1 : Finite re) (h2 : Finite im) (h3 : Finite re') (h4 : Finite im')
    (s1 : re.sign ≤ 1) (s2 : im.sign ≤ 1) (s3 : re'.sign ≤ 1) (s4 : im'.sign ≤ 1)
    (hr : val re = val re') (hi : val im = val im') : mpc_hash_old re im = mpc_hash_old re' im' := by
  unfold mpc_hash_old
  rw [mpf_hash_raw_eq_of_val_eq re re' h1 h3 s1 s3 hr, mpf_hash_raw_eq_of_val_eq im im' h2 h4 s2 s4 hi]

/-! ## mpc — `mpc_hash`, the code in /repo -/

/-- Unconditional, all raw components: `mpc_hash` through `hash()` is the documented complex
hash of the (post-processed) component hashes. -/
theorem mpc_hash_spec (re im : Mpf) :
    finalHash (mpc_hash re im) =
      pyHashComplex (finalHash (mpf_hash_raw re)) (finalHash (mpf_hash_raw im)) ∧
    mpc_hash re im = finalHash (mpc_hash re im) := by
  rw [mpc_hash_eq, finalHash_pyHashComplex, finalHash_mpf_hash_raw, finalHash_mpf_hash_raw]
  exact ⟨rfl, rfl⟩

/-- mpc == complex ⇒ equal hashes: if the components have the values of the
floats `(-1)^s1·m1·2^e1` and `(-1)^s2·m2·2^e2` then `hash(mpc) = hash(complex)`. -/
theorem mpc_hash_eq_complex (re im : Mpf) (hre : Finite re) (him : Finite im)
    (sr : re.sign ≤ 1) (si : im.sign ≤ 1) (s1 m1 s2 m2 : Nat) (e1 e2 : Int) (hs1 : s1 ≤ 1) (hs2 : s2 ≤ 1)
    (hr : val re = (-1 : ℚ) ^ s1 * (m1 : ℚ) * (2 : ℚ) ^ e1)
    (hi : val im = (-1 : ℚ) ^ s2 * (m2 : ℚ) * (2 : ℚ) ^ e2) :
    finalHash (mpc_hash re im) =
      pyHashComplex (pyHashFloatOfDyadic s1 m1 e1) (pyHashFloatOfDyadic s2 m2 e2) := by
  rw [(mpc_hash_spec re im).1, mpf_hash_raw_eq_float re hre sr s1 m1 e1 hs1 hr,
    mpf_hash_raw_eq_float im him si s2 m2 e2 hs2 hi]

example : Finite fnone ∧ Finite ⟨1, 3, -1, 2⟩ ∧
    val fnone = (-1 : ℚ) ^ 1 * ((1 : Nat) : ℚ) * (2 : ℚ) ^ (0 : Int) ∧
    val ⟨1, 3, -1, 2⟩ = (-1 : ℚ) ^ 1 * ((3 : Nat) : ℚ) * (2 : ℚ) ^ (-1 : Int) := by
  refine ⟨by decide, by decide, ?_, ?_⟩ <;> norm_num [val, fnone]

/-- mpc(x, 0) == x ⇒ equal hashes (x mpf; with `mpf_hash_raw_eq_int` /
`mpf_hash_raw_eq_float` also x int or float): a zero imaginary part does not change the hash. -/
theorem mpc_hash_real (re im : Mpf) (him : Finite im) (hz : val im = 0) (si : im.sign ≤ 1) :
    finalHash (mpc_hash re im) = finalHash (mpf_hash_raw re) := by
  have h0 : mpf_hash_raw im = 0 := by
    have := mpf_hash_raw_eq_of_val_eq im fzero him (by decide) si (by decide) (by rw [hz]; simp [val, fzero])
    rw [this]; decide
  rw [(mpc_hash_spec re im).1, finalHash_mpf_hash_raw, finalHash_mpf_hash_raw, h0]
  have hr := mpf_hash_raw_range re
  have hf := fixM1_cases (mpf_hash_raw re)
  have : fixM1 0 = 0 := by decide
  rw [this, pyHashComplex_zero _ (by omega) (by omega), fixM1_idem]

example : Finite fnzero ∧ val fnzero = 0 ∧ fnzero.sign ≤ 1 := by
  refine ⟨by decide, ?_, by decide⟩
  norm_num [val, fnzero]

/-- `mpc_hash` sends the three witnesses of `mpc_hash_old_counterexample*` where they belong. -/
theorem mpc_hash_witnesses :
    finalHash (mpc_hash fnone fzero) = -2 ∧
    finalHash (mpc_hash fzero ⟨0, 1, 44, 1⟩) = -854505252735418368 ∧
    finalHash (mpc_hash fnone fone) = pyHashComplex (-2) 1 := by decide +kernel

/-! ## mpq -/

/-- `mpq.__hash__` agrees with the documented `hash_fraction` for every power-of-two denominator
(these are the only mpq values that can be equal to an mpf, int or float). -/
theorem mpq_hash_dyadic (a : Int) (k : Nat) : mpq_hash a (2 ^ k) = pyHashFraction a (2 ^ k) := by
  unfold mpq_hash pyHashFraction fixM1
  have hP : HASH_MODULUS = pyP := by decide
  simp only [hP, powMod_eq, two_pow_mod_ne_zero k, if_false]
  have hinv : (2 ^ k) ^ (pyP - 2) % pyP ≠ 0 := by
    rw [← Nat.pow_mul]; exact two_pow_mod_ne_zero _
  simp only [hinv, if_false]
  have : a.natAbs * ((2 ^ k) ^ (pyP - 2) % pyP) % pyP =
      a.natAbs % pyP * ((2 ^ k) ^ (pyP - 2) % pyP) % pyP :=
    ((Nat.mod_modEq _ _).mul_right _).symm
  rw [this]

end Mp

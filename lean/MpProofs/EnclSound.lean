/-
  MpProofs/EnclSound.lean — the verified reference evaluator: soundness of `evalPoint` for every `FunId`
  and of the accuracy checker `accCheck` (property C12).

  All statements are about Mathlib's real functions (`Real.exp`, `Real.log`, `Real.sqrt`, `Real.arctan`,
  `Real.sin`, `Real.cos`, `Real.pi`, …); the evaluator uses only integer arithmetic.
  The decision loop is treated once, for any enclosure function and any one-step decider (`decisionLoop_sound`);
  `accCheck_sound` is an instance, and so are the two-argument and sinc checkers in Props/C12.
-/
import MpModel.Encl2
import MpProofs.EnclDerived

namespace Mp.Encl

/-- the real function denoted by a `FunId` -/
noncomputable def FunId.sem : FunId → ℝ → ℝ
  | .exp, x => Real.exp x
  | .log, x => Real.log x
  | .sqrt, x => Real.sqrt x
  | .atan, x => Real.arctan x
  | .sin, x => Real.sin x
  | .cos, x => Real.cos x
  | .pi, _ => Real.pi
  | .tan, x => Real.tan x
  | .sinh, x => Real.sinh x
  | .cosh, x => Real.cosh x
  | .tanh, x => Real.tanh x
  | .cot, x => Real.cot x
  | .sec, x => 1 / Real.cos x
  | .csc, x => 1 / Real.sin x
  | .expm1, x => Real.exp x - 1
  | .log1p, x => Real.log (1 + x)
  | .asin, x => Real.arcsin x
  | .acos, x => Real.arccos x
  | .asinh, x => Real.arsinh x
  | .acosh, x => Real.arcosh x
  | .atanh, x => Real.artanh x
  | .sinpi, x => Real.sin (Real.pi * x)
  | .cospi, x => Real.cos (Real.pi * x)

/-- the real domain on which `FunId.sem` is the mathematical function (outside it Mathlib's total
functions return junk values and mpmath returns complex numbers or raises) -/
def FunId.dom : FunId → ℝ → Prop
  | .log, x => 0 < x
  | .sqrt, x => 0 ≤ x
  | .log1p, x => -1 < x
  | .asin, x => -1 ≤ x ∧ x ≤ 1
  | .acos, x => -1 ≤ x ∧ x ≤ 1
  | .acosh, x => 1 ≤ x
  | .atanh, x => -1 < x ∧ x < 1
  | _, _ => True

theorem evalPoint_sound (f : FunId) (wp : ℕ) (x : Dy) :
    Encloses (evalPoint f wp x) (f.sem x.val) (f.dom x.val) := by
  have hX := DI.mem_point x
  cases f <;> unfold evalPoint <;> simp only [FunId.sem, FunId.dom]
  case exp => exact .some (expI_mem wp hX) trivial
  case log => exact encloses_logI hX
  case sqrt =>
    split
    · exact .none
    · rename_i h
      exact .some (DI.mem_round (sqrtI_sound _ _ _ hX) wp) ((Dy.val_nonneg_iff x).2 (not_lt.1 h))
  case atan => exact .some (atanI_mem wp hX) trivial
  case sin => exact .some (sinI_mem wp hX) trivial
  case cos => exact .some (cosI_mem wp hX) trivial
  case pi => exact .some (piI_mem wp) trivial
  case tan => exact tanPoint_sound wp x
  case sinh => exact .some (sinhPoint_sound wp x) trivial
  case cosh => exact .some (coshPoint_sound wp x) trivial
  case tanh => exact tanhPoint_sound wp x
  case cot => exact cotPoint_sound wp x
  case sec => exact secPoint_sound wp x
  case csc => exact cscPoint_sound wp x
  case expm1 => exact .some (expm1Point_sound wp x) trivial
  case log1p => exact log1pPoint_sound wp x
  case asin => exact asinPoint_sound wp x
  case acos => exact acosPoint_sound wp x
  case asinh => exact asinhPoint_sound wp x
  case acosh => exact acoshPoint_sound wp x
  case atanh => exact atanhPoint_sound wp x
  case sinpi => exact .some (DI.mem_round (cosSinPi_sound wp x).2 wp) trivial
  case cospi => exact .some (DI.mem_round (cosSinPi_sound wp x).1 wp) trivial

/-- the interval `[y − hi, y − lo]` that the one-step deciders form contains `y − v` -/
theorem DI.mem_pointSub {F : DI} {v : ℝ} (hv : F.Mem v) (y : Dy) :
    (DI.mk (y.sub F.hi) (y.sub F.lo)).Mem (y.val - v) :=
  ⟨by rw [Dy.val_sub]; exact sub_le_sub_left hv.2 _, by rw [Dy.val_sub]; exact sub_le_sub_left hv.1 _⟩

theorem decide1_ok (F : DI) (y t : Dy) (v : ℝ) (ht : 0 ≤ t.val) (hv : F.Mem v)
    (h : decide1 F y t = .ok) : |y.val - v| ≤ t.val * |v| := by
  unfold decide1 at h
  simp only at h
  split at h
  · rename_i hc
    rw [Dy.le_iff, Dy.val_mul] at hc
    calc |y.val - v| ≤ _ := DI.abs_le_mag (DI.mem_pointSub hv y)
      _ ≤ t.val * F.mig.val := hc
      _ ≤ t.val * |v| := mul_le_mul_of_nonneg_left (DI.mig_le_abs hv) ht
  · split at h <;> simp at h

theorem decide1_violates (F : DI) (y t : Dy) (v : ℝ) (ht : 0 ≤ t.val) (hv : F.Mem v)
    (h : decide1 F y t = .violates) : t.val * |v| < |y.val - v| := by
  unfold decide1 at h
  simp only at h
  split at h
  · simp at h
  · split at h
    · rename_i hc
      rw [Dy.lt_iff, Dy.val_mul] at hc
      calc t.val * |v| ≤ t.val * F.mag.val := mul_le_mul_of_nonneg_left (DI.abs_le_mag hv) ht
        _ < _ := hc
        _ ≤ |y.val - v| := DI.mig_le_abs (DI.mem_pointSub hv y)
    · simp at h

theorem val_two_zpow (e : ℤ) : (Dy.mk 1 e).val = (2 : ℝ) ^ e := by simp [Dy.val]

/-- one round of a decision loop at working precision `wp`: ask `ev wp` for an enclosure, give up if there is
none, return the verdict of the one-step decider `d` unless that is `undecided`, else go on with `rest` -/
def decisionStep (ev : ℕ → Option DI) (d : DI → Verdict) (wp : ℕ) (rest : Verdict) : Verdict :=
  match ev wp with
  | none => .undecided
  | some F =>
    match d F with
    | .undecided => rest
    | v => v

/-- A decision loop answers only with a verdict that `d` gave on something `ev` produced.  `L` is any function with
these two defining equations (`accLoop`, `accLoopG`, and the loops over other deciders elsewhere: both hold by `rfl`). -/
theorem decisionLoop_decided {ev : ℕ → Option DI} {d : DI → Verdict} {L : List ℕ → Verdict}
    (hnil : L [] = .undecided)
    (hcons : ∀ wp ws, L (wp :: ws) = decisionStep ev d wp (L ws))
    {ws : List ℕ} {v : Verdict} (h : L ws = v) (hv : v ≠ .undecided) : ∃ wp F, ev wp = some F ∧ d F = v := by
  induction ws with
  | nil => exact absurd (hnil.symm.trans h).symm hv
  | cons wp ws ih =>
    rw [hcons, decisionStep] at h
    cases hF : ev wp with
    | none => rw [hF] at h; exact absurd h.symm hv
    | some F =>
      rw [hF] at h
      dsimp only at h
      cases hd : d F <;> rw [hd] at h
      · exact ⟨wp, F, hF, hd.trans h⟩
      · exact ⟨wp, F, hF, hd.trans h⟩
      · exact ih h

/-- … hence, when everything `ev` returns encloses `v` (with side fact `P`) and the verdicts `ok` / `violates` of `d`
on an interval containing `v` mean `A` / `B`, the verdicts of the loop mean the same, and any verdict gives `P` -/
theorem decisionLoop_sound {ev : ℕ → Option DI} {d : DI → Verdict} {L : List ℕ → Verdict}
    (hnil : L [] = .undecided)
    (hcons : ∀ wp ws, L (wp :: ws) = decisionStep ev d wp (L ws))
    {v : ℝ} {P A B : Prop} (hev : ∀ wp, Encloses (ev wp) v P)
    (hok : ∀ F, F.Mem v → d F = .ok → A) (hvi : ∀ F, F.Mem v → d F = .violates → B) (ws : List ℕ) :
    (L ws = .ok → A) ∧ (L ws = .violates → B) ∧ (L ws ≠ .undecided → P) := by
  refine ⟨fun h => ?_, fun h => ?_, fun h => ?_⟩
  · obtain ⟨wp, F, hF, hd⟩ := decisionLoop_decided hnil hcons h (by decide)
    exact hok F (hev wp F hF).1 hd
  · obtain ⟨wp, F, hF, hd⟩ := decisionLoop_decided hnil hcons h (by decide)
    exact hvi F (hev wp F hF).1 hd
  · obtain ⟨wp, F, hF, _⟩ := decisionLoop_decided hnil hcons rfl h
    exact (hev wp F hF).2

/-- a loop whose one-step decider is `decide1` with the tolerance `2^(k-p)` of the checkers: `ok` / `violates`
decide `|y - v| ≤ 2^(k-p)·|v|` for the enclosed value, and any verdict gives the side fact of `ev` -/
theorem decide1Loop_sound {ev : ℕ → Option DI} {L : List ℕ → Verdict} {y : Dy} {p k : ℕ}
    (hnil : L [] = .undecided)
    (hcons : ∀ wp ws, L (wp :: ws) = decisionStep ev (fun F => decide1 F y ⟨1, (k : ℤ) - (p : ℤ)⟩) wp (L ws))
    {v : ℝ} {P : Prop} (hev : ∀ wp, Encloses (ev wp) v P) (ws : List ℕ) :
    (L ws = .ok → |y.val - v| ≤ (2 : ℝ) ^ ((k : ℤ) - (p : ℤ)) * |v|) ∧
    (L ws = .violates → (2 : ℝ) ^ ((k : ℤ) - (p : ℤ)) * |v| < |y.val - v|) ∧
    (L ws ≠ .undecided → P) := by
  have ht : 0 ≤ (Dy.mk 1 ((k : ℤ) - (p : ℤ))).val := by rw [val_two_zpow]; positivity
  have h := decisionLoop_sound hnil hcons hev (fun F hF => decide1_ok F y _ v ht hF)
    (fun F hF => decide1_violates F y _ v ht hF) ws
  rwa [val_two_zpow] at h

theorem accLoopG_sound {ev : ℕ → Option DI} {v : ℝ} {P : Prop} (hev : ∀ wp, Encloses (ev wp) v P)
    (y : Dy) (p k : ℕ) (ws : List ℕ) :
    (accLoopG ev y ⟨1, (k : ℤ) - (p : ℤ)⟩ ws = .ok → |y.val - v| ≤ (2 : ℝ) ^ ((k : ℤ) - (p : ℤ)) * |v|) ∧
    (accLoopG ev y ⟨1, (k : ℤ) - (p : ℤ)⟩ ws = .violates → (2 : ℝ) ^ ((k : ℤ) - (p : ℤ)) * |v| < |y.val - v|) ∧
    (accLoopG ev y ⟨1, (k : ℤ) - (p : ℤ)⟩ ws ≠ .undecided → P) :=
  decide1Loop_sound rfl (fun _ _ => rfl) hev ws

/-- **soundness of the accuracy checker**: a verdict `ok` / `violates` decides the inequality of property C12
for the exact real value `f(x)`, and a verdict other than `undecided` is only produced inside the real
domain of `f` -/
theorem accCheck_sound (f : FunId) (x y : Dy) (p k : ℕ) :
    (accCheck f x y p k = .ok →
      |y.val - f.sem x.val| ≤ (2 : ℝ) ^ ((k : ℤ) - (p : ℤ)) * |f.sem x.val|) ∧
    (accCheck f x y p k = .violates →
      (2 : ℝ) ^ ((k : ℤ) - (p : ℤ)) * |f.sem x.val| < |y.val - f.sem x.val|) ∧
    (accCheck f x y p k ≠ .undecided → f.dom x.val) :=
  decide1Loop_sound (L := accLoop f x y _) rfl (fun _ _ => rfl) (fun wp => evalPoint_sound f wp x) _

/-- with `ok` at slack `k` the relative error is strictly below `2^(k+1-p)` wherever `f(x) ≠ 0`
(property C12 is phrased with a strict bound `2^(4-p)`: check with `k = 3`) -/
theorem accCheck_ok_strict (f : FunId) (x y : Dy) (p k : ℕ) (h : accCheck f x y p k = .ok)
    (h0 : f.sem x.val ≠ 0) :
    |y.val - f.sem x.val| < (2 : ℝ) ^ (((k + 1 : ℕ) : ℤ) - (p : ℤ)) * |f.sem x.val| := by
  have h1 := (accCheck_sound f x y p k).1 h
  have hpos : 0 < |f.sem x.val| := abs_pos.2 h0
  refine lt_of_le_of_lt h1 ?_
  apply mul_lt_mul_of_pos_right _ hpos
  apply zpow_lt_zpow_right₀ (by norm_num)
  push_cast; omega

theorem accCheck_ok_zero (f : FunId) (x y : Dy) (p k : ℕ) (h : accCheck f x y p k = .ok)
    (h0 : f.sem x.val = 0) : y.val = 0 := by
  have h1 := (accCheck_sound f x y p k).1 h
  rw [h0, abs_zero, mul_zero, sub_zero] at h1
  exact abs_eq_zero.1 (le_antisymm h1 (abs_nonneg _))

end Mp.Encl

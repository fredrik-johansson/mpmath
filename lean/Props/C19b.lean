/-
  Props/C19b.lean — C19 (zeta family), second decided class: `zeta(n)`, `altzeta(n)` at EVERY integer `n ≥ 2`
  (odd ones included) for which the defining series can be summed directly, i.e. `n` proportional to the precision —
  the class at which `mpf_zeta_int` switches between its shortcuts (`1 + 2^-s + 3^-s + 4^-s`), the Euler product and
  Borwein's algorithm.

  Reference: `Σ_{k≤N} k^(−s) ≤ ζ(s) ≤ Σ_{k≤N} k^(−s) + N^(1−s)` in outward-rounded dyadic arithmetic (`Mp.SpecRef.zetaEncl`).
  (1) `C19_zetasum_validator`: a verdict of `encCheck (zetaEncl s)` is a theorem about `Σ_{n≥0} 1/(n+1)^s`;
  (2) `C19_zetasum_value`: that series converges and its sum is Mathlib's `riemannZeta s`;
  (3) `C19_altzetasum_validator`: the same for `(1 − 2^(1−s))·ζ(s)` (the DEFINITION of `altzeta` used in `Props/C19.lean`).
  Nothing is assumed about mpmath's algorithms; the tail bound is proved from `1/(k+1)^s ≤ 1/k^(s−1) − 1/(k+1)^(s−1)`.
-/
import MpProofs.SpecRef2

namespace Mp
open Mp.Encl Mp.SpecRef

/-- `ζ(s)` as the sum of its defining series (the value is Mathlib's `riemannZeta s`: `C19_zetasum_value`) -/
noncomputable def zetaSeries (s : ℕ) : ℝ := ∑' n : ℕ, 1 / ((n : ℝ) + 1) ^ s

theorem zetaEncl_encloses (s : ℕ) : Encloses (zetaEncl s) (zetaSeries s) :=
  fun wp F h => ⟨(zetaEncl_sound s wp F h).2.2, trivial⟩

/-- verdict `ok` ⇒ `|y − ζ(s)| ≤ 2^(k−p)·ζ(s)`; verdict `violates` ⇒ the inequality fails; any verdict ⇒ `s ≥ 2` is
not needed as a hypothesis: for `s < 2` the enclosure function returns nothing and the verdict is `undecided` -/
theorem C19_zetasum_validator (s : ℕ) (y : Dy) (p k : ℕ) :
    (encCheck (zetaEncl s) y p k = .ok → |y.val - zetaSeries s| ≤ (2 : ℝ) ^ ((k : ℤ) - (p : ℤ)) * |zetaSeries s|) ∧
    (encCheck (zetaEncl s) y p k = .violates →
      (2 : ℝ) ^ ((k : ℤ) - (p : ℤ)) * |zetaSeries s| < |y.val - zetaSeries s|) :=
  have h := encCheck_sound (zetaEncl_encloses s) y p k
  ⟨h.1, h.2.1⟩

theorem C19_zetasum_validator_complex (s : ℕ) (yre yim : Dy) (p k : ℕ) :
    (encCheckC (zetaEncl s) yre yim p k = .ok →
      ‖(⟨yre.val, yim.val⟩ : ℂ) - (zetaSeries s : ℂ)‖ ≤ (2 : ℝ) ^ ((k : ℤ) - (p : ℤ)) * |zetaSeries s|) ∧
    (encCheckC (zetaEncl s) yre yim p k = .violates →
      (2 : ℝ) ^ ((k : ℤ) - (p : ℤ)) * |zetaSeries s| < ‖(⟨yre.val, yim.val⟩ : ℂ) - (zetaSeries s : ℂ)‖) :=
  have h := encCheckC_sound (zetaEncl_encloses s) yre yim p k
  ⟨h.1, h.2.1⟩

/-- for `s ≥ 2` the series converges, every partial sum is a lower bound, `partial sum + N^(1−s)` an upper bound, and
the sum is Mathlib's Riemann zeta function at `s` -/
theorem C19_zetasum_value (s : ℕ) (hs : 2 ≤ s) :
    HasSum (fun n : ℕ => 1 / ((n : ℝ) + 1) ^ s) (zetaSeries s) ∧
    (∀ N : ℕ, 1 ≤ N → ∑ j ∈ Finset.range N, 1 / ((j : ℝ) + 1) ^ s ≤ zetaSeries s ∧
      zetaSeries s ≤ ∑ j ∈ Finset.range N, 1 / ((j : ℝ) + 1) ^ s + 1 / (N : ℝ) ^ (s - 1)) ∧
    ((zetaSeries s : ℝ) : ℂ) = riemannZeta (s : ℂ) := by
  have hsum : Summable (zetaTermR s) := (zeta_series_bounds s 1 hs le_rfl).1
  refine ⟨hsum.hasSum, fun N hN => ⟨(zeta_series_bounds s N hs hN).2.1, (zeta_series_bounds s N hs hN).2.2⟩, ?_⟩
  rw [zeta_nat_eq_tsum_of_gt_one (by omega : 1 < s)]
  have hg : Summable (fun n : ℕ => 1 / ((n : ℝ)) ^ s) := by
    rw [← summable_nat_add_iff 1]
    refine hsum.congr (fun n => ?_)
    unfold zetaTermR; push_cast; rfl
  have h0 : (1 : ℝ) / ((0 : ℕ) : ℝ) ^ s = 0 := by
    have : s ≠ 0 := by omega
    simp [this]
  have e : zetaSeries s = ∑' n : ℕ, 1 / ((n : ℝ)) ^ s := by
    rw [hg.tsum_eq_zero_add, h0, zero_add]
    unfold zetaSeries
    congr 1
    funext n
    push_cast; rfl
  rw [e, Complex.ofReal_tsum]
  congr 1
  funext n
  push_cast; rfl

theorem altzetaEncl_encloses (s : ℕ) :
    Encloses (altzetaEncl s) ((1 - (2 : ℝ) ^ (1 - (s : ℤ))) * zetaSeries s) :=
  fun wp F h => ⟨(altzetaEncl_sound s wp F h).2.2, trivial⟩

/-- `altzeta(s) := (1 − 2^(1−s))·ζ(s)` (definition, as in `Props/C19.lean`) -/
theorem C19_altzetasum_validator (s : ℕ) (y : Dy) (p k : ℕ) :
    let v := (1 - (2 : ℝ) ^ (1 - (s : ℤ))) * zetaSeries s
    (encCheck (altzetaEncl s) y p k = .ok → |y.val - v| ≤ (2 : ℝ) ^ ((k : ℤ) - (p : ℤ)) * |v|) ∧
    (encCheck (altzetaEncl s) y p k = .violates → (2 : ℝ) ^ ((k : ℤ) - (p : ℤ)) * |v| < |y.val - v|) :=
  have h := encCheck_sound (altzetaEncl_encloses s) y p k
  ⟨h.1, h.2.1⟩

theorem C19_altzetasum_validator_complex (s : ℕ) (yre yim : Dy) (p k : ℕ) :
    let v := (1 - (2 : ℝ) ^ (1 - (s : ℤ))) * zetaSeries s
    (encCheckC (altzetaEncl s) yre yim p k = .ok →
      ‖(⟨yre.val, yim.val⟩ : ℂ) - (v : ℂ)‖ ≤ (2 : ℝ) ^ ((k : ℤ) - (p : ℤ)) * |v|) ∧
    (encCheckC (altzetaEncl s) yre yim p k = .violates →
      (2 : ℝ) ^ ((k : ℤ) - (p : ℤ)) * |v| < ‖(⟨yre.val, yim.val⟩ : ℂ) - (v : ℂ)‖) :=
  have h := encCheckC_sound (altzetaEncl_encloses s) yre yim p k
  ⟨h.1, h.2.1⟩

-- ζ(40) = 1 + 2^-40 + 3^-40 + … : 1 + 2^-40 is accepted at 53 bits, 1 is rejected (error 2^-40 > 2^(7-53))
example : encCheck (zetaEncl 40) ⟨1099511627777, -40⟩ 53 7 = .ok := by decide +kernel
example : encCheck (zetaEncl 40) ⟨1, 0⟩ 53 7 = .violates := by decide +kernel
-- odd argument: ζ(41)
example : encCheck (zetaEncl 41) ⟨2199023255553, -41⟩ 53 7 = .ok := by decide +kernel
example : zetaEncl 1 60 = none := by decide +kernel

end Mp

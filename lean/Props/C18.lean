/-
  Props/C18.lean — C18 (gamma-family accuracy), PARTIAL: decided on the closed-form sub-family.
  Level: translation validation with a PROVED validator and PROVED reference values.

  What is proved here.
  (1) The decider run by the driver (ops `spec`, `specc`) is rigorous: a verdict `ok` / `violates` of
      `Mp.SpecRef.specCheck r y p k` is a theorem about the exact real number `⟦r⟧ = r.sem` denoted by the
      reference expression `r` (`C18_validator_*`).
  (2) For every family of the sub-family, the reference expression computed from the ARGUMENTS of the mpmath
      function denotes the mathematical function value as defined in Mathlib:
      `Real.Gamma` at integers and half-integers (both signs), its reciprocal (exactly 0 at the poles — Mathlib's
      `Real.Gamma` is 0 there, so `(Real.Gamma x)⁻¹ = 0`), `Real.log (Real.Gamma x)`, `Real.Gamma (x+1)`,
      `Nat.doubleFactorial`, `descPochhammer`/`ascPochhammer` (ff, rf, binomial; `Nat.choose` at naturals),
      products/quotients of `Real.Gamma` (gammaprod, beta), Mathlib's `harmonic`, `Nat.superFactorial`.
      `hyperfac` and `barnesg` have no Mathlib definition: their references are the integer products
      `Π k^k` and `Π k!` (DEFINITIONS of the functions at integers, marked below).
  (3) The decision logic: `gamma` has a pole at `h/2` ⇔ `gammaRef h = .pole` ⇔ `Real.Gamma (h/2) = 0`;
      `gammaprod`'s pole counting (`gammaprod_poles_spec`).
  NOT decided (counted as `outside` by the harness): generic real/complex arguments, arguments near poles or near
  the minimum of Γ, digamma/polygamma (ψ(1) = −γ needs Euler's constant; Mathlib has no polygamma), `gammaprod` with
  equally many cancelling poles (a limit with no Mathlib statement) except through `rf`/`ff`/`binomial`.
-/
import MpProofs.SpecRefGamma

namespace Mp
open Mp.Encl Mp.SpecRef
open scoped Nat

/-! ### (1) the validator -/

theorem C18_validator_ok (r : SExpr) (y : Dy) (p k : ℕ) (h : specCheck r y p k = .ok) :
    |y.val - r.sem| ≤ (2 : ℝ) ^ ((k : ℤ) - (p : ℤ)) * |r.sem| :=
  (specCheck_sound r y p k).1 h

theorem C18_validator_violates (r : SExpr) (y : Dy) (p k : ℕ) (h : specCheck r y p k = .violates) :
    (2 : ℝ) ^ ((k : ℤ) - (p : ℤ)) * |r.sem| < |y.val - r.sem| :=
  (specCheck_sound r y p k).2.1 h

/-- the strict form of the property text ("relative error below 2^(8−p)"): run the checker with `k = 7`;
and where the reference is 0 (rgamma at poles, barnesg at n ≤ 0, beta with a pole in the denominator) `ok` means
the output is EXACTLY 0 -/
theorem C18_validator_strict (r : SExpr) (y : Dy) (p : ℕ) (h : specCheck r y p 7 = .ok) :
    (r.sem ≠ 0 → |y.val - r.sem| < (2 : ℝ) ^ ((8 : ℤ) - (p : ℤ)) * |r.sem|) ∧
    (r.sem = 0 → y.val = 0) :=
  ⟨fun h0 => by simpa using specCheck_ok_strict r y p 7 h h0, specCheck_ok_zero r y p 7 h⟩

/-- complex-typed output `yre + i·yim` against a real reference value, error in modulus -/
theorem C18_validator_complex_ok (r : SExpr) (yre yim : Dy) (p k : ℕ) (h : specCheckC r yre yim p k = .ok) :
    ‖(⟨yre.val, yim.val⟩ : ℂ) - (r.sem : ℂ)‖ ≤ (2 : ℝ) ^ ((k : ℤ) - (p : ℤ)) * |r.sem| :=
  (specCheckC_sound r yre yim p k).1 h

theorem C18_validator_complex_violates (r : SExpr) (yre yim : Dy) (p k : ℕ)
    (h : specCheckC r yre yim p k = .violates) :
    (2 : ℝ) ^ ((k : ℤ) - (p : ℤ)) * |r.sem| < ‖(⟨yre.val, yim.val⟩ : ℂ) - (r.sem : ℂ)‖ :=
  (specCheckC_sound r yre yim p k).2.1 h

/-- a verdict is produced only when all side conditions of the reference hold (no zero denominators, logs of
positive numbers) -/
theorem C18_validator_dom (r : SExpr) (y : Dy) (p k : ℕ) (h : specCheck r y p k ≠ .undecided) : r.Dom :=
  (specCheck_sound r y p k).2.2 h

/-! ### (2) reference values = Mathlib's functions -/

/-- `gamma(h/2)` for every integer `h`: the reference is `Real.Gamma (h/2)`
(from `Real.Gamma_nat_eq_factorial`, `Real.Gamma_one_half_eq`, `Real.Gamma_add_one`) -/
theorem C18_gamma_ref (h : ℤ) (e : SExpr) (he : gammaRef h = .val e) :
    e.sem = Real.Gamma ((h : ℝ) / 2) := by
  unfold gammaRef at he
  cases hg : gammaQ h with
  | none => rw [hg] at he; simp at he
  | some g =>
    rw [hg] at he
    simp only [Ref.val.injEq] at he; subst he
    rw [GVal.toExpr_sem, gammaQ_spec h g hg]

/-- **`gamma` raises exactly at the poles**: the reference says `pole` ⇔ `h/2 ∈ {0, −1, −2, …}` ⇔ Mathlib's `Real.Gamma (h/2) = 0` -/
theorem C18_gamma_pole_iff (h : ℤ) :
    (gammaRef h = .pole ↔ Real.Gamma ((h : ℝ) / 2) = 0) ∧
    (gammaRef h = .pole ↔ ∃ m : ℕ, (h : ℝ) / 2 = -(m : ℝ)) := by
  have key : gammaRef h = .pole ↔ gammaQ h = none := by
    unfold gammaRef
    cases gammaQ h <;> simp
  exact ⟨key.trans (gammaQ_none_iff_Gamma_zero h),
    key.trans ((gammaQ_none_iff h).trans (isPoleH_iff h))⟩

/-- `rgamma(h/2)`: the reference is `(Real.Gamma (h/2))⁻¹` for EVERY integer `h` (at the poles this is 0) -/
theorem C18_rgamma_ref (h : ℤ) : ∃ e, rgammaRef h = .val e ∧ e.sem = (Real.Gamma ((h : ℝ) / 2))⁻¹ := by
  unfold rgammaRef
  cases hg : gammaQ h with
  | none =>
    refine ⟨_, rfl, ?_⟩
    rw [(gammaQ_none_iff_Gamma_zero h).1 hg]; simp [SExpr.sem]
  | some g =>
    refine ⟨_, rfl, ?_⟩
    rw [GVal.toExpr_sem, GVal.inv_sem, gammaQ_spec h g hg]

/-- **`rgamma` is exactly zero at the poles**: there the reference expression is the rational `0/1`, so
`specCheck … = ok` forces the output to be exactly 0 (`C18_validator_strict`) -/
theorem C18_rgamma_pole_zero (h : ℤ) (hp : Real.Gamma ((h : ℝ) / 2) = 0) :
    rgammaRef h = .val (.rat 0 1) ∧ (SExpr.rat 0 1).sem = 0 := by
  unfold rgammaRef
  rw [(gammaQ_none_iff_Gamma_zero h).2 hp]
  simp [SExpr.sem]

/-- `loggamma(h/2) = log Γ(h/2)`, decided only for positive `h` -/
theorem C18_loggamma_ref (h : ℤ) (e : SExpr) (he : loggammaRef h = .val e) :
    0 < h ∧ e.sem = Real.log (Real.Gamma ((h : ℝ) / 2)) := by
  unfold loggammaRef at he
  split at he
  · rename_i hpos
    cases hg : gammaQ h with
    | none => rw [hg] at he; simp at he
    | some g =>
      rw [hg] at he
      simp only [Ref.val.injEq] at he; subst he
      refine ⟨hpos, ?_⟩
      simp only [SExpr.sem]
      rw [GVal.toExpr_sem, gammaQ_spec h g hg]
  · split at he <;> simp at he

/-- `factorial(h/2) = Γ(h/2 + 1)` -/
theorem C18_factorial_ref (h : ℤ) (e : SExpr) (he : factorialRef h = .val e) :
    e.sem = Real.Gamma ((h : ℝ) / 2 + 1) := by
  have := C18_gamma_ref (h + 2) e he
  rw [this]; congr 1; push_cast; ring

/-- `fac2(n) = n‼` (`Nat.doubleFactorial`) for natural `n` -/
theorem C18_fac2_ref (n : ℤ) (e : SExpr) (he : fac2Ref n = .val e) :
    ∃ k : ℕ, n = k ∧ e.sem = ((k‼ : ℕ) : ℝ) := by
  obtain ⟨k, hk, he⟩ := natRef_val (g := fun k => .val (.rat (dfact k) 1)) he
  obtain rfl := Ref.val.inj he
  exact ⟨k, hk, by simp [SExpr.sem, dfact_eq]⟩

/-- `binomial(x, k) = x(x−1)…(x−k+1)/k!` for rational `x` and natural `k` (`descPochhammer`) -/
theorem C18_binomial_ref (x : ℚ) (k : ℤ) (e : SExpr) (he : binomialRef x k = .val e) :
    ∃ j : ℕ, k = j ∧ e.sem = (((descPochhammer ℚ j).eval x / (j ! : ℚ) : ℚ) : ℝ) := by
  obtain ⟨j, hj, he⟩ := natRef_val (g := fun j => Ref.ofRat (ffQ x j / (factN j : ℚ))) he
  obtain rfl := Ref.val.inj he
  exact ⟨j, hj, by rw [ratE_sem, ffQ_eq, factN_eq]⟩

/-- at natural `n` this is `Nat.choose n k` -/
theorem C18_binomial_nat (n j : ℕ) (e : SExpr) (he : binomialRef (n : ℚ) (j : ℤ) = .val e) :
    e.sem = ((n.choose j : ℕ) : ℝ) := by
  obtain ⟨j', hj, h⟩ := C18_binomial_ref _ _ e he
  have : j' = j := by exact_mod_cast hj.symm
  subst this
  rw [h, ← Nat.cast_choose_eq_descPochhammer_div ℚ n j']
  push_cast; rfl

/-- `rf(x, n)` = rising factorial (`ascPochhammer`) -/
theorem C18_rf_ref (x : ℚ) (n : ℤ) (e : SExpr) (he : rfRef x n = .val e) :
    ∃ j : ℕ, n = j ∧ e.sem = (((ascPochhammer ℚ j).eval x : ℚ) : ℝ) := by
  obtain ⟨j, hj, he⟩ := natRef_val (g := fun j => Ref.ofRat (rfQ x j)) he
  obtain rfl := Ref.val.inj he
  exact ⟨j, hj, by rw [ratE_sem, rfQ_eq]⟩

/-- `ff(x, n)` = falling factorial (`descPochhammer`) -/
theorem C18_ff_ref (x : ℚ) (n : ℤ) (e : SExpr) (he : ffRef x n = .val e) :
    ∃ j : ℕ, n = j ∧ e.sem = (((descPochhammer ℚ j).eval x : ℚ) : ℝ) := by
  obtain ⟨j, hj, he⟩ := natRef_val (g := fun j => Ref.ofRat (ffQ x j)) he
  obtain rfl := Ref.val.inj he
  exact ⟨j, hj, by rw [ratE_sem, ffQ_eq]⟩

/-- `gammaprod(as, bs)` at integer/half-integer arguments: whenever the reference is a value it equals
`Π Γ(a) / Π Γ(b)` with Mathlib's `Real.Gamma` — a value is produced only when the numerator has no pole and the
denominator none either (plain quotient), or when the denominator has MORE poles than the numerator (the value 0;
Mathlib's convention `Γ(pole) = 0`, `x/0 = 0` gives 0 as well) -/
theorem C18_gammaprod_ref (as bs : List ℤ) (e : SExpr) (he : gammaprodRef as bs = .val e) :
    e.sem = (as.map (fun h : ℤ => Real.Gamma ((h : ℝ) / 2))).prod /
            (bs.map (fun h : ℤ => Real.Gamma ((h : ℝ) / 2))).prod := by
  unfold gammaprodRef at he
  cases hd : gammaprodDecide as bs with
  | zero =>
    rw [hd] at he
    obtain rfl := Ref.val.inj he
    have := (gammaprodDecide_iff as bs).1.1 hd
    rw [prod_Gamma_eq_zero_of_pole bs (by omega)]
    simp [SExpr.sem]
  | inf => rw [hd] at he; cases he
  | finite =>
    rw [hd] at he
    dsimp only at he
    split at he
    · rename_i hz
      obtain rfl := Ref.val.inj he
      have hz2 := ((gammaprodDecide_iff as bs).2.2.1 hd).symm.trans hz
      rw [GVal.toExpr_sem, GVal.mul_sem, GVal.inv_sem, gammaProdRegular_sem as (no_pole_of_filter hz),
        gammaProdRegular_sem bs (no_pole_of_filter hz2), div_eq_mul_inv]
    · cases he

/-- `beta(x, y) = Γ(x)Γ(y)/Γ(x+y)` at integer/half-integer `x = h1/2`, `y = h2/2` -/
theorem C18_beta_ref (h1 h2 : ℤ) (e : SExpr) (he : betaRef h1 h2 = .val e) :
    e.sem = Real.Gamma ((h1 : ℝ) / 2) * Real.Gamma ((h2 : ℝ) / 2) / Real.Gamma ((h1 : ℝ) / 2 + (h2 : ℝ) / 2) := by
  have := C18_gammaprod_ref [h1, h2] [h1 + h2] e he
  rw [this]
  simp only [List.map_cons, List.map_nil, List.prod_cons, List.prod_nil, mul_one]
  congr 2; push_cast; ring

/-- `harmonic(n)` = Mathlib's `harmonic n = Σ_{i<n} 1/(i+1)` -/
theorem C18_harmonic_ref (n : ℤ) (e : SExpr) (he : harmonicRef n = .val e) :
    ∃ k : ℕ, n = k ∧ e.sem = ((harmonic k : ℚ) : ℝ) := by
  obtain ⟨k, hk, he⟩ := natRef_val (g := fun k => .val (.rat (harmPQ 24 1 k).1 (harmPQ 24 1 k).2)) he
  obtain rfl := Ref.val.inj he
  exact ⟨k, hk, by rw [← (harmPQ_harmonic 24 k).2]; simp [SExpr.sem]⟩

/-- `superfac(n) = Π_{k≤n} k!` = Mathlib's `Nat.superFactorial n` -/
theorem C18_superfac_ref (n : ℤ) (e : SExpr) (he : superfacRef n = .val e) :
    ∃ k : ℕ, n = k ∧ e.sem = ((Nat.superFactorial k : ℕ) : ℝ) := by
  obtain ⟨k, hk, he⟩ := natRef_val (g := fun k => .val (.rat (superfacN k) 1)) he
  obtain rfl := Ref.val.inj he
  exact ⟨k, hk, by simp [SExpr.sem, superfacN_eq]⟩

/-- `hyperfac(n)`: the reference is the integer `Π_{k=1}^{n} k^k`
(DEFINITION of the hyperfactorial at naturals; Mathlib has no hyperfactorial function) -/
theorem C18_hyperfac_ref (n : ℤ) (e : SExpr) (he : hyperfacRef n = .val e) :
    ∃ k : ℕ, n = k ∧ e.sem = ((∏ i ∈ Finset.range k, (i + 1) ^ (i + 1) : ℕ) : ℝ) := by
  obtain ⟨k, hk, he⟩ := natRef_val (g := fun k => .val (.rat (hyperfacN k) 1)) he
  obtain rfl := Ref.val.inj he
  exact ⟨k, hk, by simp [SExpr.sem, hyperfacN_eq]⟩

/-- `barnesg(n)`: the reference is `Π_{k=1}^{n−2} k!` = `Nat.superFactorial (n−2)` for integers `n ≥ 1` and `0` for
`n ≤ 0` (DEFINITION of the Barnes G-function at integers, `G(n) = Π_{k<n−1} k!`; Mathlib has no Barnes G) -/
theorem C18_barnesg_ref (n : ℤ) :
    (n ≤ 0 → barnesgRef n = .val (.rat 0 1)) ∧
    (0 < n → ∃ e, barnesgRef n = .val e ∧ e.sem = ((Nat.superFactorial (n - 2).toNat : ℕ) : ℝ)) := by
  unfold barnesgRef
  constructor
  · intro h; rw [if_pos h]
  · intro h; rw [if_neg (by omega)]
    exact ⟨_, rfl, by simp [SExpr.sem, superfacN_eq]⟩

/-! ### (3) decision logic of `gammaprod` -/

/-- `gammaprod`'s pole counting: an argument `h/2` is counted as a pole exactly when Mathlib's `Real.Gamma (h/2) = 0`
(i.e. `h/2 ∈ {0, −1, −2, …}`), and the outcome is `0` / `∞` / finite according to whether the numerator has
fewer / more / equally many poles than the denominator -/
theorem gammaprod_poles_spec (as bs : List ℤ) :
    (∀ h : ℤ, isPoleH h = true ↔ Real.Gamma ((h : ℝ) / 2) = 0) ∧
    (gammaprodDecide as bs = .zero ↔ (as.filter isPoleH).length < (bs.filter isPoleH).length) ∧
    (gammaprodDecide as bs = .inf ↔ (bs.filter isPoleH).length < (as.filter isPoleH).length) ∧
    (gammaprodDecide as bs = .finite ↔ (as.filter isPoleH).length = (bs.filter isPoleH).length) :=
  ⟨fun h => (gammaQ_none_iff h).symm.trans (gammaQ_none_iff_Gamma_zero h), gammaprodDecide_iff as bs⟩

example : gammaRef 0 = .pole := by decide +kernel
example : ∃ e, gammaRef 7 = .val e := ⟨_, rfl⟩
example : gammaprodDecide [-2, 3] [-4, 0] = .zero := by decide +kernel
example : gammaprodDecide [-2, 3] [5] = .inf := by decide +kernel
example : gammaprodDecide [-2, 3] [-6] = .finite := by decide +kernel
-- Γ(7/2) = 15√π/8 = 3.32335097…: accepted at 24 bits, and 3.5 is rejected
example : (match gammaRef 7 with | .val e => specCheck e ⟨13939190, -22⟩ 24 7 | _ => .undecided) = .ok := by
  rw [gammaRef_seven]
  exact specCheck_of_first eval_gamma_example (by decide +kernel) (by decide)
example : (match gammaRef 7 with | .val e => specCheck e ⟨7, -1⟩ 24 7 | _ => .undecided) = .violates := by
  rw [gammaRef_seven]
  exact specCheck_of_first eval_gamma_example (by decide +kernel) (by decide)

end Mp

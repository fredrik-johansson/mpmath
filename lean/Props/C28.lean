/-
  Props/C28.lean — C28 (numerical differentiation, Taylor coefficients, forward differences, differint, Padé),
  level: translation validation with a PROVED validator (+ a proof for `difference`).

  The quantifier "for all functions / points / orders / precisions" is sampled: the harness runs the real
  `diff` / `diffs` / `diffun` / `taylor` on members of the families `Mp.Calc.Fam` with a closed-form
  derivative (polynomials `Σ c·x^m`, `e^{cx}`, `sin cx`, `cos cx`, `x·e^{cx}`, rational parameters), reads
  each result exactly as a dyadic `y` and asks the compiled checker; it runs `differint` on `t ↦ t^k` for
  integer orders and `pade` on rational coefficient lists.  What is proved here:
    * the closed form used as reference IS the `n`-th derivative (`iteratedDeriv n f x`, Mathlib), and the
      reference for `taylor` IS the Taylor coefficient `f^(n)(x)/n!`                (`C28_deriv_family`,
      `C28_taylor_coeff`);
    * a verdict `ok` / `violates` of the executable checker is a theorem about that derivative:
      `|y − f^(n)(x)| < 2^(10−p)·max(|f^(n)(x)|, 1)` ("relative or absolute error below 2^(10−p)") resp. its
      negation                                          (`C28_checker_*`, `C28_diffCheck_*`, `C28_taylorCheck_*`);
    * `difference(s, n)` in exact arithmetic equals the `n`-th forward difference `Σ (−1)^(n−k) C(n,k) s_k`
      for every sequence and every `n` (a proof about the modelled loop, `C28_difference_spec`);
    * the closed forms for `differint(t ↦ t^k, x, n)` are the `n`-th derivative (`n ≥ 0`) and `∫_0^x t^k`
      (`n = −1`)                                                   (`C28_differint_deriv`, `C28_differint_int`);
    * the Padé validator: acceptance means `p`, `q` have `L+1`, `M+1` coefficients, `q_0 = 1` and every
      coefficient of `A·Q − P` up to degree `L+M` is below the tolerance; with tolerance 0 this is
      `X^(L+M+1) ∣ A·Q − P`, i.e. the series of `P/Q` matches `a` up to order `L+M`   (`C28_padeCheck_*`).
  Sampled, not proved: that mpmath's finite-difference / quadrature code reaches the tolerance for every
  input (it is run and its outputs are checked); the coefficients mpmath's `pade` returns are floats, read
  exactly as rationals and checked against the residual tolerance `2^(10−p)·(Σ|q_i|)·max_{j≤L+M}|a_j|`.
  FINDING: `pade(a, 0, 0)` returns `([1], [1])` instead of `([a_0], [1])` (`C28_pade_L0M0_counterexample`).
  Not claimed: products `exp·sin`, `exp·cos` beyond the value itself (no closed-form `derivRef`), fractional
  orders of `differint`, non-entire functions, singular Padé systems.
-/
import MpProofs.CalcDiff
import MpProofs.CalcLogicA

namespace Mp
open Mp.Calc Mp.Encl

/-- the closed form is the derivative: for the families `Σ c·x^m`, `e^{cx}`, `sin cx`, `cos cx`, `x·e^{cx}` the
reference `f.derivRef n x` denotes the `n`-th derivative of `f` at the point denoted by `x` -/
theorem C28_deriv_family (f : Fam) (n : ℕ) (x r : Ref) (h : f.derivRef n x = some r) :
    iteratedDeriv n f.fn x.sem = r.sem := by
  cases f with
  | poly ts =>
    simp only [Fam.derivRef, Option.some.injEq] at h
    subst h
    have : (Fam.poly ts).fn = polyFn ts := rfl
    rw [this, polyFn_iteratedDeriv, polyRef_sem]
    rfl
  | expL c =>
    simp only [Fam.derivRef, Option.some.injEq] at h
    subst h
    have : (Fam.expL c).fn = fun x : ℝ => Real.exp ((c : ℝ) * x) := rfl
    rw [this, expL_iteratedDeriv]
    simp [Ref.sem]
  | sinL c =>
    simp only [Fam.derivRef, Option.some.injEq] at h
    subst h
    have : (Fam.sinL c).fn = fun x : ℝ => Real.sin ((c : ℝ) * x) := rfl
    rw [this, sinL_iteratedDeriv]
    generalize n % 4 = k
    rcases k with _ | _ | _ | k <;> simp [cyc4, Ref.sem]
  | cosL c =>
    simp only [Fam.derivRef, Option.some.injEq] at h
    subst h
    have : (Fam.cosL c).fn = fun x : ℝ => Real.cos ((c : ℝ) * x) := rfl
    rw [this, cosL_iteratedDeriv, Nat.add_mod]
    have hk := Nat.mod_lt n (Nat.succ_pos 3)
    generalize n % 4 = k at hk
    interval_cases k <;> simp [cyc4, Ref.sem]
  | xexp c =>
    simp only [Fam.derivRef, Option.some.injEq] at h
    subst h
    have : (Fam.xexp c).fn = fun x : ℝ => x * Real.exp ((c : ℝ) * x) := rfl
    rw [this, xexp_iteratedDeriv]
    simp [Ref.sem]
  | expcos a b => simp [Fam.derivRef] at h
  | expsin a b => simp [Fam.derivRef] at h
  | lorentz => simp [Fam.derivRef] at h
  | recip c => simp [Fam.derivRef] at h

/-- the reference handed to the checker for `taylor(f, x, N)[n]`, namely `r · (1/n!)` with `r` the closed-form
derivative, denotes the `n`-th Taylor coefficient `f^(n)(x) / n!` -/
theorem C28_taylor_coeff (f : Fam) (n : ℕ) (x r : Ref) (h : f.derivRef n x = some r) :
    (Ref.mul r (.rat (1 / ((natFactorial n : ℕ) : ℚ)))).sem = iteratedDeriv n f.fn x.sem / (n.factorial : ℝ) := by
  rw [C28_deriv_family f n x r h, natFactorial_eq]
  simp only [Ref.sem]
  push_cast
  rw [one_div, div_eq_mul_inv]

/-- verdict `ok` of the checker in the mode used for C28 (`fl = 1`, strict): the dyadic `y` has
"relative or absolute error below `2^(k−p)`" w.r.t. the exact value of the reference -/
theorem C28_checker_ok (r : Ref) (y : Dy) (p k : ℕ) (h : checkClose r y p k 1 true = .ok) :
    |y.val - r.sem| < (2 : ℝ) ^ ((k : ℤ) - (p : ℤ)) * max |r.sem| 1 := by
  have := (checkClose_sound_ok r y p k 1 true h).2 rfl
  simpa only [tol, Rat.cast_one] using this

/-- verdict `violates` ⇒ the error is NOT below the tolerance -/
theorem C28_checker_violates (r : Ref) (y : Dy) (p k : ℕ) (h : checkClose r y p k 1 true = .violates) :
    ¬ |y.val - r.sem| < (2 : ℝ) ^ ((k : ℤ) - (p : ℤ)) * max |r.sem| 1 := by
  have := (checkClose_sound_violates r y p k 1 true h).2 rfl
  simp only [tol, Rat.cast_one] at this
  exact not_lt.2 this

/-- the combined statement for `diff(f, x, n)` (also `diffs(f, x, N)[n]`, `diffun(f, n)(x)`): checker `ok` on
the family's closed form ⇒ the returned value `y` is within the property's tolerance `2^(10−p)`
(relative or absolute) of the true `n`-th derivative -/
theorem C28_diffCheck_sound (f : Fam) (n : ℕ) (x r : Ref) (y : Dy) (p : ℕ)
    (hr : f.derivRef n x = some r) (h : checkClose r y p 10 1 true = .ok) :
    |y.val - iteratedDeriv n f.fn x.sem| <
      (2 : ℝ) ^ ((10 : ℤ) - (p : ℤ)) * max |iteratedDeriv n f.fn x.sem| 1 := by
  rw [C28_deriv_family f n x r hr]
  simpa using C28_checker_ok r y p 10 h

/-- … and `violates` ⇒ it is not -/
theorem C28_diffCheck_violates (f : Fam) (n : ℕ) (x r : Ref) (y : Dy) (p : ℕ)
    (hr : f.derivRef n x = some r) (h : checkClose r y p 10 1 true = .violates) :
    ¬ |y.val - iteratedDeriv n f.fn x.sem| <
      (2 : ℝ) ^ ((10 : ℤ) - (p : ℤ)) * max |iteratedDeriv n f.fn x.sem| 1 := by
  rw [C28_deriv_family f n x r hr]
  simpa using C28_checker_violates r y p 10 h

/-- the combined statement for `taylor(f, x, N)[n]`: checker `ok` on `r·(1/n!)` ⇒ the returned coefficient `y`
is within `2^(10−p)` (relative or absolute) of the true Taylor coefficient `f^(n)(x)/n!` -/
theorem C28_taylorCheck_sound (f : Fam) (n : ℕ) (x r : Ref) (y : Dy) (p : ℕ)
    (hr : f.derivRef n x = some r)
    (h : checkClose (Ref.mul r (.rat (1 / ((natFactorial n : ℕ) : ℚ)))) y p 10 1 true = .ok) :
    |y.val - iteratedDeriv n f.fn x.sem / (n.factorial : ℝ)| <
      (2 : ℝ) ^ ((10 : ℤ) - (p : ℤ)) * max |iteratedDeriv n f.fn x.sem / (n.factorial : ℝ)| 1 := by
  rw [← C28_taylor_coeff f n x r hr]
  simpa using C28_checker_ok _ y p 10 h

/-- … and `violates` ⇒ it is not -/
theorem C28_taylorCheck_violates (f : Fam) (n : ℕ) (x r : Ref) (y : Dy) (p : ℕ)
    (hr : f.derivRef n x = some r)
    (h : checkClose (Ref.mul r (.rat (1 / ((natFactorial n : ℕ) : ℚ)))) y p 10 1 true = .violates) :
    ¬ |y.val - iteratedDeriv n f.fn x.sem / (n.factorial : ℝ)| <
      (2 : ℝ) ^ ((10 : ℤ) - (p : ℤ)) * max |iteratedDeriv n f.fn x.sem / (n.factorial : ℝ)| 1 := by
  rw [← C28_taylor_coeff f n x r hr]
  simpa using C28_checker_violates _ y p 10 h

/-- `difference(s, n)` (the modelled loop with its integer weight recurrence `b = (b·(k−n)) // (k+1)`), in exact
arithmetic, equals the `n`-th forward difference `Σ_{k=0}^{n} (−1)^(n−k)·C(n,k)·s_k` — for every sequence `s`
and every `n` -/
theorem C28_difference_spec (s : ℕ → ℚ) (n : ℕ) :
    difference s n = ∑ k ∈ Finset.range (n + 1), (-1 : ℚ) ^ (n - k) * (n.choose k : ℚ) * s k :=
  difference_spec s n

/-- soundness of the Padé validator: if `padeCheck a p q L M t` accepts the output `(p, q)` of `pade(a, L, M)`
(all read as exact rationals), then `p` has `L+1` and `q` has `M+1` coefficients, `q_0 = 1`, and for every
`j ≤ L+M` the coefficient of `X^j` in `A·Q − P` is at most `t·(Σ|q_i|)·max_{i≤L+M}|a_i|` in absolute value, where
`A, P, Q = Σ_i l[i]·X^i` are the polynomials with the coefficient lists `a, p, q` -/
theorem C28_padeCheck_sound (a p q : List ℚ) (L M : ℕ) (t : ℚ) (h : padeCheck a p q L M t = true) :
    p.length = L + 1 ∧ q.length = M + 1 ∧ (listPoly q).coeff 0 = 1 ∧
    ∀ j ≤ L + M, |(listPoly a * listPoly q - listPoly p).coeff j| ≤
      t * ((q.map fun c => |c|).sum * maxAbs a (L + M)) := by
  have := padeCheck_sound a p q L M t h
  rwa [padeScale_eq] at this

/-- the scale in `C28_padeCheck_sound` is what it says: `maxAbs a n` is the largest `|a_j|`, `j ≤ n`
(an upper bound of them, and below every non-negative upper bound), and `listPoly l` has the list entries as
coefficients (0 beyond the end of the list) -/
theorem C28_padeScale_meaning (a : List ℚ) (n : ℕ) :
    (∀ j ≤ n, |(listPoly a).coeff j| ≤ maxAbs a n) ∧
    (∀ B : ℚ, 0 ≤ B → (∀ j ≤ n, |(listPoly a).coeff j| ≤ B) → maxAbs a n ≤ B) ∧
    (∀ j, (listPoly a).coeff j = a.getD j 0) := by
  refine ⟨fun j hj => ?_, fun B h0 h => ?_, fun j => ?_⟩
  · rw [listPoly_coeff]; exact le_maxAbs a n j hj
  · exact maxAbs_le a n B h0 fun j hj => by rw [← listPoly_coeff]; exact h j hj
  · rw [listPoly_coeff]; rfl

/-- exact case (tolerance 0): acceptance means `A·Q = P + O(X^(L+M+1))`, i.e. `P/Q` is an `[L/M]` Padé
approximant of the series `a` (with `q_0 = 1`): the series of `P/Q` matches `a` up to order `L+M` -/
theorem C28_padeCheck_exact (a p q : List ℚ) (L M : ℕ) (h : padeCheck a p q L M 0 = true) :
    p.length = L + 1 ∧ q.length = M + 1 ∧ (listPoly q).coeff 0 = 1 ∧
    Polynomial.X ^ (L + M + 1) ∣ listPoly a * listPoly q - listPoly p :=
  have hs := padeCheck_sound a p q L M 0 h
  ⟨hs.1, hs.2.1, hs.2.2.1, padeCheck_exact a p q L M h⟩

/-- the validator rejects only when one of the stated facts fails (it is complete) -/
theorem C28_padeCheck_complete (a p q : List ℚ) (L M : ℕ) (t : ℚ)
    (hp : p.length = L + 1) (hq : q.length = M + 1) (hq0 : (listPoly q).coeff 0 = 1)
    (hall : ∀ j ≤ L + M, |(listPoly a * listPoly q - listPoly p).coeff j| ≤
      t * ((q.map fun c => |c|).sum * maxAbs a (L + M))) :
    padeCheck a p q L M t = true := by
  apply padeCheck_complete a p q L M t hp hq hq0
  rwa [padeScale_eq]

/-- `differint(t ↦ t^k, x, n)` for an integer order `n ≥ 0`: the closed form `k(k−1)…(k−n+1)·x^(k−n)`
(`0` for `n > k`) is the `n`-th derivative of `t^k` at `x` -/
theorem C28_differint_deriv (k n : ℕ) (x r : Ref) (h : differintRef k (n : ℤ) x = some r) :
    iteratedDeriv n (fun t : ℝ => t ^ k) x.sem = r.sem := by
  unfold differintRef at h
  rw [if_pos (Int.natCast_nonneg n)] at h
  simp only [Int.toNat_natCast, Option.some.injEq] at h
  subst h
  rw [pow_iteratedDeriv]
  by_cases hk : n ≤ k
  · simp [hk, Ref.sem]
  · rw [if_neg hk, descFact_eq_zero (by omega)]
    simp [Ref.sem]

/-- `differint(t ↦ t^k, x, −1, x0 = 0)`: the closed form `x^(k+1)/(k+1)` is `∫_0^x t^k dt` -/
theorem C28_differint_int (k : ℕ) (x r : Ref) (h : differintRef k (-1) x = some r) :
    ∫ t in (0 : ℝ)..x.sem, t ^ k = r.sem := by
  unfold differintRef at h
  rw [if_neg (by decide), if_pos rfl] at h
  simp only [Option.some.injEq] at h
  subst h
  rw [integral_pow]
  simp only [Ref.sem]
  push_cast
  have : ((k : ℝ) + 1) ≠ 0 := by positivity
  field_simp
  simp

/-! non-vacuity -/

-- d²/dx² (3x⁴ − x) = 36x², at x = 1/2: 9;  the checker accepts 9 and rejects 9.01 at 53 bits
example : (Fam.poly [(3, 4), (-1, 1)]).derivRef 2 (.rat (1 / 2)) ≠ none := by decide
example : checkClose (((Fam.poly [(3, 4), (-1, 1)]).derivRef 2 (.rat (1 / 2))).getD (.rat 0)) ⟨9, 0⟩ 53 10 1 true = .ok := by
  decide +kernel
example : checkClose (((Fam.poly [(3, 4), (-1, 1)]).derivRef 2 (.rat (1 / 2))).getD (.rat 0)) ⟨9225, -10⟩ 53 10 1 true
    = .violates := by
  decide +kernel
-- third derivative of sin(2x) at 0 is −8; Taylor coefficient −8/3! against the double nearest −4/3
example : checkClose (((Fam.sinL 2).derivRef 3 (.rat 0)).getD (.rat 0)) ⟨-8, 0⟩ 53 10 1 true = .ok :=
  Example.sinL_verdicts.1
example : checkClose (Ref.mul (((Fam.sinL 2).derivRef 3 (.rat 0)).getD (.rat 0)) (.rat (1 / ((natFactorial 3 : ℕ) : ℚ))))
    ⟨-6004799503160661, -52⟩ 53 10 1 true = .ok :=
  Example.sinL_verdicts.2
-- the [1/1] Padé approximant of exp: (1 + x/2)/(1 − x/2); accepted exactly; a wrong one is rejected
example : padeCheck [1, 1, 1 / 2] [1, 1 / 2] [1, -1 / 2] 1 1 0 = true := by decide +kernel
example : padeCheck [1, 1, 1 / 2] [1, 1 / 2] [1, -1 / 3] 1 1 0 = false := by decide +kernel
example : padeCheck [1, 1, 1 / 2] [1, 1 / 2] [1, -1 / 3] 1 1 (1 / 1024) = false := by decide +kernel
-- a slightly perturbed one is accepted at the corresponding tolerance and rejected at a tighter one
example : padeCheck [1, 1, 1 / 2] [1, 1 / 2] [1, -1 / 2 + 1 / 4096] 1 1 (1 / 1024) = true := by decide +kernel
example : padeCheck [1, 1, 1 / 2] [1, 1 / 2] [1, -1 / 2 + 1 / 4096] 1 1 (1 / 1048576) = false := by decide +kernel
/-- FINDING (replayed on /repo): `pade(a, 0, 0)` returns `([1], [1])` whatever `a[0]` is
(`differentiation.py`, branch `if M == 0: if L == 0: return [ctx.one], [ctx.one]`); for `a = [2]` the output is
rejected at every tolerance below 1/2, i.e. `A·Q − P = 2 − 1 ≠ O(X)`: the property fails for `L = M = 0`, `a_0 ≠ 1`.
(The correct output `([a_0], [1])` is accepted.) -/
theorem C28_pade_L0M0_counterexample :
    padeCheck [2] [1] [1] 0 0 (1 / 1024) = false ∧ padeCheck [2] [2] [1] 0 0 0 = true ∧
    ¬ Polynomial.X ^ (0 + 0 + 1) ∣ listPoly [2] * listPoly [1] - listPoly [1] := by
  refine ⟨by decide +kernel, by decide +kernel, ?_⟩
  rw [Polynomial.X_pow_dvd_iff]
  intro h
  have h0 := h 0 (by omega)
  rw [← padeResid_eq] at h0
  revert h0
  decide +kernel

-- differint closed forms: d²/dt² t³ = 6t, ∫_0^x t³ = x⁴/4, order −2 not covered
example : differintRef 3 2 (.rat 5) ≠ none ∧ differintRef 3 (-1) (.rat 5) ≠ none ∧ differintRef 3 (-2) (.rat 5) = none := by
  decide
example : checkClose ((differintRef 3 2 (.rat 5)).getD (.rat 0)) ⟨30, 0⟩ 53 10 1 true = .ok := by decide +kernel
example : checkClose ((differintRef 3 (-1) (.rat 5)).getD (.rat 0)) ⟨625, -2⟩ 53 10 1 true = .ok := by decide +kernel
example : checkClose ((differintRef 3 5 (.rat 5)).getD (.rat 1)) ⟨0, 0⟩ 53 10 1 true = .ok := by decide +kernel


/-- partial derivatives of a separable product (the shape the harness uses for `diff(f, (x, y), (m, n))`):
`∂ₓ^m ∂ᵧ^n [f(x)·g(y)] = f^(m)(x)·g^(n)(y)`, with the nesting order of `_partial_diff` (first variable outermost) -/
theorem C28_partial_separable (f g : ℝ → ℝ) (m n : ℕ) (x y : ℝ) :
    iteratedDeriv m (fun s => iteratedDeriv n (fun t => f s * g t) y) x = iteratedDeriv m f x * iteratedDeriv n g y := by
  simp only [iteratedDeriv_const_mul_field, iteratedDeriv_mul_const_field]

end Mp

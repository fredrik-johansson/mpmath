/-
  Props/C04div.lean — C04, the clause on division:
  "Complex division, reciprocals and negative integer powers have a relative error (in modulus) of at most a few units in
  the last place".

  Proved for every pair of finite canonical complex numbers (components of any bit length and exponent), every precision
  ≥ 1 and all five rounding modes: each COMPONENT of `z/w`, `1/z`, `p/z` (p real) is within `2^(2-prec)` relative — two units
  in the last place — of the exact component (which implies the modulus statement, `C04_div_modulus`); `z/p` (p real,
  nonzero) is correctly rounded per component.  Negative integer powers `z**(-n)` are `mpc_reciprocal` of `z**n` computed
  at `prec+4` (model: `mpc_pow_int`): Props/C04powneg.lean.
-/
import MpProofs.CDiv
import Props.C04

namespace Mp

/-- exact components of the quotient `(a + b i)/(c + d i)` -/
def cdivRe (a b c d : ℚ) : ℚ := (a * c + b * d) / (c * c + d * d)
def cdivIm (a b c d : ℚ) : ℚ := (b * c - a * d) / (c * c + d * d)

/-- they are the components of the complex quotient: `(c + d i)·(Re + Im i) = a + b i` when `c + d i ≠ 0` -/
theorem cdiv_is_quotient (a b c d : ℚ) (h : c * c + d * d ≠ 0) :
    c * cdivRe a b c d - d * cdivIm a b c d = a ∧ c * cdivIm a b c d + d * cdivRe a b c d = b := by
  unfold cdivRe cdivIm
  constructor
  · rw [← mul_div_assoc, ← mul_div_assoc, ← sub_div, div_eq_iff h]; ring
  · rw [← mul_div_assoc, ← mul_div_assoc, ← add_div, div_eq_iff h]; ring

/-- **complex division**, componentwise: two units in the last place -/
theorem C04_div {z w : Mpc} (hz : CanonFinC z) (hw : CanonFinC w) (hw0 : ¬ (w.1 = fzero ∧ w.2 = fzero))
    {prec : ℤ} (hp : 0 < prec) (rnd : Rnd) :
    ∃ re im, mpc_div z w prec rnd = .ok (re, im) ∧ CanonFin re ∧ CanonFin im ∧ re.bc ≤ prec ∧ im.bc ≤ prec ∧
      |val re - cdivRe (val z.1) (val z.2) (val w.1) (val w.2)| ≤
        |cdivRe (val z.1) (val z.2) (val w.1) (val w.2)| * 2 ^ (2 - prec) ∧
      |val im - cdivIm (val z.1) (val z.2) (val w.1) (val w.2)| ≤
        |cdivIm (val z.1) (val z.2) (val w.1) (val w.2)| * 2 ^ (2 - prec) := by
  have hp10 : (0 : ℤ) ≤ prec + 10 := by omega
  have hmag := add_mul_spec hw.1 hw.2 hw.1 hw.2 hp10 .d
  have ht := add_mul_spec hz.1 hz.2 hw.1 hw.2 hp10 .d
  have hu := sub_mul_spec hz.2 hz.1 hw.1 hw.2 hp10 .d
  have hM := normsq_pos hw.1 hw.2 hw0
  obtain ⟨re, hre, c1, b1, e1⟩ := quotient_spec hp rnd ht.canon (ht.relerr (by omega)) hmag hM
  obtain ⟨im, him, c2, b2, e2⟩ := quotient_spec hp rnd hu.canon (hu.relerr (by omega)) hmag hM
  refine ⟨re, im, ?_, c1, c2, b1, b2, e1, e2⟩
  unfold mpc_div
  simp only [hre, him]
  rfl

/-- componentwise relative error `e` implies relative error `e` in modulus (squared form, no square roots) -/
theorem modulus_of_componentwise {x y R I e : ℚ} (hx : |x - R| ≤ |R| * e) (hy : |y - I| ≤ |I| * e) :
    (x - R) ^ 2 + (y - I) ^ 2 ≤ e ^ 2 * (R ^ 2 + I ^ 2) := by
  rw [mul_add]
  exact add_le_add (sq_le_of_rel hx) (sq_le_of_rel hy)

/-- **complex division, in modulus**: `|q − z/w|² ≤ (2^(2−prec))² |z/w|²` -/
theorem C04_div_modulus {z w : Mpc} (hz : CanonFinC z) (hw : CanonFinC w) (hw0 : ¬ (w.1 = fzero ∧ w.2 = fzero))
    {prec : ℤ} (hp : 0 < prec) (rnd : Rnd) :
    ∃ re im, mpc_div z w prec rnd = .ok (re, im) ∧
      (val re - cdivRe (val z.1) (val z.2) (val w.1) (val w.2)) ^ 2 +
        (val im - cdivIm (val z.1) (val z.2) (val w.1) (val w.2)) ^ 2 ≤
      ((2 : ℚ) ^ (2 - prec)) ^ 2 *
        (cdivRe (val z.1) (val z.2) (val w.1) (val w.2) ^ 2 + cdivIm (val z.1) (val z.2) (val w.1) (val w.2) ^ 2) := by
  obtain ⟨re, im, h, _, _, _, _, e1, e2⟩ := C04_div hz hw hw0 hp rnd
  exact ⟨re, im, h, modulus_of_componentwise e1 e2⟩

/-- **reciprocal** `1/z`: components `a/(a²+b²)` and `−b/(a²+b²)`, two units in the last place each -/
theorem C04_reciprocal {z : Mpc} (hz : CanonFinC z) (hz0 : ¬ (z.1 = fzero ∧ z.2 = fzero))
    {prec : ℤ} (hp : 0 < prec) (rnd : Rnd) :
    ∃ re im, mpc_reciprocal z prec rnd = .ok (re, im) ∧ CanonFin re ∧ CanonFin im ∧ re.bc ≤ prec ∧ im.bc ≤ prec ∧
      |val re - val z.1 / (val z.1 * val z.1 + val z.2 * val z.2)| ≤
        |val z.1 / (val z.1 * val z.1 + val z.2 * val z.2)| * 2 ^ (2 - prec) ∧
      |val im - (-(val z.2 / (val z.1 * val z.1 + val z.2 * val z.2)))| ≤
        |val z.2 / (val z.1 * val z.1 + val z.2 * val z.2)| * 2 ^ (2 - prec) :=
  mpc_reciprocal_spec hz.1 hz.2 hz0 hp rnd

theorem C04_mpf_div {p : Mpf} (hpc : CanonFin p) {z : Mpc} (hz : CanonFinC z) (hz0 : ¬ (z.1 = fzero ∧ z.2 = fzero))
    {prec : ℤ} (hp : 0 < prec) (rnd : Rnd) :
    ∃ re im, mpc_mpf_div p z prec rnd = .ok (re, im) ∧ CanonFin re ∧ CanonFin im ∧ re.bc ≤ prec ∧ im.bc ≤ prec ∧
      |val re - val z.1 * val p / (val z.1 * val z.1 + val z.2 * val z.2)| ≤
        |val z.1 * val p / (val z.1 * val z.1 + val z.2 * val z.2)| * 2 ^ (2 - prec) ∧
      |val im - (-(val z.2 * val p)) / (val z.1 * val z.1 + val z.2 * val z.2)| ≤
        |(-(val z.2 * val p)) / (val z.1 * val z.1 + val z.2 * val z.2)| * 2 ^ (2 - prec) := by
  obtain ⟨kap, vap, _⟩ := mul_exact hz.1 hpc
  obtain ⟨kbp, vbp, _⟩ := mul_exact hz.2 hpc
  obtain ⟨n1, n2, _⟩ := val_mpf_neg0 kbp
  have hmag := add_mul_spec hz.1 hz.2 hz.1 hz.2 (by omega : (0 : ℤ) ≤ prec + 10) .d
  have hM := normsq_pos hz.1 hz.2 hz0
  obtain ⟨re, hre, c1, b1, e1⟩ := quotient_spec_exact hp rnd kap hmag hM
  obtain ⟨im, him, c2, b2, e2⟩ := quotient_spec_exact hp rnd n1 hmag hM
  rw [vap] at e1
  rw [n2, vbp] at e2
  refine ⟨re, im, ?_, c1, c2, b1, b2, e1, e2⟩
  unfold mpc_mpf_div
  simp only [hre, him]
  rfl

/-- **complex / real**: each component correctly rounded -/
theorem C04_div_mpf {z : Mpc} (hz : CanonFinC z) {p : Mpf} (hpc : CanonFin p) (hp0 : p ≠ fzero)
    {prec : ℤ} (hp : 0 < prec) (rnd : Rnd) :
    ∃ re im, mpc_div_mpf z p prec rnd = .ok (re, im) ∧
      RoundOK prec rnd (val z.1 / val p) re ∧ RoundOK prec rnd (val z.2 / val p) im := by
  obtain ⟨re, h1, r1⟩ := mpf_div_spec hz.1 hpc hp0 hp rnd
  obtain ⟨im, h2, r2⟩ := mpf_div_spec hz.2 hpc hp0 hp rnd
  refine ⟨re, im, ?_, r1, r2⟩
  unfold mpc_div_mpf
  simp only [h1, h2]
  rfl

/-! non-vacuity: (1 + 2i)/(3 − i) = (1 + 7i)/10 at 53 bits, nearest -/
example : mpc_div (⟨0, 1, 0, 1⟩, ⟨0, 1, 1, 1⟩) (⟨0, 3, 0, 2⟩, ⟨1, 1, 0, 1⟩) 53 .n =
    .ok (⟨0, 3602879701896397, -55, 52⟩, ⟨0, 3152519739159347, -52, 52⟩) := by decide
example : cdivRe 1 2 3 (-1) = 1 / 10 ∧ cdivIm 1 2 3 (-1) = 7 / 10 := by norm_num [cdivRe, cdivIm]

end Mp

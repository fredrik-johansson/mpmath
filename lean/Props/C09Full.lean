/-
  Props/C09Full.lean — `to_float_nearest`: the hypothesis of `to_float_nearest_partial` discharged with
  `Mp.normalize1_spec` (MpProofs/Normalize.lean).
-/
import Props.C09
import MpProofs.Normalize

namespace Mp
open H

/-- `float(x)` under rounding mode n, for every canonical `x` with `2^-1022 ≤ |x|`: with `r` the 53-bit
round-to-nearest-even of `x`, the result is the normal double of value exactly `r` when `|r| < 2^1024`, and
`±inf` (OverflowError if `strict`) when `|r| ≥ 2^1024`.  No hypothesis left. -/
theorem to_float_nearest (x : Mpf) (hx : CanonFin x) (hm : x.man ≠ 0)
    (hlow : (2:ℚ) ^ (-1022 : ℤ) ≤ |val x|) :
    ∃ r : Mpf, IsRoundN 53 (val x) (val r) ∧
      (|val r| < (2:ℚ) ^ (1024 : ℤ) →
        ∃ d : Dbl, to_float x false .n = .ok d ∧ to_float x true .n = .ok d ∧ d.WF ∧ 1 ≤ d.ex ∧ d.ex ≤ 2046 ∧
          doubleVal d = val r) ∧
      ((2:ℚ) ^ (1024 : ℤ) ≤ |val r| →
        to_float x false .n = .ok (Dbl.inf x.sign) ∧ to_float x true .n = .error .overflow) := by
  apply to_float_nearest_partial x hx hm hlow
  intro _
  have hxc : x.sign ≤ 1 ∧ x.man % 2 = 1 ∧ x.bc = (bitcount x.man : Int) := by
    rcases hx with h | h
    · rw [h] at hm; simp [fzero] at hm
    · exact h
  have := normalize1_spec hxc.1 (Or.inl hxc.2.1) x.exp (by norm_num : (0:Int) < 53) .n
  rw [hxc.2.2]
  have hv : val x = (-1 : ℚ) ^ x.sign * ((x.man : ℚ) * 2 ^ x.exp) := by unfold val; ring
  rw [hv]; exact this

end Mp

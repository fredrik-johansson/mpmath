/-
  Props/C04.lean — C04: complex arithmetic is correctly rounded per component.
  A complex number is a pair of raw mpf values; `CanonFinC z` : both components finite canonical.
  For all components of any bit length, all precisions (`0` = exact) and all five rounding modes.
-/
import MpProofs.CArith

namespace Mp

def CanonFinC (z : Mpc) : Prop := CanonFin z.1 ∧ CanonFin z.2

theorem C04_add {z w : Mpc} (hz : CanonFinC z) (hw : CanonFinC w) {prec : ℤ} (hp : 0 ≤ prec) (rnd : Rnd) :
    RoundOK prec rnd (val z.1 + val w.1) (mpc_add z w prec rnd).1 ∧
    RoundOK prec rnd (val z.2 + val w.2) (mpc_add z w prec rnd).2 :=
  ⟨mpf_add_spec hz.1 hw.1 hp rnd false, mpf_add_spec hz.2 hw.2 hp rnd false⟩

theorem C04_sub {z w : Mpc} (hz : CanonFinC z) (hw : CanonFinC w) {prec : ℤ} (hp : 0 ≤ prec) (rnd : Rnd) :
    RoundOK prec rnd (val z.1 - val w.1) (mpc_sub z w prec rnd).1 ∧
    RoundOK prec rnd (val z.2 - val w.2) (mpc_sub z w prec rnd).2 :=
  ⟨mpf_sub_spec hz.1 hw.1 hp rnd, mpf_sub_spec hz.2 hw.2 hp rnd⟩

/-- `z * w`: real part `ac − bd`, imaginary part `ad + bc`, each rounded ONCE (the four products are
formed exactly). -/
theorem C04_mul {z w : Mpc} (hz : CanonFinC z) (hw : CanonFinC w) {prec : ℤ} (hp : 0 ≤ prec) (rnd : Rnd) :
    RoundOK prec rnd (val z.1 * val w.1 - val z.2 * val w.2) (mpc_mul z w prec rnd).1 ∧
    RoundOK prec rnd (val z.1 * val w.2 + val z.2 * val w.1) (mpc_mul z w prec rnd).2 :=
  ⟨sub_mul_spec hz.1 hz.2 hw.1 hw.2 hp rnd, add_mul_spec hz.1 hz.2 hw.2 hw.1 hp rnd⟩

theorem C04_mul_mpf {z : Mpc} (hz : CanonFinC z) {x : Mpf} (hx : CanonFin x) {prec : ℤ} (hp : 0 ≤ prec) (rnd : Rnd) :
    RoundOK prec rnd (val z.1 * val x) (mpc_mul_mpf z x prec rnd).1 ∧
    RoundOK prec rnd (val z.2 * val x) (mpc_mul_mpf z x prec rnd).2 :=
  ⟨mpf_mul_spec hz.1 hx hp rnd, mpf_mul_spec hz.2 hx hp rnd⟩

theorem C04_mul_int {z : Mpc} (hz : CanonFinC z) (n : ℤ) {prec : ℤ} (hp : 0 < prec) (rnd : Rnd) :
    RoundOK prec rnd (val z.1 * n) (mpc_mul_int z n prec rnd).1 ∧
    RoundOK prec rnd (val z.2 * n) (mpc_mul_int z n prec rnd).2 :=
  ⟨mpf_mul_int_spec hz.1 n hp rnd, mpf_mul_int_spec hz.2 n hp rnd⟩

theorem C04_neg_pos {z : Mpc} (hz : CanonFinC z) {prec : ℤ} (hp : 0 ≤ prec) (rnd : Rnd) :
    RoundOK prec rnd (-val z.1) (mpc_neg z prec rnd).1 ∧ RoundOK prec rnd (-val z.2) (mpc_neg z prec rnd).2 ∧
    RoundOK prec rnd (val z.1) (mpc_pos z prec rnd).1 ∧ RoundOK prec rnd (val z.2) (mpc_pos z prec rnd).2 :=
  ⟨mpf_neg_spec hz.1 hp rnd, mpf_neg_spec hz.2 hp rnd, mpf_pos_spec hz.1 hp rnd, mpf_pos_spec hz.2 hp rnd⟩

theorem C04_square_re {z : Mpc} (hz : CanonFinC z) {prec : ℤ} (hp : 0 ≤ prec) (rnd : Rnd) :
    RoundOK prec rnd (val z.1 * val z.1 - val z.2 * val z.2) (mpc_square z prec rnd).1 :=
  sub_mul_spec hz.1 hz.2 hz.1 hz.2 hp rnd

/-- `z + x` (x real): the real part is correctly rounded; the imaginary part is returned UNCHANGED
(known-findings entries `F3-fadd`, `F3-fsub`, `F3-operator.add`), which is the known finding F3: it can carry more than `prec` bits. -/
theorem C04_add_mpf_partial {z : Mpc} (hz : CanonFinC z) {x : Mpf} (hx : CanonFin x) {prec : ℤ} (hp : 0 ≤ prec)
    (rnd : Rnd) :
    RoundOK prec rnd (val z.1 + val x) (mpc_add_mpf z x prec rnd).1 ∧ (mpc_add_mpf z x prec rnd).2 = z.2 :=
  ⟨mpf_add_spec hz.1 hx hp rnd false, rfl⟩

/-- F3 witness: the imaginary part keeps 7 bits at precision 2 -/
theorem C04_add_mpf_counterexample :
    ¬ RoundOK 2 .n (val (⟨0, 0x4f, -1, 7⟩ : Mpf)) (mpc_add_mpf (fone, ⟨0, 0x4f, -1, 7⟩) fone 2 .n).2 := by
  intro h
  have := h.bc_le (by norm_num)
  revert this
  decide

example : CanonFinC ((⟨0, 3, -1, 2⟩, ⟨1, 0x1fffffffffffffffffff, -70, 77⟩) : Mpc) := ⟨by decide, by decide⟩

end Mp

/-
  MpProofs/EnclExamples.lean — non-vacuity of the verified reference evaluator (kernel evaluation).
-/
import MpProofs.EnclSound

namespace Mp.Encl

/-! ### non-vacuity: the checker does return `ok` / `violates` on concrete inputs
(24-bit values returned by mpmath for exp(1), log(3), √2, atan(1), sin(5), cos(5), tan(5), tanh(1);
kernel evaluation only) -/

/-- the verdict of the first working precision stands unless it is `undecided` -/
theorem accCheck_of_first {f : FunId} {x y : Dy} {p k : ℕ} {F : DI} {v : Verdict}
    (hF : evalPoint f (p + 32) x = some F) (hd : decide1 F y ⟨1, (k : ℤ) - (p : ℤ)⟩ = v)
    (hv : v ≠ .undecided) : accCheck f x y p k = v := by
  unfold accCheck accLoop
  rw [hF]
  simp only
  rw [hd]
  cases v <;> simp at hv ⊢

/-! Enclosures that several of the checks below evaluate (the first working precision for `p = 24` is 56):
each is computed once. -/

theorem expI_one : expI 56 (DI.point ⟨1, 0⟩) = ⟨⟨48968212118944586, -54⟩, ⟨48968212118944587, -54⟩⟩ := by
  decide +kernel

theorem cosSinI_five : cosSinI 56 (DI.point ⟨5, 0⟩) =
    (⟨⟨2679113594178185633582, -73⟩, ⟨2679113594178185633595, -73⟩⟩,
     ⟨⟨-4528391854279290852189, -72⟩, ⟨-4528391854279290852177, -72⟩⟩) := by decide +kernel

theorem cosSinPi_seven : cosSinPi 56 ⟨7, 0⟩ =
    (⟨⟨-1, 0⟩, ⟨-2361183241434822606848, -71⟩⟩, ⟨⟨0, -583⟩, ⟨0, -583⟩⟩) := by decide +kernel

example : accCheck .exp ⟨1, 0⟩ ⟨2850325, -20⟩ 24 4 = .ok :=
  accCheck_of_first (congrArg some expI_one) (by decide +kernel) (by decide)
example : accCheck .exp ⟨1, 0⟩ ⟨2850325 + 40, -20⟩ 24 4 = .violates :=
  accCheck_of_first (congrArg some expI_one) (by decide +kernel) (by decide)
example : accCheck .log ⟨3, 0⟩ ⟨2303957, -21⟩ 24 4 = .ok := by decide +kernel
example : accCheck .sqrt ⟨2, 0⟩ ⟨11863283, -23⟩ 24 4 = .ok := by decide +kernel
example : accCheck .atan ⟨1, 0⟩ ⟨13176795, -24⟩ 24 4 = .ok := by decide +kernel
example : accCheck .sin ⟨5, 0⟩ ⟨-1005505, -20⟩ 24 4 = .ok :=
  accCheck_of_first (congrArg (fun P : DI × DI => some (P.2.round 56)) cosSinI_five) (by decide +kernel) (by decide)
example : accCheck .cos ⟨5, 0⟩ ⟨2379531, -23⟩ 24 4 = .ok :=
  accCheck_of_first (congrArg (fun P : DI × DI => some (P.1.round 56)) cosSinI_five) (by decide +kernel) (by decide)
example : accCheck .tan ⟨5, 0⟩ ⟨-3544727, -20⟩ 24 4 = .ok := by decide +kernel
example : accCheck .tanh ⟨1, 0⟩ ⟨6388715, -23⟩ 24 4 = .ok := by decide +kernel
example : accCheck .pi ⟨0, 0⟩ ⟨13176795, -22⟩ 24 4 = .ok := by decide +kernel
example : accCheck .sin ⟨5, 0⟩ ⟨-1005505 - 40, -20⟩ 24 4 = .violates :=
  accCheck_of_first (congrArg (fun P : DI × DI => some (P.2.round 56)) cosSinI_five) (by decide +kernel) (by decide)
example : (evalPoint .acosh 24 ⟨3, 0⟩).isSome = true := by decide +kernel
example : evalPoint .acosh 24 ⟨1, -1⟩ = none := by decide +kernel
example : (evalPoint .asin 24 ⟨1, 0⟩).isSome = true := by decide +kernel
example : evalPoint .asin 24 ⟨3, -1⟩ = none := by decide +kernel
example : accCheck .cospi ⟨7, 0⟩ ⟨-1, 0⟩ 24 0 = .ok :=
  accCheck_of_first (congrArg (fun P : DI × DI => some (P.1.round 56)) cosSinPi_seven) (by decide +kernel) (by decide)
example : accCheck .sinpi ⟨7, 0⟩ ⟨0, 0⟩ 24 0 = .ok :=
  accCheck_of_first (congrArg (fun P : DI × DI => some (P.2.round 56)) cosSinPi_seven) (by decide +kernel) (by decide)

/-- FINDING (C12): the value mpmath returns for `acosh(1 + 2^-52)` at 53 bits is rigorously outside the
`2^(10-p)` relative error bound (only ~42 correct bits). -/
example : accCheck .acosh ⟨4503599627370497, -52⟩ ⟨3109888511975, -67⟩ 53 10 = .violates := by decide +kernel
-- log returns an enclosure on a positive interval, refuses a non-positive one
example : (logI 24 ⟨⟨3, 0⟩, ⟨7, -1⟩⟩).isSome = true := by decide +kernel
example : logI 24 ⟨⟨0, 0⟩, ⟨7, -1⟩⟩ = none := by decide +kernel

end Mp.Encl

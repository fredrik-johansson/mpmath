import MpProofs.Spec
import MpProofs.Sweep
import MpProofs.Bits
import MpProofs.Format
import MpProofs.Normalize
import MpProofs.Arith
import MpProofs.Add
import MpProofs.Div
import MpProofs.Faithful
import MpProofs.Pow
import MpProofs.IntPart
import MpProofs.CArith
import MpProofs.CPow
import MpProofs.CDiv
import MpProofs.CPowNeg
import MpProofs.IntervalPow
import MpProofs.CIntervalAbs
import MpProofs.CIntervalPow
import MpProofs.Sqrt
import MpProofs.Sum
import MpProofs.IntervalMore
import MpProofs.IntervalDiv
import MpProofs.Hash
import MpProofs.Interval
import MpProofs.Cmp
import MpProofs.Str
import MpProofs.StrFrom
import MpProofs.StrFmt
import MpProofs.StrRepr
import MpProofs.IntFun
import MpProofs.IntFunEuler
import MpProofs.IntFunNT
import MpProofs.IntFunReach
import MpProofs.IntFunSieve
import MpProofs.IntFunSqrt
import MpProofs.Cache
import MpProofs.CacheNormalize
import MpProofs.EnclArith
import MpProofs.EnclExp
import MpProofs.EnclLog
import MpProofs.EnclAtan
import MpProofs.EnclTrig
import MpProofs.EnclDerived
import MpProofs.EnclSound
import MpProofs.EnclExamples
import MpProofs.Skel
import MpProofs.PrecConvRoundtrip
import MpProofs.Cert
import MpProofs.CertSolve
import MpProofs.CertResid
import MpProofs.Helpers
import MpProofs.HelpersFloat
import MpProofs.RootCert
import MpProofs.RootOrder
import MpProofs.LoopSkel
import MpProofs.IntervalSound
import MpProofs.CacheOld
import MpProofs.StrIv
import MpProofs.Encl2Sound
import MpProofs.IntFunEulerFast
import MpProofs.IntFunRef
import MpProofs.World
import MpProofs.RelCert
import MpProofs.Backend
import MpProofs.SpecRef
import MpProofs.SpecRefGamma
import MpProofs.SpecRefZeta
import MpProofs.SpecRefHyper
import MpProofs.CalcRef
import MpProofs.CalcFam
import MpProofs.CalcSer
import MpProofs.CalcLogicA
import MpProofs.CalcLogicB
import MpProofs.CalcDiff
import MpProofs.CalcOde
import MpProofs.OdeSeg
import MpProofs.SpecRef2
import MpProofs.CalcSerX
import MpProofs.CalcOdeX
import MpProofs.WorldPC

/-
  MpProofs/CalcSer.lean — the series and product families of `MpModel/CalcSer.lean` converge to their
  closed forms (Mathlib: geometric series, ζ(2), ζ(4), exp/sin/cos/log series, Leibniz, telescoping, Euler).
-/
import MpModel.CalcSer
import MpProofs.CalcFam
import Mathlib.NumberTheory.ZetaValues
import Mathlib.Analysis.SpecificLimits.Normed
import Mathlib.Analysis.SpecialFunctions.Trigonometric.Series
import Mathlib.Analysis.SpecialFunctions.Log.Deriv
import Mathlib.Analysis.Real.Pi.Leibniz
import Mathlib.Analysis.SpecialFunctions.Complex.LogBounds
import Mathlib.Analysis.SpecialFunctions.Exponential

namespace Mp.Calc
open Filter Topology Finset

/-- the `k`-th term as a real number -/
noncomputable def Ser.term (s : Ser) (k : ℕ) : ℝ := ((s.termQ k : ℚ) : ℝ)

/-- the `k`-th factor as a real number -/
noncomputable def Prd.factor (s : Prd) (k : ℕ) : ℝ := ((s.factorQ k : ℚ) : ℝ)

theorem qAbs_lt_one {r : ℚ} (h : qAbs r < 1) : |(r : ℝ)| < 1 := by
  rw [qAbs, ite_neg_eq_abs] at h
  exact_mod_cast h

/-- the partial fraction behind the telescoping sum -/
theorem one_div_mul_succ {x : ℝ} (hx : x ≠ 0) (hx1 : x + 1 ≠ 0) : 1 / (x * (x + 1)) = 1 / x - 1 / (x + 1) := by
  rw [div_sub_div _ _ hx hx1]; congr 1; ring

theorem tele_partial (a n : ℕ) :
    ∑ k ∈ range n, (1 : ℝ) / (((1 + k + a : ℕ) : ℝ) * ((1 + k + a + 1 : ℕ) : ℝ)) =
      1 / ((a : ℝ) + 1) - 1 / ((n : ℝ) + a + 1) := by
  induction n with
  | zero => simp
  | succ n ih =>
    rw [sum_range_succ, ih]
    push_cast
    rw [show (1 : ℝ) + n + a = n + a + 1 by ring,
      one_div_mul_succ (x := (n : ℝ) + a + 1) (by positivity) (by positivity)]
    ring

theorem tendsto_inv_nat_add (c : ℝ) : Tendsto (fun n : ℕ => 1 / ((n : ℝ) + c)) atTop (𝓝 0) := by
  have h := tendsto_natCast_atTop_atTop (R := ℝ)
  have h2 : Tendsto (fun n : ℕ => (n : ℝ) + c) atTop atTop := tendsto_atTop_add_const_right _ _ h
  exact (h2.inv_tendsto_atTop).congr fun n => by simp

theorem tendsto_sum_of_eq {f g : ℕ → ℝ} {L L' : ℝ} (hg : Tendsto (fun n => ∑ k ∈ range n, g k) atTop (𝓝 L'))
    (hfg : ∀ k, f k = g k) (hL : L' = L) : Tendsto (fun n => ∑ k ∈ range n, f k) atTop (𝓝 L) := by
  subst hL
  rwa [show f = g from funext hfg]

/-- **partial sums tend to the closed form** (the definition of the value `nsum` approximates) -/
theorem Ser.tendsto_partial (s : Ser) (r : Ref) (h : s.sumRef = some r) :
    Tendsto (fun n => ∑ k ∈ range n, s.term (s.start + k)) atTop (𝓝 r.sem) := by
  cases s with
  | geom c q k0 =>
    by_cases hq : qAbs q < 1
    · obtain rfl : Ref.rat (c * q ^ k0 / (1 - q)) = r := by simpa [Ser.sumRef, hq] using h
      have hq' := qAbs_lt_one hq
      refine tendsto_sum_of_eq
        ((hasSum_geometric_of_abs_lt_one hq').mul_left ((c : ℝ) * (q : ℝ) ^ k0)).tendsto_sum_nat
        (fun k => ?_) ?_
      · simp only [Ser.term, Ser.termQ, Ser.start]; push_cast; rw [pow_add, mul_assoc]
      · simp only [Ref.sem]; push_cast; rw [div_eq_mul_inv]
    · simp [Ser.sumRef, hq] at h
  | zeta2 =>
    obtain rfl := Option.some.inj h
    refine tendsto_sum_of_eq ((hasSum_nat_add_iff' 1).mpr hasSum_zeta_two).tendsto_sum_nat (fun k => ?_) ?_
    · simp only [Ser.term, Ser.termQ, Ser.start]; push_cast; rw [add_comm]
    · simp [Ref.sem]; ring
  | zeta4 =>
    obtain rfl := Option.some.inj h
    refine tendsto_sum_of_eq ((hasSum_nat_add_iff' 1).mpr hasSum_zeta_four).tendsto_sum_nat (fun k => ?_) ?_
    · simp only [Ser.term, Ser.termQ, Ser.start]; push_cast; rw [add_comm]
    · simp [Ref.sem]; ring
  | tele a =>
    obtain rfl := Option.some.inj h
    have h1 : (fun n => ∑ k ∈ range n, (Ser.tele a).term ((Ser.tele a).start + k)) =
        fun n : ℕ => 1 / ((a : ℝ) + 1) - 1 / ((n : ℝ) + (a + 1)) := by
      funext n
      rw [← add_assoc, ← tele_partial a n]
      apply sum_congr rfl; intro k _
      simp only [Ser.term, Ser.termQ, Ser.start]; push_cast; ring
    rw [h1]
    have h2 := (tendsto_inv_nat_add ((a : ℝ) + 1)).const_sub (1 / ((a : ℝ) + 1))
    simpa [Ref.sem] using h2
  | expS x =>
    obtain rfl := Option.some.inj h
    refine tendsto_sum_of_eq (NormedSpace.expSeries_div_hasSum_exp (x : ℝ)).tendsto_sum_nat (fun k => ?_)
      (Real.exp_eq_exp_ℝ ▸ rfl : NormedSpace.exp (x : ℝ) = Real.exp (x : ℝ))
    simp only [Ser.term, Ser.termQ, Ser.start, natFactorial_eq, zero_add]; push_cast; rfl
  | sinS x =>
    obtain rfl := Option.some.inj h
    refine tendsto_sum_of_eq (Real.hasSum_sin (x : ℝ)).tendsto_sum_nat (fun k => ?_) rfl
    simp only [Ser.term, Ser.termQ, Ser.start, natFactorial_eq, zero_add]; push_cast; rfl
  | cosS x =>
    obtain rfl := Option.some.inj h
    refine tendsto_sum_of_eq (Real.hasSum_cos (x : ℝ)).tendsto_sum_nat (fun k => ?_) rfl
    simp only [Ser.term, Ser.termQ, Ser.start, natFactorial_eq, zero_add]; push_cast; rfl
  | logS x =>
    by_cases hx : qAbs x < 1
    · obtain rfl : Ref.neg (.log (.rat (1 - x))) = r := by simpa [Ser.sumRef, hx] using h
      refine tendsto_sum_of_eq
        (Real.hasSum_pow_div_log_of_abs_lt_one (qAbs_lt_one hx)).tendsto_sum_nat (fun k => ?_) ?_
      · simp only [Ser.term, Ser.termQ, Ser.start]; push_cast
        rw [add_comm 1 k, add_comm (1 : ℝ) (k : ℝ)]
      · simp [Ref.sem]
    · simp [Ser.sumRef, hx] at h
  | leibniz =>
    obtain rfl := Option.some.inj h
    refine tendsto_sum_of_eq Real.tendsto_sum_pi_div_four (fun k => ?_) ?_
    · simp only [Ser.term, Ser.termQ, Ser.start, zero_add]; push_cast; rfl
    · simp [Ref.sem]; ring

/-- test vector: the double nearest `π²/6` is accepted as the value of `Σ 1/k²`, `13/8` is not.  One statement, so
that the kernel computes the enclosure of `π²/6` once. -/
theorem Example.zeta2_verdicts :
    checkClose (Ser.zeta2.sumRef.getD (.rat 0)) ⟨7408124450506707, -52⟩ 53 10 0 false = .ok ∧
    checkClose (Ser.zeta2.sumRef.getD (.rat 0)) ⟨13, -3⟩ 53 10 0 false = .violates := by
  decide +kernel

/-- the accumulation loops of the model's exact partial sums and products -/
theorem foldl_range_add (f : ℕ → ℚ) (n : ℕ) :
    (List.range n).foldl (fun acc i => acc + f i) 0 = ∑ i ∈ range n, f i := by
  induction n with
  | zero => rfl
  | succ n ih => rw [List.range_succ, List.foldl_append, ih, sum_range_succ]; rfl

theorem foldl_range_mul (f : ℕ → ℚ) (n : ℕ) :
    (List.range n).foldl (fun acc i => acc * f i) 1 = ∏ i ∈ range n, f i := by
  induction n with
  | zero => rfl
  | succ n ih => rw [List.range_succ, List.foldl_append, ih, prod_range_succ]; rfl

theorem Ser.partial_eq (s : Ser) (a b : ℕ) :
    ((s.partial a b : ℚ) : ℝ) = ∑ i ∈ range (b + 1 - a), s.term (a + i) := by
  rw [Ser.partial, foldl_range_add, Rat.cast_sum]; rfl

theorem tele1_partial (n : ℕ) :
    ∏ k ∈ range n, (1 - 1 / (((2 + k : ℕ) : ℝ)) ^ 2) = ((n : ℝ) + 2) / (2 * ((n : ℝ) + 1)) := by
  induction n with
  | zero => simp
  | succ n ih =>
    rw [prod_range_succ, ih]
    push_cast
    have h1 : ((n : ℝ) + 1) ≠ 0 := by positivity
    have h2 : ((2 : ℝ) + n) ≠ 0 := by positivity
    have h3 : ((n : ℝ) + 1 + 1) ≠ 0 := by positivity
    field_simp
    ring

theorem tele2_partial (n : ℕ) :
    ∏ k ∈ range n, (1 + 1 / ((((1 + k : ℕ) : ℝ)) * (((1 + k + 2 : ℕ)) : ℝ))) =
      2 * ((n : ℝ) + 1) / ((n : ℝ) + 2) := by
  induction n with
  | zero => simp
  | succ n ih =>
    rw [prod_range_succ, ih]
    push_cast
    have h1 : ((n : ℝ) + 2) ≠ 0 := by positivity
    have h2 : ((1 : ℝ) + n) ≠ 0 := by positivity
    have h3 : ((1 : ℝ) + n + 2) ≠ 0 := by positivity
    have h4 : ((n : ℝ) + 1 + 2) ≠ 0 := by positivity
    field_simp
    ring

theorem tendsto_ratio (p q : ℝ) : Tendsto (fun n : ℕ => ((n : ℝ) + p) / ((n : ℝ) + q)) atTop (𝓝 1) := by
  have h : (fun n : ℕ => ((n : ℝ) + p) / ((n : ℝ) + q)) =ᶠ[atTop] fun n : ℕ => 1 + (p - q) * (1 / ((n : ℝ) + q)) := by
    have hev : ∀ᶠ n : ℕ in atTop, (n : ℝ) + q ≠ 0 := by
      have h2 : Tendsto (fun n : ℕ => (n : ℝ) + q) atTop atTop :=
        tendsto_atTop_add_const_right _ _ (tendsto_natCast_atTop_atTop (R := ℝ))
      exact (h2.eventually_gt_atTop 0).mono fun n hn => ne_of_gt hn
    filter_upwards [hev] with n hn
    field_simp; ring
  rw [tendsto_congr' h]
  simpa using ((tendsto_inv_nat_add q).const_mul (p - q)).const_add 1

/-- **partial products tend to the closed form** -/
theorem Prd.tendsto_partial (s : Prd) (r : Ref) (h : s.prodRef = some r) :
    Tendsto (fun n => ∏ k ∈ range n, s.factor (s.start + k)) atTop (𝓝 r.sem) := by
  cases s with
  | tele1 =>
    simp only [Prd.prodRef, Option.some.injEq] at h; subst h
    have h1 : (fun n => ∏ k ∈ range n, Prd.tele1.factor (Prd.tele1.start + k)) =
        fun n : ℕ => (1 / 2 : ℝ) * (((n : ℝ) + 2) / ((n : ℝ) + 1)) := by
      funext n
      have := tele1_partial n
      have h2 : ((n : ℝ) + 1) ≠ 0 := by positivity
      rw [show (1 / 2 : ℝ) * (((n : ℝ) + 2) / ((n : ℝ) + 1)) = ((n : ℝ) + 2) / (2 * ((n : ℝ) + 1)) by
        field_simp, ← this]
      apply prod_congr rfl; intro k _
      simp only [Prd.factor, Prd.factorQ, Prd.start]; push_cast; ring
    rw [h1]
    have := (tendsto_ratio 2 1).const_mul (1 / 2 : ℝ)
    simpa [Ref.sem] using this
  | tele2 =>
    simp only [Prd.prodRef, Option.some.injEq] at h; subst h
    have h1 : (fun n => ∏ k ∈ range n, Prd.tele2.factor (Prd.tele2.start + k)) =
        fun n : ℕ => (2 : ℝ) * (((n : ℝ) + 1) / ((n : ℝ) + 2)) := by
      funext n
      have := tele2_partial n
      rw [show (2 : ℝ) * (((n : ℝ) + 1) / ((n : ℝ) + 2)) = 2 * ((n : ℝ) + 1) / ((n : ℝ) + 2) by ring, ← this]
      apply prod_congr rfl; intro k _
      simp only [Prd.factor, Prd.factorQ, Prd.start]; push_cast; ring
    rw [h1]
    have := (tendsto_ratio 1 2).const_mul (2 : ℝ)
    simpa [Ref.sem] using this
  | ratio a b => simp [Prd.prodRef] at h

theorem Prd.partial_eq (s : Prd) (a b : ℕ) :
    ((s.partial a b : ℚ) : ℝ) = ∏ i ∈ range (b + 1 - a), s.factor (a + i) := by
  rw [Prd.partial, foldl_range_mul, Rat.cast_prod]; rfl

/-- the function whose limit is taken, and the filter along which -/
noncomputable def Lim.fn : Lim → ℝ → ℝ
  | .ratSeq a b c d, x => ((a : ℝ) * x + b) / ((c : ℝ) * x + d)
  | .euler t, x => (1 + (t : ℝ) / x) ^ x
  | .slopeExp c, x => (Real.exp ((c : ℝ) * x) - 1) / x
  | .slopeSin c, x => Real.sin ((c : ℝ) * x) / x

/-- `x → +∞` for the sequence-type families, `x → 0, x ≠ 0` for the slope-type ones -/
noncomputable def Lim.filter : Lim → Filter ℝ
  | .ratSeq _ _ _ _ => atTop
  | .euler _ => atTop
  | .slopeExp _ => 𝓝[≠] 0
  | .slopeSin _ => 𝓝[≠] 0

/-- the integer-indexed version of the Euler limit (`limit` may sample `n = 1, 2, 3, …`) -/
theorem euler_tendsto_nat (t : ℚ) :
    Tendsto (fun n : ℕ => (1 + (t : ℝ) / n) ^ n) atTop (𝓝 (Real.exp t)) :=
  Real.tendsto_one_add_div_pow_exp (t : ℝ)

theorem tendsto_sum_range_shift {f : ℕ → ℝ} {L : ℝ} (m : ℕ)
    (hf : Tendsto (fun n => ∑ k ∈ range n, f k) atTop (𝓝 L)) :
    Tendsto (fun n => ∑ k ∈ range n, f (m + k)) atTop (𝓝 (L - ∑ i ∈ range m, f i)) := by
  refine (((tendsto_add_atTop_iff_nat m).2 hf).sub_const _).congr fun n => ?_
  rw [add_comm n m, sum_range_add, add_sub_cancel_left]

/-- product of two convergent series: the square partial sums of `a_j·b_k` tend to the product of the sums -/
theorem tendsto_square_partial (f g : ℕ → ℝ) (A B : ℝ)
    (hf : Tendsto (fun n => ∑ k ∈ range n, f k) atTop (𝓝 A))
    (hg : Tendsto (fun n => ∑ k ∈ range n, g k) atTop (𝓝 B)) :
    Tendsto (fun n => ∑ j ∈ range n, ∑ k ∈ range n, f j * g k) atTop (𝓝 (A * B)) := by
  have := hf.mul hg
  refine this.congr fun n => ?_
  rw [sum_mul_sum]

end Mp.Calc

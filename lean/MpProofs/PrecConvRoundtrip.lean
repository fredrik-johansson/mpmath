/-
  MpProofs/PrecConvRoundtrip.lean — the binary64 model of `prec_to_dps (dps_to_prec d)` in the form in
  which the kernel evaluates it for `dps_prec_roundtrip_partial` (Props/C11.lean).  The float operations
  are in continuation form: shared intermediates are computed once and `Nat.log2` is found by comparison.
  The harness (`harness/prec_dynamic.py --conv`) checks the same identity on CPython and the agreement of
  the model with CPython exhaustively up to 10^6.
-/
import MpModel.PrecConv
import MpProofs.Sweep

namespace Mp

/-- `fl a b` passed to `k`; `ha`, `hb` are guesses of `log2 a`, `log2 b`.
`a`, `b` and the scaled numerator stay unevaluated products (the kernel multiplies numerals
directly): significands of small integers and their multiples by powers of two agree in their low
word, which is all the kernel's term cache hashes of a numeral, and a sweep that puts such
numerals into its terms degrades quadratically. -/
def flK {α : Type} (ha hb a b : Nat) (k : Dy → α) : α :=
  if a = 0 ∨ b = 0 then k ⟨0, 0⟩ else
  forceInt ((log2Near ha a : Int) - log2Near hb b - 52) fun e0 =>
  let num (e : Int) : Nat := if e < 0 then a * 2 ^ (-e).toNat else a
  let den (e : Int) : Nat := if e < 0 then b else b * 2 ^ e.toNat
  forceInt (if 2 ^ 52 * den e0 ≤ num e0 then e0 else e0 - 1) fun e =>
  forceNat (rnDivEven (num e) (den e)) fun m => k ⟨m, e⟩

theorem flK_eq {α : Type} (ha hb a b : Nat) (k : Dy → α) : flK ha hb a b k = k (fl a b) := by
  unfold flK fl
  simp only [forceNat_eq, forceInt_eq, log2Near_eq, apply_ite k]

/-- `x.mul y`; the hints are right for two 53-bit significands -/
def Dy.mulK {α : Type} (x y : Dy) (k : Dy → α) : α :=
  forceInt (x.e + y.e) fun d =>
  if d < 0 then flK 104 (-d).toNat (x.m * y.m) (2 ^ (-d).toNat) k
  else flK (104 + d.toNat) 0 (x.m * y.m * 2 ^ d.toNat) 1 k

theorem Dy.mulK_eq {α : Type} (x y : Dy) (k : Dy → α) : x.mulK y k = k (x.mul y) := by
  simp only [Dy.mulK, Dy.mul, flK_eq, forceInt_eq]
  split <;> rfl

def Dy.divK {α : Type} (x y : Dy) (k : Dy → α) : α :=
  forceInt (x.e - y.e) fun d =>
  if d < 0 then flK 52 (52 + (-d).toNat) x.m (y.m * 2 ^ (-d).toNat) k
  else flK (52 + d.toNat) 52 (x.m * 2 ^ d.toNat) y.m k

theorem Dy.divK_eq {α : Type} (x y : Dy) (k : Dy → α) : x.divK y k = k (x.div y) := by
  simp only [Dy.divK, Dy.div, flK_eq, forceInt_eq]
  split <;> rfl

theorem rnDivEven_one (a : Nat) : rnDivEven a 1 = a := by
  simp [rnDivEven, Nat.mod_one]

/-- an integer below `2^53` is a float as it stands -/
theorem flInt_of_log2_le {n : Nat} (hn : n ≠ 0) (h : Nat.log2 n ≤ 52) :
    flInt n = ⟨n * 2 ^ (52 - Nat.log2 n), (Nat.log2 n : Int) - 52⟩ := by
  have hl : 2 ^ 52 ≤ n * 2 ^ (52 - Nat.log2 n) :=
    calc 2 ^ 52 = 2 ^ Nat.log2 n * 2 ^ (52 - Nat.log2 n) := by rw [← Nat.pow_add]; congr 1; omega
      _ ≤ n * 2 ^ (52 - Nat.log2 n) := Nat.mul_le_mul_right _ (Nat.log2_self_le hn)
  have h1 : Nat.log2 1 = 0 := by decide
  rcases Nat.lt_or_eq_of_le h with h | h
  · have e : (-((Nat.log2 n : Int) - 52)).toNat = 52 - Nat.log2 n := by omega
    have hneg : (Nat.log2 n : Int) - 52 < 0 := by omega
    simp [flInt, fl, hn, h1, hneg, e, hl, rnDivEven_one]
  · have hl' : 2 ^ 52 ≤ n := by simpa [h] using hl
    simp [flInt, fl, hn, h1, h, hl', rnDivEven_one]

/-- `flInt n` passed to `k`, the significand as a product (see `flK`) -/
def flIntK {α : Type} (n : Nat) (k : Dy → α) : α :=
  forceNat (Nat.log2 n) fun l =>
  if n ≠ 0 ∧ l ≤ 52 then k ⟨n * 2 ^ (52 - l), (l : Int) - 52⟩ else flK l 0 n 1 k

theorem flIntK_eq {α : Type} (n : Nat) (k : Dy → α) : flIntK n k = k (flInt n) := by
  simp only [flIntK, forceNat_eq]
  split
  · next h => rw [flInt_of_log2_le h.1 h.2]
  · rw [flK_eq]; rfl

theorem dpsToPrec_pos (n : Int) : 1 ≤ dpsToPrec n := by
  unfold dpsToPrec
  split
  · exact Int.le_refl 1
  · exact Int.le_max_left _ _

theorem dpsToPrec_natCast (d : Nat) :
    dpsToPrec d = ((max 1 ((flInt (d + 1)).mul log2_10).round : Nat) : Int) := by
  have h : ¬ ((d : Int) + 1 ≤ 0) := by omega
  have e : ((d : Int) + 1).toNat = d + 1 := by omega
  simp only [dpsToPrec, h, if_false, e]
  omega

theorem precToDps_natCast {p : Nat} (hp : 0 < p) :
    precToDps p = ((max 1 (((flInt p).div log2_10).round - 1) : Nat) : Int) := by
  have h : ¬ ((p : Int) ≤ 0) := by omega
  simp only [precToDps, h, if_false, Int.toNat_natCast]
  omega

/-- the round trip at `d`, in the form the kernel evaluates -/
def rtOK (d : Nat) : Bool :=
  flIntK (d + 1) fun x => x.mulK log2_10 fun y => forceNat y.round fun p =>
  flIntK (max 1 p) fun x => x.divK log2_10 fun y => forceNat y.round fun r =>
  max 1 (r - 1) == d

end Mp

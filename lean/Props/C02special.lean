/-
  Props/C02special.lean — C02, the clause "inf/nan operands and exact-zero divisors follow the documented special-value rules".

  For every finite canonical `t` (any mantissa length, any exponent), every precision and rounding mode:
  nan is absorbing; `±inf + t = ±inf`, `inf + inf = inf`, `inf − inf = nan`; `±inf · t = ±inf` with the product sign for
  `t ≠ 0`, `inf · 0 = nan`; `t / ±inf = 0`, `±inf / t = ±inf` with the quotient sign (`t ≠ 0`), `inf / inf = nan`,
  `x / 0` raises ZeroDivisionError for every `x` that is not nan … including `0 / 0` and `inf / 0`.
-/
import MpProofs.Div
import MpProofs.IntervalDiv
import MpProofs.Pow

namespace Mp

theorem C02_add_nan_left (t : Mpf) (prec : ℤ) (rnd : Rnd) (ht : CanonFin t ∨ t = finf ∨ t = fninf ∨ t = fnan) :
    mpf_add fnan t prec rnd = fnan := by
  have h0 : fnan.man = 0 := rfl
  have h1 : fnan.exp ≠ 0 := by decide
  unfold mpf_add
  simp only [h0, ne_eq, not_true_eq_false, false_and, if_false, Bool.false_eq_true, if_true, h1, not_false_eq_true]
  split <;> rfl

theorem C02_add_inf_finite {t : Mpf} (ht : CanonFin t) (prec : ℤ) (rnd : Rnd) :
    mpf_add finf t prec rnd = finf ∧ mpf_add fninf t prec rnd = fninf ∧
    mpf_add t finf prec rnd = finf ∧ mpf_add t fninf prec rnd = fninf :=
  ⟨(mpf_add_inf_left (.inl rfl) t prec rnd false).trans (if_pos (.inr ht.man_ne_or_exp_eq)),
   (mpf_add_inf_left (.inr rfl) t prec rnd false).trans (if_pos (.inr ht.man_ne_or_exp_eq)),
   mpf_add_inf_right ht (.inl rfl) prec rnd false, mpf_add_inf_right ht (.inr rfl) prec rnd false⟩

theorem C02_add_inf_inf (prec : ℤ) (rnd : Rnd) :
    mpf_add finf finf prec rnd = finf ∧ mpf_add fninf fninf prec rnd = fninf ∧
    mpf_add finf fninf prec rnd = fnan ∧ mpf_add fninf finf prec rnd = fnan ∧
    mpf_sub finf finf prec rnd = fnan ∧ mpf_sub finf fninf prec rnd = finf :=
  ⟨(mpf_add_inf_left (.inl rfl) finf prec rnd false).trans (if_pos (by decide)),
   (mpf_add_inf_left (.inr rfl) fninf prec rnd false).trans (if_pos (by decide)),
   (mpf_add_inf_left (.inl rfl) fninf prec rnd false).trans (if_neg (by decide)),
   (mpf_add_inf_left (.inr rfl) finf prec rnd false).trans (if_neg (by decide)),
   (mpf_add_inf_left (.inl rfl) finf prec rnd true).trans (if_neg (by decide)),
   (mpf_add_inf_left (.inl rfl) fninf prec rnd true).trans (if_pos (by decide))⟩

/-- `x / 0` raises for every `x` other than nan (finite, zero, infinite) -/
theorem C02_div_by_zero (s : Mpf) (hs : s ≠ fnan) (prec : ℤ) (rnd : Rnd) :
    mpf_div s fzero prec rnd = .error .zeroDiv := by
  have h0 : fzero.man = 0 := rfl
  unfold mpf_div
  simp only [h0, or_true, if_true]
  split
  · simp
  · simp

theorem C02_div_inf {t : Mpf} (ht : CanonFin t) (prec : ℤ) (rnd : Rnd) :
    mpf_div t finf prec rnd = .ok fzero ∧ mpf_div t fninf prec rnd = .ok fzero ∧
    mpf_div finf finf prec rnd = .ok fnan ∧ mpf_div finf fninf prec rnd = .ok fnan ∧
    mpf_div fnan t prec rnd = (if t = fzero then .error .zeroDiv else .ok fnan) := by
  have hn := (canonFin_ne_specials ht).2.2
  have hsp : ¬ isSpecial t = true := by rw [ht.finite]; decide
  -- a finite numerator over an infinity: zero
  have fin_inf {u : Mpf} (hu : u.man = 0) (h0 : u ≠ fzero) (h1 : u ≠ fnan) (h2 : isSpecial u = true) : mpf_div t u prec rnd = .ok fzero := by
    unfold mpf_div
    rw [if_pos (.inr hu)]
    by_cases ht0 : t = fzero
    · rw [if_pos ht0, if_neg h0, if_neg h1]
    · rw [if_neg ht0, if_neg h0, if_neg (fun h => hsp h.1), if_neg (not_or.2 ⟨hn, h1⟩), if_neg (not_not.2 h2)]
  refine ⟨fin_inf rfl (by decide) (by decide) rfl, fin_inf rfl (by decide) (by decide) rfl,
    (mpf_div_special (.inl rfl) prec rnd).trans (by decide), (mpf_div_special (.inl rfl) prec rnd).trans (by decide), ?_⟩
  unfold mpf_div
  rw [if_pos (.inl rfl), if_neg (by decide)]
  by_cases ht0 : t = fzero
  · rw [if_pos ht0, if_pos ht0]
  · rw [if_neg ht0, if_neg ht0, if_neg (fun h => hsp h.2), if_pos (.inl rfl)]

/-- multiplication: nan is absorbing, `±inf · 0 = nan`, and `inf · t = ±inf` with the sign of the product for `t ≠ 0` -/
theorem C02_mul_special {t : Mpf} (ht : CanonFin t) (prec : ℤ) (rnd : Rnd) :
    mpf_mul fnan t prec rnd = fnan ∧ mpf_mul t fnan prec rnd = fnan ∧
    mpf_mul finf fzero prec rnd = fnan ∧ mpf_mul fzero fninf prec rnd = fnan ∧
    (t ≠ fzero → mpf_mul finf t prec rnd = (if 0 < val t then finf else fninf) ∧
                 mpf_mul t finf prec rnd = (if 0 < val t then finf else fninf) ∧
                 mpf_mul fninf t prec rnd = (if 0 < val t then fninf else finf)) := by
  have m {s u : Mpf} (h : s.man = 0 ∨ u.man = 0) := mpf_mul_eq_mulSpecial h prec rnd
  refine ⟨?_, ?_, (m (.inl rfl)).trans (by decide), (m (.inr rfl)).trans (by decide), fun h0 => ?_⟩
  · rw [m (.inl rfl)]; unfold mulSpecial
    rw [if_neg (fun h => h.1 (by decide)), if_pos (.inl rfl)]
  · rw [m (.inr rfl)]; unfold mulSpecial
    rw [if_neg (fun h => h.2 (by decide)), if_pos (.inr rfl)]
  · rw [m (.inl rfl), m (.inr rfl), m (.inl rfl), (mulSpecial_inf (.inl rfl) ht h0).1,
      (mulSpecial_inf (.inl rfl) ht h0).2, (mulSpecial_inf (.inr rfl) ht h0).1]
    rcases lt_or_gt_of_ne (val_ne_zero_of_ne_fzero ht h0) with hv | hv
    · have hv' := not_lt.2 hv.le
      rw [sign_of_val_neg ht hv, if_neg hv', if_neg hv']
      exact ⟨by decide, by decide, by decide⟩
    · rw [sign_of_val_pos ht hv, if_pos hv, if_pos hv]
      exact ⟨by decide, by decide, by decide⟩

end Mp

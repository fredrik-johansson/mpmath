/-
  Props/C13.lean — C13 (exact cases and special values): the Lean side of the exactness decisions made by
  harness/props/C13.py.

  * roots of perfect powers: the driver op `rootexact n x y` decides `y^n = x` in integers; this is sound and
    identifies `y` as the real n-th root (`C13_root_exact_sound`).
  * sinpi / cospi at half-integers: the exact values are 0, ±1 by the residue of `k` mod 4 (`C13_sinpi_cospi_half_int`).
  * exact special points (exp 0, log 1, atan 0, sin 0, cos 0, …): whenever the verified evaluator returns a point
    enclosure `[v, v]`, the real function value IS `v` (`C13_exact_of_point_enclosure`), so "the implementation returned
    exactly v" is decided rigorously; and a verdict `ok` at a zero of the function forces the returned value to be 0.
  * tan/cot/sec/csc finite: an enclosure is returned only if the denominator enclosure excludes 0; then the value is a
    finite real inside the enclosure (`C13_finite_value_enclosed`).
-/
import MpProofs.Encl2Sound

namespace Mp
open Mp.Encl

/-- the integer test `y^n = x` (`y, x ≥ 0`) is sound, and `y` is then the real `n`-th root of `x` -/
theorem C13_root_exact_sound (n : ℕ) (hn : n ≠ 0) (x y : Dy) (h : rootExact n x y = true) :
    y.val ^ n = x.val ∧ y.val = nthRoot n x.val :=
  ⟨(rootExact_check_sound n x y h).2.2, rootExact_is_root n hn x y h⟩

/-- exact values of `sin(π·k/2)` and `cos(π·k/2)` -/
theorem C13_sinpi_cospi_half_int (k : ℤ) :
    (k % 4 = 0 → Real.sin (Real.pi * ((k : ℝ) / 2)) = 0 ∧ Real.cos (Real.pi * ((k : ℝ) / 2)) = 1) ∧
    (k % 4 = 1 → Real.sin (Real.pi * ((k : ℝ) / 2)) = 1 ∧ Real.cos (Real.pi * ((k : ℝ) / 2)) = 0) ∧
    (k % 4 = 2 → Real.sin (Real.pi * ((k : ℝ) / 2)) = 0 ∧ Real.cos (Real.pi * ((k : ℝ) / 2)) = -1) ∧
    (k % 4 = 3 → Real.sin (Real.pi * ((k : ℝ) / 2)) = -1 ∧ Real.cos (Real.pi * ((k : ℝ) / 2)) = 0) := by
  have e : Real.pi * ((k : ℝ) / 2) = 0 + (k : ℝ) * (Real.pi / 2) := by ring
  rw [e]
  obtain ⟨q0, q1, q2, q3⟩ := cos_sin_quadrant 0 k
  refine ⟨fun h => ?_, fun h => ?_, fun h => ?_, fun h => ?_⟩
  · obtain ⟨a, b⟩ := q0 h; rw [a, b]; simp
  · obtain ⟨a, b⟩ := q1 h; rw [a, b]; simp
  · obtain ⟨a, b⟩ := q2 h; rw [a, b]; simp
  · obtain ⟨a, b⟩ := q3 h; rw [a, b]; simp

/-- if the verified evaluator returns a point enclosure `[v, v]`, then `f(x) = v` exactly -/
theorem C13_exact_of_point_enclosure (f : FunId) (wp : ℕ) (x : Dy) (F : DI) (h : evalPoint f wp x = some F)
    (hp : F.lo.val = F.hi.val) : f.sem x.val = F.lo.val := by
  obtain ⟨h1, h2⟩ := (evalPoint_sound f wp x F h).1
  rw [← hp] at h2
  exact le_antisymm h2 h1

/-- at a zero of the function a verdict `ok` forces the implementation's value to be exactly 0 -/
theorem C13_ok_at_zero (f : FunId) (x y : Dy) (p k : ℕ) (h : accCheck f x y p k = .ok)
    (h0 : f.sem x.val = 0) : y.val = 0 :=
  accCheck_ok_zero f x y p k h h0

/-- whenever an enclosure is returned (for tan, cot, sec, csc: only if the denominator enclosure excludes 0),
the function value is the finite real number `f.sem x` inside it, and `x` is in the real domain -/
theorem C13_finite_value_enclosed (f : FunId) (wp : ℕ) (x : Dy) (F : DI) (h : evalPoint f wp x = some F) :
    F.lo.val ≤ f.sem x.val ∧ f.sem x.val ≤ F.hi.val :=
  (evalPoint_sound f wp x F h).1

-- non-vacuity
example : rootExact 3 ⟨27, 3⟩ ⟨3, 1⟩ = true := by decide +kernel
example : rootExact 3 ⟨28, 3⟩ ⟨3, 1⟩ = false := by decide +kernel
example : evalPoint .exp 30 ⟨0, 0⟩ = some ⟨⟨536870912, -29⟩, ⟨536870912, -29⟩⟩ := by decide +kernel   -- the point [1, 1]

end Mp

/-
  MpProofs/CArith.lean — the building block of complex multiplication and division: `ac ± bd` with both products
  formed exactly (`mpf_mul` at precision 0) and the sum rounded once.
-/
import MpProofs.Div
import MpModel.Complex

namespace Mp

theorem add_mul_spec {a b c d : Mpf} (ha : CanonFin a) (hb : CanonFin b) (hc : CanonFin c) (hd : CanonFin d)
    {prec : ℤ} (hp : 0 ≤ prec) (rnd : Rnd) :
    RoundOK prec rnd (val a * val c + val b * val d) (mpf_add (mpf_mul a c) (mpf_mul b d) prec rnd) := by
  obtain ⟨k1, v1, _⟩ := mul_exact ha hc
  obtain ⟨k2, v2, _⟩ := mul_exact hb hd
  have h := mpf_add_spec k1 k2 hp rnd false
  rwa [v1, v2] at h

theorem sub_mul_spec {a b c d : Mpf} (ha : CanonFin a) (hb : CanonFin b) (hc : CanonFin c) (hd : CanonFin d)
    {prec : ℤ} (hp : 0 ≤ prec) (rnd : Rnd) :
    RoundOK prec rnd (val a * val c - val b * val d) (mpf_sub (mpf_mul a c) (mpf_mul b d) prec rnd) := by
  obtain ⟨k1, v1, _⟩ := mul_exact ha hc
  obtain ⟨k2, v2, _⟩ := mul_exact hb hd
  have h := mpf_sub_spec k1 k2 hp rnd
  rwa [v1, v2] at h

end Mp

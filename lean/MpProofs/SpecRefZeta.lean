/-
  MpProofs/SpecRefZeta.lean — the C19 references agree with Mathlib: `bern = bernoulli`,
  `bernPolyQ = Polynomial.bernoulli`, zeta values at even positive and non-positive integers.
-/
import MpProofs.SpecRefGamma
import Mathlib.NumberTheory.Bernoulli
import Mathlib.NumberTheory.BernoulliPolynomials
import Mathlib.NumberTheory.LSeries.HurwitzZetaValues
import Mathlib.NumberTheory.ZetaValues
import Mathlib.Analysis.SpecificLimits.Normed
import Mathlib.Analysis.SpecialFunctions.Log.Deriv

namespace Mp.SpecRef
open Mp.Encl
open scoped Nat

theorem bernStep_spec (n : ℕ) : bernStep ((List.range n).map bernoulli') = bernoulli' n := by
  unfold bernStep
  simp only [List.length_map, List.length_range]
  rw [List.zipWith_map_right]
  have : List.zipWith (fun (a : ℕ) (b : ℕ) =>
      (chooseM n a : ℚ) / ((n : ℚ) - (a : ℚ) + 1) * bernoulli' b) (List.range n) (List.range n)
      = (List.range n).map (fun k => (chooseM n k : ℚ) / ((n : ℚ) - (k : ℚ) + 1) * bernoulli' k) := by
    rw [List.zipWith_self]
  rw [this, list_range_map_sum, bernoulli'_def]
  congr 1
  apply Finset.sum_congr rfl
  intro k _
  rw [chooseM_eq]

theorem bernTab_eq (n : ℕ) : bernTab n = (List.range n).map bernoulli' := by
  induction n with
  | zero => rfl
  | succ n ih =>
    rw [bernTab]
    rw [ih, bernStep_spec, List.range_succ, List.map_append]
    rfl

theorem bernFrom_spec (n i : ℕ) (hi : i < n) : bernFrom (bernTab n) i = bernoulli i := by
  unfold bernFrom
  split
  · rename_i h1; subst h1; rw [bernoulli_one]
  · rename_i h1
    rw [bernTab_eq, bernoulli_eq_bernoulli'_of_ne_one h1]
    simp [List.getD, hi]

theorem bern_eq (n : ℕ) : bern n = bernoulli n := bernFrom_spec (n + 1) n (Nat.lt_succ_self n)

theorem bernPolyQ_eq (n : ℕ) (x : ℚ) : bernPolyQ n x = (Polynomial.bernoulli n).eval x := by
  unfold bernPolyQ
  simp only
  rw [list_range_map_sum, Polynomial.bernoulli, Polynomial.eval_finsetSum]
  apply Finset.sum_congr rfl
  intro i hi
  rw [Finset.mem_range] at hi
  rw [bernFrom_spec (n + 1) i hi, Polynomial.eval_monomial, chooseM_eq]

theorem zetaEven_sem (k : ℕ) :
    (((zetaEvenQ k : ℚ) : ℝ) * Real.pi ^ (2 * k) : ℝ) =
      (-1 : ℝ) ^ (k + 1) * (2 : ℝ) ^ (2 * k - 1) * Real.pi ^ (2 * k) * bernoulli (2 * k) / (2 * k)! := by
  unfold zetaEvenQ
  rw [bern_eq, factN_eq]
  push_cast
  ring

theorem zetaEven_complex (k : ℕ) (hk : k ≠ 0) :
    ((((zetaEvenQ k : ℚ) : ℝ) * Real.pi ^ (2 * k) : ℝ) : ℂ) = riemannZeta (2 * (k : ℂ)) := by
  rw [zetaEven_sem k, riemannZeta_two_mul_nat hk]
  push_cast
  ring

theorem zetaNeg_complex (n : ℕ) :
    ((((-1 : ℚ) ^ n * bern (n + 1) / ((n : ℚ) + 1) : ℚ) : ℝ) : ℂ) = riemannZeta (-(n : ℂ)) := by
  rw [riemannZeta_neg_nat_eq_bernoulli, bern_eq]
  push_cast
  ring

theorem even_two_le {s : ℤ} (h2 : 2 ≤ s) (hev : s % 2 = 0) : ∃ k : ℕ, k ≠ 0 ∧ s = 2 * (k : ℤ) :=
  ⟨(s / 2).toNat, by omega, by omega⟩

theorem zetaRef_even (k : ℕ) (hk : k ≠ 0) :
    zetaRef (2 * (k : ℤ)) = .val (.mul (ratE (zetaEvenQ k)) (.pow .pi (2 * k))) := by
  unfold zetaRef
  rw [if_neg (by omega), if_neg (by omega), if_pos (Int.mul_emod_right 2 k),
    Int.mul_ediv_cancel_left _ two_ne_zero, Int.toNat_natCast]

theorem zetaRef_nonpos (n : ℕ) :
    zetaRef (-(n : ℤ)) = Ref.ofRat ((-1) ^ n * bern (n + 1) / ((n : ℚ) + 1)) := by
  unfold zetaRef
  rw [if_neg (by omega), if_pos (by omega), neg_neg, Int.toNat_natCast]

theorem zetaEven_expr_sem (k : ℕ) :
    (SExpr.mul (ratE (zetaEvenQ k)) (.pow .pi (2 * k))).sem = ((zetaEvenQ k : ℚ) : ℝ) * Real.pi ^ (2 * k) := by
  rw [SExpr.sem, ratE_sem]; rfl

theorem abs_ratCast_lt_one {z : ℚ} (h : -1 < z ∧ z < 1) : |(z : ℝ)| < 1 :=
  abs_lt.2 ⟨by exact_mod_cast h.1, by exact_mod_cast h.2⟩

theorem etaFactor_sem (s : ℤ) : ((etaFactor s : ℚ) : ℝ) = 1 - (2 : ℝ) ^ (1 - s) := by
  unfold etaFactor
  split
  · rename_i h
    have : (1 - s) = -(((s - 1).toNat : ℕ) : ℤ) := by omega
    rw [this, zpow_neg, zpow_natCast]
    push_cast
    rw [one_div]
  · rename_i h
    have : (1 - s) = (((1 - s).toNat : ℕ) : ℤ) := by omega
    conv_rhs => rw [this, zpow_natCast]
    push_cast
    rfl

/-- `powSumQ s a = Σ_{j<a} 1/j^s` without the term `j = 0` -/
theorem powSumQ_eq (s : ℕ) (hs : s ≠ 0) (a : ℕ) :
    ((powSumQ s a : ℚ) : ℝ) = ∑ j ∈ Finset.range a, 1 / (j : ℝ) ^ s := by
  induction a with
  | zero => simp [powSumQ]
  | succ a ih =>
    rw [powSumQ, Finset.sum_range_succ, ← ih]
    push_cast
    congr 1
    split
    · rename_i h0; subst h0; simp [hs]
    · simp

theorem hurwitz_hasSum (k a : ℕ) (hk : k ≠ 0) :
    HasSum (fun n : ℕ => 1 / ((n : ℝ) + (a : ℝ)) ^ (2 * k))
      ((((zetaEvenQ k : ℚ) : ℝ) * Real.pi ^ (2 * k)) - ((powSumQ (2 * k) a : ℚ) : ℝ)) := by
  have h := hasSum_zeta_nat hk
  rw [← zetaEven_sem k] at h
  have h2 := (hasSum_nat_add_iff' a).2 h
  rw [powSumQ_eq (2 * k) (by omega) a]
  have e : (fun n : ℕ => 1 / ((n : ℝ) + (a : ℝ)) ^ (2 * k)) = fun n : ℕ => 1 / ((n + a : ℕ) : ℝ) ^ (2 * k) := by
    funext n; rw [Nat.cast_add]
  rw [e]
  exact h2

/-- `Σ_i row[i]·C(k, j+i)` -/
def evalRow : List ℕ → ℕ → ℕ → ℕ
  | [], _, _ => 0
  | c :: cs, j, k => c * k.choose j + evalRow cs (j + 1) k

theorem hasSum_of_eq {f g : ℕ → ℝ} {a b : ℝ} (h : HasSum f a) (hf : ∀ k, g k = f k) (hab : b = a) :
    HasSum g b := by
  have : g = f := funext hf
  rw [this, hab]; exact h

theorem mul_choose_split (k j : ℕ) : k * k.choose j = j * k.choose j + (j + 1) * k.choose (j + 1) := by
  rcases Nat.lt_or_ge k j with h | h
  · rw [Nat.choose_eq_zero_of_lt h, Nat.choose_eq_zero_of_lt (by omega : k < j + 1)]; simp
  · have := Nat.choose_succ_right_eq k j
    have e : k = j + (k - j) := by omega
    calc k * k.choose j = (j + (k - j)) * k.choose j := by rw [← e]
      _ = j * k.choose j + k.choose j * (k - j) := by ring
      _ = j * k.choose j + k.choose (j + 1) * (j + 1) := by rw [this]
      _ = _ := by ring

theorem evalRow_nextRow (row : List ℕ) : ∀ (prev j k : ℕ),
    evalRow (nextRow prev j row) j k = j * prev * k.choose j + k * evalRow row j k := by
  induction row with
  | nil => intro prev j k; simp [nextRow, evalRow]
  | cons c cs ih =>
    intro prev j k
    rw [nextRow, evalRow, ih, evalRow]
    have := mul_choose_split k j
    calc j * (prev + c) * k.choose j + ((j + 1) * c * k.choose (j + 1) + k * evalRow cs (j + 1) k)
        = j * prev * k.choose j + (c * (j * k.choose j + (j + 1) * k.choose (j + 1)) + k * evalRow cs (j + 1) k) := by
          ring
      _ = _ := by rw [← this]; ring

theorem evalRow_cRow (n k : ℕ) : evalRow (cRow n) 0 k = k ^ n := by
  induction n with
  | zero => simp [cRow, evalRow]
  | succ n ih => rw [cRow, evalRow_nextRow, ih, pow_succ]; ring

theorem hasSum_choose_geom (j : ℕ) (z : ℝ) (hz : |z| < 1) :
    HasSum (fun k : ℕ => (k.choose j : ℝ) * z ^ k) (z ^ j / (1 - z) ^ (j + 1)) := by
  have h := (hasSum_choose_mul_geometric_of_norm_lt_one j (r := z) (by simpa using hz)).mul_left (z ^ j)
  have h2 : HasSum (fun n : ℕ => (((n + j).choose j : ℕ) : ℝ) * z ^ (n + j)) (z ^ j / (1 - z) ^ (j + 1)) :=
    hasSum_of_eq h (fun n => by rw [pow_add]; ring) (by ring)
  have hz0 : ∑ i ∈ Finset.range j, ((i.choose j : ℕ) : ℝ) * z ^ i = 0 := by
    apply Finset.sum_eq_zero
    intro i hi
    rw [Finset.mem_range] at hi
    rw [Nat.choose_eq_zero_of_lt hi]; simp
  apply (hasSum_nat_add_iff' (f := fun k : ℕ => (k.choose j : ℝ) * z ^ k) j).1
  rw [hz0, sub_zero]
  exact h2

theorem hasSum_evalRow (row : List ℕ) (z : ℚ) (hz : |(z : ℝ)| < 1) : ∀ j : ℕ,
    HasSum (fun k : ℕ => (evalRow row j k : ℝ) * (z : ℝ) ^ k) ((geomRow row j z : ℚ) : ℝ) := by
  induction row with
  | nil =>
    intro j
    exact hasSum_of_eq (hasSum_zero : HasSum (fun _ : ℕ => (0 : ℝ)) 0) (fun k => by simp [evalRow])
      (by simp [geomRow])
  | cons c cs ih =>
    intro j
    have h1 := (hasSum_choose_geom j (z : ℝ) hz).mul_left (c : ℝ)
    have h2 := h1.add (ih (j + 1))
    exact hasSum_of_eq h2 (fun k => by simp only [evalRow]; push_cast; ring)
      (by simp only [geomRow]; push_cast; ring)

/-- `Σ_{k≥0} k^n z^k = powGeomQ n z` for `|z| < 1` (with `0^0 = 1`) -/
theorem hasSum_powGeom (n : ℕ) (z : ℚ) (hz : |(z : ℝ)| < 1) :
    HasSum (fun k : ℕ => (k : ℝ) ^ n * (z : ℝ) ^ k) ((powGeomQ n z : ℚ) : ℝ) := by
  have := hasSum_evalRow (cRow n) z hz 0
  simp only [evalRow_cRow] at this
  exact hasSum_of_eq this (fun k => by push_cast; rfl) rfl

theorem hasSum_polylog_neg (n : ℕ) (z : ℚ) (hz : |(z : ℝ)| < 1) :
    HasSum (fun k : ℕ => ((k + 1 : ℕ) : ℝ) ^ n * (z : ℝ) ^ (k + 1))
      (((if n = 0 then powGeomQ 0 z - 1 else powGeomQ n z : ℚ)) : ℝ) := by
  have h := (hasSum_nat_add_iff' (f := fun k : ℕ => (k : ℝ) ^ n * (z : ℝ) ^ k) 1).2 (hasSum_powGeom n z hz)
  refine hasSum_of_eq h (fun k => rfl) ?_
  split
  · rename_i h0; subst h0; simp
  · rename_i h0; simp [h0]

end Mp.SpecRef

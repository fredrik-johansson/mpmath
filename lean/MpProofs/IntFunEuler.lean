/-
  MpProofs/IntFunEuler.lean — `eulernum` (libintmath.py): the cache written inside the inner loop.

  The pure functions `eulerA`, `eulerS` replay the in-place array recurrence without the cache;
  `eulerCacheVal n` is the value the code stores under key `n` (last write of the inner loop, with the
  sign applied AFTER the floor division), `eulerRet n` the value the code returns when it computes `n`
  (sign applied BEFORE the floor division).  They agree iff `2^n ∣ eulerS n`.
-/
import MpProofs.IntFun
import Mathlib.Data.Nat.Choose.Basic
import Mathlib.Tactic.Positivity

namespace Mp

theorem dset_dset_same (d : IDict) (k v w : Int) : dset (dset d k v) k w = dset d k w := by
  induction d with
  | nil => simp [dset]
  | cons h t ih =>
    obtain ⟨a, b⟩ := h
    by_cases hak : a = k
    · simp [dset, hak]
    · simp [dset, hak, ih]

/-- the summation loop without the cache -/
def eulerSumP : Nat → Nat → List Int → Int → Int
  | 0, _, _, s => s
  | cnt+1, k, a, s => eulerSumP cnt (k - 2) a (s + a.getD (k+1) 0)

theorem eulerSum_fst (cnt k n : Nat) (a : List Int) (s : Int) (c : IDict) :
    (eulerSum cnt k n a s c).1 = eulerSumP cnt k a s := by
  induction cnt generalizing k s c with
  | zero => rfl
  | succ cnt ih => simp only [eulerSum, eulerSumP]; rw [ih]

theorem eulerSum_snd (cnt k n : Nat) (a : List Int) (s : Int) (c : IDict) :
    (eulerSum (cnt + 1) k n a s c).2 = if n ≤ MAX_EULER_CACHE
      then dset c n (eulerSign n * (eulerSumP (cnt + 1) k a s).fdiv (2 ^ n)) else c := by
  induction cnt generalizing k s c with
  | zero => simp only [eulerSum, eulerSumP]
  | succ cnt ih =>
    rw [eulerSum, ih]
    by_cases h : n ≤ MAX_EULER_CACHE
    · simp only [h, if_true, dset_dset_same]
      rfl
    · simp only [h, if_false]

/-- the array `a` after `n` rounds of the outer loop -/
def eulerA : Nat → List Int
  | 0 => [0, 0, 1, 0, 0, 0]
  | n+1 => eulerUpd (eulerCnt (n+1)) (n+2) (eulerA n) ++ [0]

/-- `suma` at the end of round `n` -/
def eulerS (n : Nat) : Int := eulerSumP (eulerCnt n) (n+1) (eulerA n) 0

/-- the value stored in `_cache[n]` -/
def eulerCacheVal (n : Nat) : Int := eulerSign n * (eulerS n).fdiv (2 ^ n)

/-- the value returned when `n` is computed -/
def eulerRet (n : Nat) : Int := (eulerSign n * eulerS n).fdiv (2 ^ n)

/-- invariant of the Euler-number cache: key 0 holds 1 and every entry `k ↦ v` has `0 ≤ k ≤ 500`,
`v = eulerCacheVal k` (the FINAL value written for that key, never a partial sum) -/
def EulerInv (c : IDict) : Prop :=
  dget c 0 = some 1 ∧ ∀ k v, dget c k = some v → 0 ≤ k ∧ k ≤ 500 ∧ v = eulerCacheVal k.toNat

theorem eulerCacheVal_zero : eulerCacheVal 0 = 1 := by decide

theorem eulerInv_init : EulerInv eulerCache0 := by
  refine ⟨by decide, ?_⟩
  intro k v h
  simp only [eulerCache0, dget] at h
  by_cases hk : (0 : Int) = k
  · subst hk; simp at h; subst h; exact ⟨le_refl _, by decide, by decide⟩
  · simp [hk] at h

theorem eulerInv_dset (c : IDict) (n : Nat) (hn5 : n ≤ MAX_EULER_CACHE) (h : EulerInv c) : EulerInv (dset c n (eulerCacheVal n)) := by
  refine ⟨?_, ?_⟩
  · rw [dget_dset]
    by_cases hn : (n : Int) = 0
    · have : n = 0 := by omega
      subst this; simp [eulerCacheVal_zero]
    · rw [if_neg hn]; exact h.1
  · exact forall_dget_dset h.2 ⟨by omega, by simp only [MAX_EULER_CACHE] at hn5; omega, by simp⟩

theorem eulerOuter_spec (cnt n' m : Nat) (hm : n' + 1 + cnt = m) (c : IDict) (h : EulerInv c) :
    (eulerOuter (cnt + 1) (n' + 1) m (eulerA n') c).1 = some (eulerRet m) ∧
    EulerInv (eulerOuter (cnt + 1) (n' + 1) m (eulerA n') c).2 := by
  induction cnt generalizing n' c with
  | zero =>
    have hnm : n' + 1 = m := by omega
    simp only [eulerOuter, hnm, if_true]
    obtain ⟨j, hj⟩ : ∃ j, eulerCnt m = j + 1 := ⟨(m + 1) / 2, rfl⟩
    subst hnm
    refine ⟨?_, ?_⟩
    · rw [eulerSum_fst]; rfl
    · rw [hj, eulerSum_snd, ← hj]
      split
      · next h5 => exact eulerInv_dset c _ h5 h
      · exact h
  | succ cnt ih =>
    have hnm : ¬ n' + 1 = m := by omega
    rw [eulerOuter]
    simp only [hnm, if_false]
    obtain ⟨j, hj⟩ : ∃ j, eulerCnt (n' + 1) = j + 1 := ⟨(n' + 1 + 1) / 2, rfl⟩
    have hA : eulerUpd (eulerCnt (n' + 1)) (n' + 1 + 1) (eulerA n') ++ [0] = eulerA (n' + 1) := rfl
    rw [hA]
    apply ih (n' + 1) (by omega)
    rw [hj, eulerSum_snd, ← hj]
    split
    · next h5 => exact eulerInv_dset c _ h5 h
    · exact h

theorem eulernum_odd (m : Int) (c : IDict) (h : m % 2 = 1) : eulernum m c = (some 0, c) := by
  simp [eulernum, h]

/-- even negative arguments: the loop body never runs and the function returns `None` -/
theorem eulernum_neg_even (m : Int) (c : IDict) (hc : EulerInv c) (h : m % 2 = 0) (hm : m < 0) :
    eulernum m c = (none, c) := by
  have h1 : ¬ m % 2 = 1 := by omega
  have h2 : dgetTruthy c m = none := by
    unfold dgetTruthy
    cases hg : dget c m with
    | none => rfl
    | some v => have := (hc.2 m v hg).1; omega
  have h3 : m.toNat = 0 := by omega
  simp [eulernum, h1, h2, h3, eulerOuter]

/-- even nonnegative arguments, any cache satisfying the invariant: the result is the cached value or the
freshly computed value for `m`, and the invariant is preserved. -/
theorem eulernum_even (m : Int) (c : IDict) (hc : EulerInv c) (h : m % 2 = 0) (hm : 0 ≤ m) :
    ((eulernum m c).1 = some (eulerCacheVal m.toNat) ∨ (eulernum m c).1 = some (eulerRet m.toNat)) ∧
    EulerInv (eulernum m c).2 := by
  have h1 : ¬ m % 2 = 1 := by omega
  unfold eulernum
  rw [if_neg h1]
  cases hg : dgetTruthy c m with
  | some f =>
    simp only
    refine ⟨Or.inl ?_, hc⟩
    unfold dgetTruthy at hg
    cases hd : dget c m with
    | none => simp [hd] at hg
    | some v =>
      rw [hd] at hg
      simp only at hg
      split at hg
      · simp only [Option.some.injEq] at hg
        rw [← hg, (hc.2 m v hd).2.2]
      · exact absurd hg (by simp)
  | none =>
    simp only
    have hm0 : m ≠ 0 := by
      intro h0; subst h0
      simp [dgetTruthy, hc.1] at hg
    obtain ⟨cnt, hcnt⟩ : ∃ cnt, m.toNat = cnt + 1 := ⟨m.toNat - 1, by omega⟩
    have := eulerOuter_spec cnt 0 m.toNat (by omega) c hc
    rw [hcnt] at this ⊢
    exact ⟨Or.inr this.1, this.2⟩

/-! ## the Euler (secant) numbers by their defining recurrence -/

/-- `[E_0, E_2, …, E_{2(n-1)}]`: the secant (Euler) numbers built by their defining recurrence
`E_0 = 1`, `E_{2n} = -∑_{k<n} C(2n,2k) E_{2k}`. -/
def secTable : Nat → List Int
  | 0 => []
  | n+1 =>
    let t := secTable n
    t ++ [if n = 0 then 1 else -((List.range n).map (fun k => (Nat.choose (2 * n) (2 * k) : Int) * t.getD k 0)).sum]

/-- the Euler number `E_m` (`1/cosh x = ∑ E_m x^m / m!`): zero for odd `m`. -/
def eulerE (m : Nat) : Int := if m % 2 = 1 then 0 else (secTable (m / 2 + 1)).getD (m / 2) 0

theorem secTable_length (n : Nat) : (secTable n).length = n := by
  induction n with
  | zero => rfl
  | succ n ih => simp [secTable, ih]

theorem secTable_getD_stable (n n' k : Nat) (hk : k < n) (hn : n ≤ n') :
    (secTable n').getD k 0 = (secTable n).getD k 0 := by
  induction n' with
  | zero => omega
  | succ n' ih =>
    by_cases h : n = n' + 1
    · rw [h]
    · have hlt : k < (secTable n').length := by rw [secTable_length]; omega
      rw [← ih (by omega)]
      simp only [secTable, List.getD_eq_getElem?_getD, List.getElem?_append_left hlt]

theorem eulerE_two_mul (k : Nat) : eulerE (2 * k) = (secTable (k + 1)).getD k 0 := by
  simp [eulerE]

theorem eulerSign_sq (n : Nat) : eulerSign n * eulerSign n = 1 := by
  unfold eulerSign
  rw [← pow_add, ← two_mul, pow_mul]
  simp

/-- if the final sum of round `n` is `(-1)^(n/2) · 2^n · E_n`, the stored value (sign applied after the floor
division) and the returned value (sign applied before it) are both `E_n` -/
theorem euler_values_of_eulerS {n : Nat} (hs : eulerS n = eulerSign n * 2 ^ n * eulerE n) :
    eulerCacheVal n = eulerE n ∧ eulerRet n = eulerE n := by
  have hp : ((2 : Int) ^ n) ≠ 0 := by positivity
  have hsq := eulerSign_sq n
  constructor
  · rw [eulerCacheVal, hs, show eulerSign n * 2 ^ n * eulerE n = (eulerSign n * eulerE n) * 2 ^ n by ring,
      Int.mul_fdiv_cancel _ hp, ← mul_assoc, hsq, one_mul]
  · rw [eulerRet, hs, show eulerSign n * (eulerSign n * 2 ^ n * eulerE n)
        = (eulerSign n * eulerSign n) * eulerE n * 2 ^ n by ring,
      hsq, one_mul, Int.mul_fdiv_cancel _ hp]

end Mp

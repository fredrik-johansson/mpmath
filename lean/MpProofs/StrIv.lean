/-
  MpProofs/StrIv.lean — intervals from strings (`mpi_from_str`, C07): the result contains the denoted
  number / range, given that the endpoint conversions are directed.
-/
import MpModel.StrIv
import MpProofs.StrFrom
import MpProofs.Add
import MpProofs.Cmp

namespace Mp

/-- The floor and the ceiling conversion of the literal `l` (value `v`) at precision `prec` succeed with
finite canonical results on the correct sides of `v`. True whenever `from_str` takes its exact branch
(`directed_of_exact`); false in general for the approximate branch (finding D4). -/
def Directed (l : List Char) (v : ℚ) (prec : Int) : Prop :=
  ∃ a b, fromStr l prec .f 0 = .ok a ∧ fromStr l prec .c 0 = .ok b ∧
    CanonFin a ∧ CanonFin b ∧ val a ≤ v ∧ v ≤ val b

theorem liftErr_ok {α : Type} (a : α) : liftErr (.ok a : Except Err α) = .ok a := rfl

theorem directed_of_exact {l : List Char} {v : ℚ} (h : decValueU l = some v) {man exp : Int}
    (hme : strToManExp l 0 = .ok (man, exp)) (hexp : exp.natAbs ≤ 400) {prec : Int} (hp : 0 < prec) :
    Directed l v prec := by
  obtain ⟨a, ha, hra⟩ := fromStr_exact_round h hme hexp prec .f hp
  obtain ⟨b, hb, hrb⟩ := fromStr_exact_round h hme hexp prec .c hp
  exact ⟨a, b, ha, hb, hra.canon, hrb.canon, roundOK_f_le hp.le hra, roundOK_c_ge hp.le hrb⟩

/-- forms `[a, b]`, `x[y,z]e` and the plain literal: the two endpoint conversions -/
theorem endpoints_contains {a b : List Char} {va vb : ℚ} {prec : Int}
    (ha : Directed a va prec) (hb : Directed b vb prec) :
    ∃ lo hi, endpoints a b prec 0 = .ok (lo, hi) ∧ CanonFin lo ∧ CanonFin hi ∧ val lo ≤ va ∧ vb ≤ val hi := by
  obtain ⟨a1, -, h1, -, c1, -, l1, -⟩ := ha
  obtain ⟨-, b2, -, h2, -, c2, -, l2⟩ := hb
  refine ⟨a1, b2, ?_, c1, c2, l1, l2⟩
  unfold endpoints
  rw [h1, h2]
  rfl

/-- `MAX(|xa|, |xb|)` bounds every `|v|` with `xa ≤ v ≤ xb` -/
theorem abs_le_val_mpfMAX_abs {xa xb : Mpf} {v : ℚ} (ca : CanonFin xa) (cb : CanonFin xb)
    (la : val xa ≤ v) (lb : v ≤ val xb) :
    CanonFin (mpfMAX (mpf_abs xa) (mpf_abs xb)) ∧ |v| ≤ val (mpfMAX (mpf_abs xa) (mpf_abs xb)) := by
  have ha := mpf_abs_spec ca (le_refl 0) .d
  have hb := mpf_abs_spec cb (le_refl 0) .d
  have va : val (mpf_abs xa) = |val xa| := ha.exact
  have vb : val (mpf_abs xb) = |val xb| := hb.exact
  have habs : |v| ≤ max |val xa| |val xb| := by
    rcases le_total 0 v with h0 | h0
    · rw [abs_of_nonneg h0]
      exact le_trans (le_trans lb (le_abs_self _)) (le_max_right _ _)
    · rw [abs_of_nonpos h0]
      exact le_trans (le_trans (neg_le_neg la) (neg_le_abs _)) (le_max_left _ _)
  unfold mpfMAX
  rw [mpf_ge_spec ha.1 hb.1, va, vb]
  by_cases hc : |val xa| ≥ |val xb|
  · simp only [hc, decide_true, if_true, va]
    exact ⟨ha.1, le_trans habs (max_le (le_refl _) hc)⟩
  · simp only [hc, decide_false, Bool.false_eq_true, if_false, vb]
    exact ⟨hb.1, le_trans habs (max_le (le_of_lt (not_le.mp hc)) (le_refl _))⟩

/-- the half-width of the form `a (b%)`: `MAX(|xa|, |xb|) · y / 100`, both steps rounded up, is at least
`|vx| · vy / 100` -/
theorem percent_halfwidth {xa xb yb : Mpf} {vx vy : ℚ} {wp : Int} (hwp : 0 < wp) (ca : CanonFin xa)
    (cb : CanonFin xb) (cy : CanonFin yb) (la : val xa ≤ vx) (lb : vx ≤ val xb) (hy0 : 0 ≤ vy)
    (ly : vy ≤ val yb) :
    ∃ w, mpf_div (mpf_mul (mpfMAX (mpf_abs xa) (mpf_abs xb)) yb wp .c) (from_int 100) wp .c = .ok w ∧
      CanonFin w ∧ |vx| * vy / 100 ≤ val w := by
  obtain ⟨cM, vM⟩ := abs_le_val_mpfMAX_abs ca cb la lb
  have r1 := mpf_mul_spec cM cy (le_of_lt hwp) .c
  have c1 := r1.canon
  have l1 := roundOK_c_ge hwp.le r1
  obtain ⟨w, hw, hrw⟩ := mpf_div_spec c1 (from_int_canon 100) (from_int_ne_zero (by norm_num)) hwp .c
  have c2 := hrw.canon
  have l2 := roundOK_c_ge hwp.le hrw
  refine ⟨w, hw, c2, ?_⟩
  rw [from_int_val] at l2
  have : |vx| * vy ≤ val (mpf_mul (mpfMAX (mpf_abs xa) (mpf_abs xb)) yb wp .c) :=
    le_trans (mul_le_mul vM ly hy0 (le_trans (abs_nonneg _) vM)) l1
  exact le_trans (div_le_div_of_nonneg_right this (by norm_num)) (by simpa using l2)

/-- forms `a +- b`, `a (b)`, `a (b%)`: midpoint and half-width -/
theorem mpi_from_str_a_b_contains {x y : List Char} {vx vy : ℚ} {prec : Int} (hp : 0 < prec)
    (hx : Directed x vx (prec + 20)) (hy : Directed y vy (prec + 20)) (hy0 : 0 ≤ vy) (percent : Bool) :
    ∃ lo hi, mpi_from_str_a_b x y percent prec 0 = .ok (lo, hi) ∧ CanonFin lo ∧ CanonFin hi ∧
      val lo ≤ vx - (if percent then |vx| * vy / 100 else vy) ∧
      vx + (if percent then |vx| * vy / 100 else vy) ≤ val hi := by
  obtain ⟨xa, xb, hxa, hxb, cxa, cxb, lxa, lxb⟩ := hx
  obtain ⟨-, yb, -, hyb, -, cyb, -, lyb⟩ := hy
  have hge : mpf_ge yb fzero = true := by
    rw [mpf_ge_spec cyb canonFin_fzero, val_fzero]; simpa using le_trans hy0 lyb
  obtain ⟨w, hw, cw, lw⟩ : ∃ w,
      (if percent then
          liftErr (mpf_div (mpf_mul (mpfMAX (mpf_abs xa) (mpf_abs xb)) yb (prec + 20) .c) (from_int 100)
            (prec + 20) .c)
        else (.ok yb : Except IvErr Mpf)) = .ok w ∧ CanonFin w ∧
        (if percent then |vx| * vy / 100 else vy) ≤ val w := by
    cases percent with
    | false => exact ⟨yb, rfl, cyb, by simpa using lyb⟩
    | true =>
      obtain ⟨w, hw, cw, lw⟩ :=
        percent_halfwidth (by omega : (0 : Int) < prec + 20) cxa cxb cyb lxa lxb hy0 lyb
      exact ⟨w, by simp only [if_true, hw]; rfl, cw, by simpa using lw⟩
  have rlo := mpf_sub_spec cxa cw (le_of_lt hp) .f
  have clo := rlo.canon
  have llo := roundOK_f_le hp.le rlo
  have rhi := mpf_add_spec cxb cw (le_of_lt hp) .c false
  have chi := rhi.canon
  have lhi := roundOK_c_ge hp.le rhi
  simp only [Bool.false_eq_true, if_false] at lhi
  refine ⟨mpf_sub xa w prec .f, mpf_add xb w prec .c, ?_, clo, chi, by linarith, by linarith⟩
  unfold mpi_from_str_a_b
  simp only [hxa, hxb, hyb, liftErr_ok, hge, Bool.not_true, Bool.false_eq_true, if_false]
  rw [hw]


/-! ### the five textual forms: dispatch of `mpi_from_str` -/

/-- `s.replace(" ", "")` -/
def noSpaces (s : List Char) : List Char := s.filter (· != ' ')

/-- form 5, a single literal: no `+-`, no `(`, no `,` -/
theorem mpi_from_str_plain {s : List Char} {prec : Int}
    (h1 : (splitOn2 '+' '-' (noSpaces s)).length < 2) (h2 : (noSpaces s).contains '(' = false)
    (h3 : (noSpaces s).contains ',' = false) :
    mpi_from_str s prec 0 = endpoints (noSpaces s) (noSpaces s) prec 0 := by
  simp only [noSpaces] at *
  unfold mpi_from_str
  dsimp only
  rw [if_neg (by omega)]
  simp only [h2, h3, Bool.false_eq_true, if_false]

/-- form 1, `a +- b` -/
theorem mpi_from_str_pm {s x y : List Char} {prec : Int}
    (h1 : splitOn2 '+' '-' (noSpaces s) = [x, y]) :
    mpi_from_str s prec 0 = mpi_from_str_a_b x y false prec 0 := by
  simp only [noSpaces] at *
  unfold mpi_from_str
  dsimp only
  rw [if_pos (by rw [h1]; simp), h1]

/-- form 2, `a (b)` and `a (b%)` -/
theorem mpi_from_str_paren {s x y : List Char} {prec : Int}
    (h1 : (splitOn2 '+' '-' (noSpaces s)).length < 2) (h2 : (noSpaces s).contains '(' = true)
    (h3 : (noSpaces s).head? ≠ some '(') (h4 : (noSpaces s).contains ')' = true)
    (h5 : ((noSpaces s).filter (· != ')')).contains '%' = true →
      ((noSpaces s).filter (· != ')')).getLast? = some '%')
    (h6 : splitOnC '(' (((noSpaces s).filter (· != ')')).filter (· != '%')) = [x, y]) :
    mpi_from_str s prec 0 =
      mpi_from_str_a_b x y (((noSpaces s).filter (· != ')')).contains '%') prec 0 := by
  simp only [noSpaces] at *
  unfold mpi_from_str
  dsimp only
  rw [if_neg (by omega), if_pos h2, if_neg (by
    rintro (hh | hh)
    · exact h3 hh
    · rw [h4] at hh; exact Bool.noConfusion hh)]
  rw [if_neg (by
    intro hh
    exact hh.2 (h5 hh.1)), h6]

/-- form 3, `[a, b]` -/
theorem mpi_from_str_brackets {s a b : List Char} {prec : Int}
    (h1 : (splitOn2 '+' '-' (noSpaces s)).length < 2) (h2 : (noSpaces s).contains '(' = false)
    (h3 : (noSpaces s).contains ',' = true) (h4 : (noSpaces s).contains '[' = true)
    (h5 : (noSpaces s).contains ']' = true) (h6 : (noSpaces s).head? = some '[')
    (h7 : splitOnC ',' (((noSpaces s).filter (· != '[')).filter (· != ']')) = [a, b]) :
    mpi_from_str s prec 0 = endpoints a b prec 0 := by
  simp only [noSpaces] at *
  unfold mpi_from_str
  dsimp only
  rw [if_neg (by omega)]
  simp only [h2, Bool.false_eq_true, if_false, h3, if_true, h4, h5, Bool.not_true, or_self, h6, h7]

/-- form 4 with an exponent, `x[y,z]e…` -/
theorem mpi_from_str_shared_e {s x yz y z' z e : List Char} {prec : Int}
    (h1 : (splitOn2 '+' '-' (noSpaces s)).length < 2) (h2 : (noSpaces s).contains '(' = false)
    (h3 : (noSpaces s).contains ',' = true) (h4 : (noSpaces s).contains '[' = true)
    (h5 : (noSpaces s).contains ']' = true) (h6 : (noSpaces s).head? ≠ some '[')
    (h7 : splitOnC '[' (noSpaces s) = [x, yz]) (h8 : splitOnC ',' yz = [y, z'])
    (h9 : (noSpaces s).contains 'e' = true) (h10 : splitOnC ']' z' = [z, e]) :
    mpi_from_str s prec 0 = endpoints (x ++ y ++ e) (x ++ z ++ e) prec 0 := by
  simp only [noSpaces] at *
  unfold mpi_from_str
  dsimp only
  rw [if_neg (by omega)]
  simp only [h2, Bool.false_eq_true, if_false, h3, if_true, h4, h5, Bool.not_true, or_self, h6, h7, h8,
    h9, h10]

/-- form 4 without exponent, `x[y,z]` -/
theorem mpi_from_str_shared {s x yz y z' : List Char} {prec : Int}
    (h1 : (splitOn2 '+' '-' (noSpaces s)).length < 2) (h2 : (noSpaces s).contains '(' = false)
    (h3 : (noSpaces s).contains ',' = true) (h4 : (noSpaces s).contains '[' = true)
    (h5 : (noSpaces s).contains ']' = true) (h6 : (noSpaces s).head? ≠ some '[')
    (h7 : splitOnC '[' (noSpaces s) = [x, yz]) (h8 : splitOnC ',' yz = [y, z'])
    (h9 : (noSpaces s).contains 'e' = false) :
    mpi_from_str s prec 0 = endpoints (x ++ y) (x ++ rstripL (· == ']') z') prec 0 := by
  simp only [noSpaces] at *
  unfold mpi_from_str
  dsimp only
  rw [if_neg (by omega)]
  simp only [h2, Bool.false_eq_true, if_false, h3, if_true, h4, h5, Bool.not_true, or_self, h6, h7, h8, h9]

end Mp

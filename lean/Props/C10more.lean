/-
  Props/C10more.lean — C10, further operations: results of sqrt, integer powers (every integer exponent), floor / ceil /
  nint / frac and `%` at working precision `prec ≥ 1` have at most `prec` mantissa bits, for operands of any bit length.
  Corollaries of the rounding contracts proved for those operations (C02sqrt, C03, C06).
-/
import MpProofs.Sqrt
import MpProofs.Pow
import MpProofs.IntPart

namespace Mp

theorem bitcount_le_of_canon {r : Mpf} (hc : CanonFin r) {prec : ℤ} (hp : 0 < prec) (hb : r.bc ≤ prec) :
    (bitcount r.man : ℤ) ≤ prec := by
  rcases hc with h0 | ⟨_, _, hb'⟩
  · rw [h0]; simp [fzero]; omega
  · rw [← hb']; exact hb

theorem C10_sqrt {s : Mpf} (hs : CanonFin s) (hsign : s.sign = 0) {prec : ℤ} (hp : 0 < prec) (rnd : Rnd) :
    ∃ r, mpf_sqrt s prec rnd = .ok r ∧ (bitcount r.man : ℤ) ≤ prec := by
  obtain ⟨r, hr, hc, hb, _⟩ := mpf_sqrt_spec hs hsign hp rnd
  exact ⟨r, hr, bitcount_le_of_canon hc hp hb⟩

theorem C10_pow_int {s : Mpf} (hs : CanonFin s) (n : ℤ) (h0 : s ≠ fzero ∨ 0 ≤ n) {prec : ℤ} (hp : 0 < prec) (rnd : Rnd) :
    ∃ r, mpf_pow_int s n prec rnd = .ok r ∧ (bitcount r.man : ℤ) ≤ prec := by
  obtain ⟨r, hr, hP, _⟩ := mpf_pow_int_spec hs n h0 hp rnd
  exact ⟨r, hr, bitcount_le_of_canon hP.canon hp hP.bc_le⟩

theorem C10_floor_ceil_nint_frac {s : Mpf} (hs : CanonFin s) {prec : ℤ} (hp : 0 < prec) (rnd : Rnd) :
    (∃ r, mpf_floor s prec rnd = .ok r ∧ (bitcount r.man : ℤ) ≤ prec) ∧
    (∃ r, mpf_ceil s prec rnd = .ok r ∧ (bitcount r.man : ℤ) ≤ prec) ∧
    (∃ r, mpf_nint s prec rnd = .ok r ∧ (bitcount r.man : ℤ) ≤ prec) ∧
    (∃ r, mpf_frac s prec rnd = .ok r ∧ (bitcount r.man : ℤ) ≤ prec) := by
  obtain ⟨r1, h1, o1⟩ := mpf_floor_spec hs hp.le rnd
  obtain ⟨r2, h2, o2⟩ := mpf_ceil_spec hs hp.le rnd
  obtain ⟨r3, n, h3, _, o3⟩ := mpf_nint_spec hs hp.le rnd
  obtain ⟨r4, h4, o4⟩ := mpf_frac_spec hs hp.le rnd
  exact ⟨⟨r1, h1, bitcount_le_of_canon o1.1 hp (o1.bc_le hp)⟩, ⟨r2, h2, bitcount_le_of_canon o2.1 hp (o2.bc_le hp)⟩,
    ⟨r3, h3, bitcount_le_of_canon o3.1 hp (o3.bc_le hp)⟩, ⟨r4, h4, bitcount_le_of_canon o4.1 hp (o4.bc_le hp)⟩⟩

theorem C10_mod {s t : Mpf} (hs : CanonFin s) (ht : CanonFin t) (ht0 : t ≠ fzero) {prec : ℤ} (hp : 0 < prec) (rnd : Rnd) :
    ∃ r, mpf_mod s t prec rnd = .ok r ∧ (bitcount r.man : ℤ) ≤ prec := by
  obtain ⟨r, hr, o⟩ := mpf_mod_spec hs ht ht0 hp rnd
  exact ⟨r, hr, bitcount_le_of_canon o.1 hp (o.bc_le hp)⟩

end Mp

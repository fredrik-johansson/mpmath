/-
  Props/C31.lean — C31: eigen and singular value decompositions satisfy their identities.

  Technique: VERIFIED CERTIFICATE CHECKING.  The harness runs the real mpmath routine, reads input and
  output exactly (dyadic / Gaussian-dyadic entries) and the compiled checker of `MpModel/Cert.lean`
  evaluates the identities in exact arithmetic.  The theorems below say what an answer of the checker
  means for the complex matrices denoted by the data (`toMat r c M : Matrix (Fin r) (Fin c) ℂ`,
  `colVec n E : Fin n → ℂ`), with `frob` the Frobenius norm and `p` the working precision:

    eigCheck  = true  ↔  ‖A·V − V·diag(E)‖_F ≤ 2^(10−p)·‖A‖_F·max(1,‖V‖_F)
    eigLCheck = true  ↔  ‖W·A − diag(E)·W‖_F ≤ 2^(10−p)·‖A‖_F·max(1,‖W‖_F)
    eighCheck = true  →  E real, ascending, ‖VᴴV − I‖_F ≤ 2^(10−p)·√n and the eig residual bound
    svdCheck  = true  →  S real, ≥ 0, descending, UᴴU ≈ I, V·Vᴴ ≈ I, ‖U·diag(S)·V − A‖_F ≤ 2^(10−p)·‖A‖_F
    schurCheck band = true → QᴴQ ≈ I, T upper triangular (band 0) / Hessenberg (band 1) exactly,
                             ‖Q·T·Qᴴ − A‖_F ≤ 2^(10−p)·‖A‖_F
  No statement is made about the convergence of the QR/QL iterations: the property is decided on each
  output.  gauss_quadrature is checked in the harness only (exact rational moments), no theorem here.
-/
import MpProofs.CertResid

namespace Mp

open Mp.Cert Matrix

/-- `eig`, right eigenvectors: the checker's answer is exactly the residual inequality. -/
theorem eigCheck_iff (n : ℕ) (p : ℤ) (A V E : Mat) :
    eigCheck n p A V E = true ↔
      frob (toMat n n A * toMat n n V - toMat n n V * Matrix.diagonal (colVec n E))
        ≤ (2:ℝ) ^ (10 - p) * (frob (toMat n n A) * max 1 (frob (toMat n n V))) := by
  rw [eigCheck, frobLe_iff (toReal_mul_nonneg (frob2_nonneg _ _ _) (max1_nonneg _)), eigResid, toMat_msub,
    toMat_mmul, toMat_mmul, toMat_diagM, sqrt_frob2_mul_max1]

/-- `eig`, left eigenvectors (rows of W). -/
theorem eigLCheck_iff (n : ℕ) (p : ℤ) (A W E : Mat) :
    eigLCheck n p A W E = true ↔
      frob (toMat n n W * toMat n n A - Matrix.diagonal (colVec n E) * toMat n n W)
        ≤ (2:ℝ) ^ (10 - p) * (frob (toMat n n A) * max 1 (frob (toMat n n W))) := by
  rw [eigLCheck, frobLe_iff (toReal_mul_nonneg (frob2_nonneg _ _ _) (max1_nonneg _)), eigLResid, toMat_msub,
    toMat_mmul, toMat_mmul, toMat_diagM, sqrt_frob2_mul_max1]

/-- `eigsy` / `eighe` / `eigh`: real ascending eigenvalues, orthonormal eigenvectors, small residual. -/
theorem eighCheck_sound (n : ℕ) (p : ℤ) (A V E : Mat) (h : eighCheck n p A V E = true) :
    (∀ i, (colVec n E i).im = 0) ∧
    (∀ i j : Fin n, (i : ℕ) + 1 = (j : ℕ) → (colVec n E i).re ≤ (colVec n E j).re) ∧
    frob ((toMat n n V)ᴴ * toMat n n V - 1) ≤ (2:ℝ) ^ (10 - p) * Real.sqrt n ∧
    frob (toMat n n A * toMat n n V - toMat n n V * Matrix.diagonal (colVec n E))
      ≤ (2:ℝ) ^ (10 - p) * (frob (toMat n n A) * max 1 (frob (toMat n n V))) := by
  rw [eighCheck, Bool.and_eq_true, Bool.and_eq_true, Bool.and_eq_true] at h
  obtain ⟨⟨⟨h1, h2⟩, h3⟩, h4⟩ := h
  exact ⟨allReal_sound h1, ascending_sound h2, orthCheck_sound h3, (eigCheck_iff n p A V E).1 h4⟩

/-- `svd` / `svd_r` / `svd_c` (economy factors U m×k, S k, V k×n). -/
theorem svdCheck_sound (m n k : ℕ) (p : ℤ) (A U S V : Mat) (h : svdCheck m n k p A U S V = true) :
    (∀ i, (colVec k S i).im = 0) ∧ (∀ i, 0 ≤ (colVec k S i).re) ∧
    (∀ i j : Fin k, (i : ℕ) + 1 = (j : ℕ) → (colVec k S j).re ≤ (colVec k S i).re) ∧
    frob ((toMat m k U)ᴴ * toMat m k U - 1) ≤ (2:ℝ) ^ (10 - p) * Real.sqrt k ∧
    frob (toMat k n V * (toMat k n V)ᴴ - 1) ≤ (2:ℝ) ^ (10 - p) * Real.sqrt k ∧
    frob (toMat m k U * Matrix.diagonal (colVec k S) * toMat k n V - toMat m n A)
      ≤ (2:ℝ) ^ (10 - p) * frob (toMat m n A) := by
  rw [svdCheck, Bool.and_eq_true, Bool.and_eq_true, Bool.and_eq_true, Bool.and_eq_true,
    Bool.and_eq_true] at h
  obtain ⟨⟨⟨⟨⟨h1, h2⟩, h3⟩, h4⟩, h5⟩, h6⟩ := h
  refine ⟨allReal_sound h1, nonneg_sound h2, descending_sound h3, orthCheck_sound h4, ?_, ?_⟩
  · have := frobLe_sound h5
    rwa [rowOrthResid, toMat_msub, toMat_mmul, toMat_conjT, toMat_ident, sqrt_ofNat] at this
  · have := frobLe_sound h6
    rwa [svdResid, toMat_msub, toMat_mmul, toMat_mmul, toMat_diagM, sqrt_frob2] at this

/-- `schur` (band = 0: T upper triangular) and `hessenberg` (band = 1: T upper Hessenberg). -/
theorem schurCheck_sound (band n : ℕ) (p : ℤ) (A Q T : Mat) (h : schurCheck band n p A Q T = true) :
    frob ((toMat n n Q)ᴴ * toMat n n Q - 1) ≤ (2:ℝ) ^ (10 - p) * Real.sqrt n ∧
    IsUpperBand band (toMat n n T) ∧
    frob (toMat n n Q * toMat n n T * (toMat n n Q)ᴴ - toMat n n A)
      ≤ (2:ℝ) ^ (10 - p) * frob (toMat n n A) := by
  rw [schurCheck, Bool.and_eq_true, Bool.and_eq_true] at h
  obtain ⟨⟨h1, h2⟩, h3⟩ := h
  refine ⟨orthCheck_sound h1, isUpperBand_sound h2, ?_⟩
  have := frobLe_sound h3
  rwa [simResid, toMat_msub, toMat_mmul, toMat_mmul, toMat_conjT, sqrt_frob2] at this

/-- non-vacuity: the checker accepts a genuine decomposition (A = diag(2,3), V = I) and rejects a wrong one -/
example : eigCheck 2 53 [[⟨⟨2,0⟩,⟨0,0⟩⟩, G.zero], [G.zero, ⟨⟨3,0⟩,⟨0,0⟩⟩]]
    [[G.one, G.zero], [G.zero, G.one]] [[⟨⟨2,0⟩,⟨0,0⟩⟩], [⟨⟨3,0⟩,⟨0,0⟩⟩]] = true := by decide +kernel
example : eigCheck 2 53 [[⟨⟨2,0⟩,⟨0,0⟩⟩, G.zero], [G.zero, ⟨⟨3,0⟩,⟨0,0⟩⟩]]
    [[G.one, G.zero], [G.zero, G.one]] [[⟨⟨2,0⟩,⟨0,0⟩⟩], [⟨⟨5,-1⟩,⟨0,0⟩⟩]] = false := by decide +kernel

end Mp

/-
  Props/C25.lean — property C25: integer-valued and number-theoretic functions are exact.

  Code under proof: the Lean model `MpModel/IntFun.lean` of mpmath/libmp/libintmath.py
  (`ifac`, `ifac2`, `ifib`, `eulernum` with their caches as explicit state; `stirling1`, `stirling2`,
  `moebius`, `list_primes`, `primepi`, `isprime`, `gcd`).

  Vocabulary (`dget` is the model's, the rest is defined in MpProofs/IntFun*.lean):
  * `dget c k`              — `c.get(k)` on a cache.
  * `FacReach memo`         — `memo` is reachable from the fresh `{0:1, 1:1}` by ANY sequence of successful
                              `ifac(n)` / `stirling2(n,k)` calls, any integer arguments.
  * `Fac2Reach pair`, `FibReach c`, `EulerReach c` — the same for `ifac2`, `ifib`, `eulernum`.
  * `fibZ n`                — Fibonacci numbers on ℤ: `Nat.fib n` for `n ≥ 0`, `(-1)^(n+1) F(n)` at `-n`.
  * `eulerCacheVal n`, `eulerRet n` — the value `eulernum` stores under key `n` / returns when it computes `n`
                              (pure replay of the array recurrence, no cache).
-/
import MpProofs.IntFun
import MpProofs.IntFunEuler
import MpProofs.IntFunEulerFast
import MpProofs.IntFunSieve
import MpProofs.IntFunReach
import MpProofs.IntFunNT
import MpProofs.IntFunSqrt
import MpProofs.IntFunRef
import Mathlib.NumberTheory.ArithmeticFunction.Moebius

namespace Mp

/-! ## factorial -/

/-- `ifac(n) = n!` for every `n ≥ 0`, after ANY call history; the new memo is again reachable. -/
theorem ifac_spec (memo : IDict) (h : FacReach memo) (n : Int) (hn : 0 ≤ n) :
    ∃ memo', ifac n memo = .ok ((Nat.factorial n.toNat : Int), memo') ∧ FacReach memo' := by
  obtain ⟨memo', h1, _⟩ := ifac_of_inv n memo (facReach_inv h)
  rw [if_pos hn] at h1
  exact ⟨memo', h1, FacReach.ifac n h h1⟩

example : FacReach ifacMemo0 := FacReach.init

/-- cache invariant: every entry of a reachable factorial memo is `k ↦ k!` with `0 ≤ k ≤ MAX_FACTORIAL_CACHE`. -/
theorem ifac_cache_correct (memo : IDict) (h : FacReach memo) (k v : Int) (hk : dget memo k = some v) :
    0 ≤ k ∧ k ≤ 1000 ∧ v = (Nat.factorial k.toNat : Int) := by
  obtain ⟨K, _, hK, rfl⟩ := facReach_inv h
  rw [dget_facTable] at hk
  split at hk
  · next hh => simp only [Option.some.injEq] at hk; exact ⟨hh.1, by omega, hk.symm⟩
  · exact absurd hk (by simp)

/-- Outside the documented domain (`n < 0`) `ifac` does not raise: it returns `(len(memo)-1)!`, a value
that depends on the call history (docstring: "for integers n >= 0 only"). -/
theorem ifac_negative_arg (memo : IDict) (h : FacReach memo) (n : Int) (hn : n < 0) :
    ∃ memo', ifac n memo = .ok ((Nat.factorial (dlen memo - 1).toNat : Int), memo') := by
  obtain ⟨memo', h1, _⟩ := ifac_of_inv n memo (facReach_inv h)
  rw [if_neg (by omega)] at h1
  exact ⟨memo', h1⟩

/-! ## double factorial -/

/-- `ifac2(n) = n‼` for every `n ≥ 0`, after ANY call history. -/
theorem ifac2_spec (pair : IDict × IDict) (h : Fac2Reach pair) (n : Int) (hn : 0 ≤ n) :
    ∃ pair', ifac2 n pair = .ok ((Nat.doubleFactorial n.toNat : Int), pair') ∧ Fac2Reach pair' := by
  obtain ⟨pair', h1, _⟩ := ifac2_of_inv n pair (fac2Reach_inv h) hn
  exact ⟨pair', h1, Fac2Reach.step n h h1⟩

example : Fac2Reach ifac2Memo0 := Fac2Reach.init

/-- cache invariant: the even memo holds `k ↦ k‼` for even `k`, the odd memo for odd `k`, `0 ≤ k ≤ 1000`. -/
theorem ifac2_cache_correct (pair : IDict × IDict) (h : Fac2Reach pair) (k v : Int) :
    (dget pair.1 k = some v → 0 ≤ k ∧ k ≤ 1000 ∧ k % 2 = 0 ∧ v = (Nat.doubleFactorial k.toNat : Int)) ∧
    (dget pair.2 k = some v → 0 ≤ k ∧ k ≤ 1000 ∧ k % 2 = 1 ∧ v = (Nat.doubleFactorial k.toNat : Int)) := by
  obtain ⟨Ke, Ko, _, hKe, _, hKo, rfl⟩ := fac2Reach_inv h
  simp only [fac2Cap] at hKe hKo
  constructor
  · intro hk
    rw [dget_fac2Table 0 Ke (by omega)] at hk
    split at hk
    · next hh => simp only [Option.some.injEq] at hk; exact ⟨hh.1, by omega, by omega, hk.symm⟩
    · exact absurd hk (by simp)
  · intro hk
    rw [dget_fac2Table 1 Ko (by omega)] at hk
    split at hk
    · next hh => simp only [Option.some.injEq] at hk; exact ⟨hh.1, by omega, by omega, hk.symm⟩
    · exact absurd hk (by simp)

/-! ## Fibonacci -/

/-- `ifib(n) = F(n)` for EVERY integer `n` (negative indices: `F(-n) = (-1)^(n+1) F(n)`), after ANY
call history. -/
theorem ifib_spec (c : IDict) (h : FibReach c) (n : Int) :
    (ifib n c).1 = fibZ n ∧ FibReach (ifib n c).2 :=
  ⟨(ifib_of_inv n c (fibReach_inv h)).1, FibReach.step n h⟩

example : FibReach [] := FibReach.init
example : fibZ (-6) = -8 ∧ fibZ (-5) = 5 ∧ fibZ 10 = 55 := by decide

/-- cache invariant: every entry of a reachable Fibonacci cache is `k ↦ F(k)` with `0 ≤ k < 250`. -/
theorem ifib_cache_correct (c : IDict) (h : FibReach c) (k v : Int) (hk : dget c k = some v) :
    0 ≤ k ∧ k < 250 ∧ v = (Nat.fib k.toNat : Int) :=
  fibReach_inv h k v hk

/-! ## gcd -/

/-- `|gcd(*args)|` is the gcd of the absolute values (for `gcd()` it is 0). -/
theorem gcd_spec (args : List Int) :
    (gcd args).natAbs = args.foldl (fun g x => Nat.gcd g x.natAbs) 0 := by
  rw [gcd_eq_foldl, foldl_gcdStep_natAbs]; rfl

/-- for nonnegative arguments the result is the (nonnegative) gcd itself. -/
theorem gcd_spec_nonneg (args : List Int) (h : ∀ x ∈ args, 0 ≤ x) :
    gcd args = ((args.foldl (fun g x => Nat.gcd g x.natAbs) 0 : Nat) : Int) := by
  have h1 := gcd_spec args
  have h2 : 0 ≤ gcd args := by rw [gcd_eq_foldl]; exact foldl_gcdStep_nonneg args 0 (le_refl _) h
  omega

example : gcd [12, 18] = 6 ∧ gcd [4, -6] = -2 := by decide

/-! ## Stirling numbers -/

/-- `stirling1(n,k) = (-1)^(n+k) · c(n,k)` (signed Stirling numbers of the first kind). -/
theorem stirling1_exact (n k : Nat) :
    stirling1 (n : Int) (k : Int) = .ok ((-1) ^ (n + k) * (Nat.stirlingFirst n k : Int)) := by
  unfold stirling1
  rw [if_neg (by omega)]
  by_cases h1 : (k : Int) ≥ n
  · rw [if_pos h1]
    by_cases h2 : (n : Int) = k
    · have : n = k := by omega
      subst this
      rw [if_pos rfl, Nat.stirlingFirst_self, ← two_mul, pow_mul]; simp
    · rw [if_neg h2, Nat.stirlingFirst_eq_zero_of_lt (by omega)]; simp
  · rw [if_neg h1]
    by_cases h3 : (k : Int) < 1
    · have : k = 0 := by omega
      subst this
      obtain ⟨n', rfl⟩ : ∃ n', n = n' + 1 := ⟨n - 1, by omega⟩
      rw [if_pos h3, Nat.stirlingFirst_succ_zero]; simp
    · rw [if_neg h3]
      simp only [Int.toNat_natCast]
      rw [st1_fold n k (by omega) (by omega), show ((n : Int) + k).toNat = n + k by omega]

/-- negative arguments raise ValueError. -/
theorem stirling1_negative (n k : Int) (h : n < 0 ∨ k < 0) : stirling1 n k = .error .valueError := by
  unfold stirling1
  rw [if_pos h]

/-- `stirling2(n,k) = S(n,k)`, after ANY history of the factorial memo it uses (in particular the final
`s // ifac(k)` is exact). -/
theorem stirling2_exact (memo : IDict) (h : FacReach memo) (n k : Nat) :
    ∃ memo', stirling2 (n : Int) (k : Int) memo = .ok ((Nat.stirlingSecond n k : Int), memo') ∧ FacReach memo' := by
  obtain ⟨memo', h1, _⟩ := stirling2_of_inv n k memo (facReach_inv h)
  exact ⟨memo', h1, FacReach.stirling2 _ _ h h1⟩

theorem stirling2_negative (n k : Int) (memo : IDict) (h : n < 0 ∨ k < 0) :
    stirling2 n k memo = .error .valueError :=
  stirling2_err n k memo h

/-- the alternating sum that `stirling2` divides by `k!` is exactly `k! · S(n,k)`. -/
theorem stirling2_div_exact (n k : Nat) :
    ((List.range (k + 1)).foldl (st2Step n k) (0, 1)).1 = (Nat.factorial k : Int) * (Nat.stirlingSecond n k : Int) :=
  st2_fold' n k

/-! ## primes -/

/-- `list_primes(n)` is exactly the list of primes `≤ n`, in increasing order (`n ≥ -1`). -/
theorem list_primes_exact (n : Int) (h : -1 ≤ n) :
    list_primes n = .ok ((List.range (n + 1).toNat).filter (fun p => decide (Nat.Prime p))) := by
  unfold list_primes
  simp only
  rw [if_neg (by omega)]
  congr 1
  obtain ⟨hinv, hsz⟩ := SInv_fold (n + 1).toNat (Nat.sqrt (n + 1).toNat + 1 - 2) _
    (SInv_init (n + 1).toNat)
  rw [toList_eq_map_sv]
  apply filter_final
  · rw [hsz]; simp; omega
  · exact SInv_final _ _ _ (by omega) hinv

/-- `list_primes(n)` for `n < -1` raises TypeError (`int()` of a complex number). -/
theorem list_primes_negative (n : Int) (h : n < -1) : list_primes n = .error .typeError := by
  unfold list_primes
  simp only
  rw [if_pos (by omega)]

/-- `primepi(x)` is the number of primes `≤ x`. -/
theorem primepi_exact (x : Int) :
    primepi x = .ok (((List.range (x + 1).toNat).filter (fun p => decide (Nat.Prime p))).length : Int) := by
  unfold primepi
  by_cases hx : x < 2
  · rw [if_pos hx]
    have : (List.range (x + 1).toNat).filter (fun p => decide (Nat.Prime p)) = [] := by
      rw [List.filter_eq_nil_iff]
      intro a ha
      rw [List.mem_range] at ha
      have : ¬ Nat.Prime a := fun hp => by have := hp.two_le; omega
      simp [this]
    rw [this]; rfl
  · rw [if_neg hx, list_primes_exact x (by omega)]

/-- `isprime` never rejects a prime (Miller–Rabin completeness: Fermat + square roots of 1 mod p), for
EVERY prime, including those above the deterministic range. -/
theorem isprime_complete_all (n : Nat) (h : Nat.Prime n) : isprime (n : Int) = true :=
  isprime_complete n h

example : Nat.Prime 1000003 := by norm_num

/-- negative integers are never prime. -/
theorem isprime_negative (n : Int) (h : n < 0) : isprime n = false :=
  isprime_neg n h

/-
  FULL STATEMENT (not proved):  ∀ n : Int, n < 341550071728321 → isprime n = true → Nat.Prime n.toNat
  (the property text: "isprime deterministically below 3.4*10^14").  Proved below for n < 10^5 by exhaustive
  kernel evaluation; beyond that the claim rests on the published strong-pseudoprime bounds
  (Pomerance–Selfridge–Wagstaff 1980, Jaeschke 1993), which are not formalised here.
-/
/-- soundness below `10^5` (exhaustive kernel evaluation, no `native_decide`). -/
theorem isprime_sound_partial (n : Int) (hn : n < 100000) (h : isprime n = true) : Nat.Prime n.toNat := by
  by_cases hneg : n < 0
  · rw [isprime_neg n hneg] at h; exact absurd h (by decide)
  · obtain ⟨k, rfl⟩ := Int.eq_ofNat_of_zero_le (by omega : 0 ≤ n)
    rw [Int.toNat_natCast]
    exact isprime_sound_nat k (by omega) h

example : isprime 99991 = true := by decide +kernel

/-- hence `isprime` decides primality exactly below `10^5`. -/
theorem isprime_exact_partial (n : Int) (hn : n < 100000) : isprime n = true ↔ (0 ≤ n ∧ Nat.Prime n.toNat) := by
  constructor
  · intro h
    refine ⟨?_, isprime_sound_partial n hn h⟩
    by_contra hneg
    rw [isprime_neg n (by omega)] at h
    exact absurd h (by simp)
  · rintro ⟨h0, hp⟩
    have := isprime_complete n.toNat hp
    rwa [Int.toNat_of_nonneg h0] at this

/-- Conditional on the published strong-pseudoprime bounds `SPRP_bounds` (Pomerance–Selfridge–Wagstaff 1980,
Jaeschke 1993: no odd composite below 1373653 passes bases 2,3; none below 341550071728321 passes bases
2,3,5,7,11,13,17 — a purely mathematical hypothesis about `SPRP`, NOT proved here), `isprime` is sound on the
whole deterministic range claimed by the property text. -/
theorem isprime_sound_under_SPRP_bounds (H : SPRP_bounds) (n : Int) (hn : n < 341550071728321)
    (h : isprime n = true) : Nat.Prime n.toNat := by
  by_cases hneg : n < 0
  · rw [isprime_neg n hneg] at h; exact absurd h (by decide)
  · obtain ⟨k, rfl⟩ := Int.eq_ofNat_of_zero_le (by omega : 0 ≤ n)
    rw [Int.toNat_natCast]
    by_cases h50 : k < 50
    · exact isprime_sound_nat k (by omega) h
    · obtain ⟨hodd, _, hall⟩ := (isprime_ge50 (by omega)).1 h
      rw [List.all_eq_true] at hall
      by_cases hlt : k < 1373653
      · rw [if_pos hlt] at hall
        exact H.1 k (by omega) hodd hlt (fun a ha => mrTest_imp_SPRP (by omega) hodd (hall a ha))
      · rw [if_neg hlt, if_pos (by omega)] at hall
        exact H.2 k (by omega) hodd (by omega) (fun a ha => mrTest_imp_SPRP (by omega) hodd (hall a ha))

example : SPRP 7 2 := ⟨1, 3, by norm_num, by norm_num, Or.inl (by norm_num)⟩

/-! ## Moebius function -/

/-- `moebius(n) = μ(|n|)` for every integer `n` (`μ(0) = 0`). -/
theorem moebius_exact (n : Int) : moebius n = ArithmeticFunction.moebius n.natAbs := by
  unfold Mp.moebius
  generalize n.natAbs = m
  show (if m < 2 then ((m : Nat) : Int) else moebiusLoop (m - 1) 2 m []) = _
  by_cases hm : m < 2
  · rw [if_pos hm]
    interval_cases m <;> simp
  · rw [if_neg hm]
    by_cases hsq : Squarefree m
    · rw [moebiusLoop_squarefree hsq (m-1) 2 [] 1 (by omega) (by omega) (Or.inl ⟨rfl, rfl⟩)
        (by simp) (one_dvd m) (by simp) (by omega)
        (fun q hq _ _ => by have := hq.two_le; omega)]
      rw [ArithmeticFunction.moebius_apply_of_squarefree hsq,
        ← (ArithmeticFunction.cardDistinctFactors_eq_cardFactors_iff_squarefree hsq.ne_zero).2 hsq]
    · rw [ArithmeticFunction.moebius_eq_zero_of_not_squarefree hsq]
      have h1 := mt Nat.squarefree_iff_prime_squarefree.2 hsq
      push Not at h1
      obtain ⟨q, hq, hqq⟩ := h1
      have hq2 := hq.two_le
      have hqm : q ≤ m := Nat.le_of_dvd (by omega) (dvd_trans (Dvd.intro q rfl) hqq)
      apply moebiusLoop_eq_zero
      refine ⟨q, hq2, by omega, Nat.mod_eq_zero_of_dvd (dvd_trans (Dvd.intro q rfl) hqq), ?_⟩
      rw [sq]; exact Nat.mod_eq_zero_of_dvd hqq

example : moebius 30 = -1 ∧ moebius (-12) = 0 ∧ moebius 6 = 1 := by decide

/-! ## Euler numbers -/

/-
  `eulerE m` (MpProofs/IntFunEuler.lean) is the Euler number `E_m` (`1/cosh x = ∑ E_m x^m/m!`), defined through
  the table `secTable n = [E_0, E_2, …, E_{2(n-1)}]` built by the recurrence
  `E_0 = 1`, `E_{2n} = -∑_{k<n} C(2n,2k) E_{2k}`; the next three theorems characterise it:
  `E_0 = 1`, `E_odd = 0`, and `∑_{k=0}^{n} C(2n,2k) E_{2k} = 0` for `n ≥ 1`.
-/

theorem eulerE_zero : eulerE 0 = 1 := by decide

theorem eulerE_odd (m : Nat) (h : m % 2 = 1) : eulerE m = 0 := by simp [eulerE, h]

theorem eulerE_recurrence (n : Nat) (hn : 1 ≤ n) :
    ((List.range (n + 1)).map (fun k => (Nat.choose (2 * n) (2 * k) : Int) * eulerE (2 * k))).sum = 0 := by
  rw [List.range_succ, List.map_append, List.sum_append]
  have h1 : ∀ k ∈ List.range n, (Nat.choose (2 * n) (2 * k) : Int) * eulerE (2 * k)
      = (Nat.choose (2 * n) (2 * k) : Int) * (secTable n).getD k 0 := by
    intro k hk
    rw [List.mem_range] at hk
    rw [eulerE_two_mul, secTable_getD_stable (k + 1) n k (by omega) (by omega)]
  rw [List.map_congr_left h1]
  have h2 : eulerE (2 * n) = -((List.range n).map
      (fun k => (Nat.choose (2 * n) (2 * k) : Int) * (secTable n).getD k 0)).sum := by
    rw [eulerE_two_mul]
    have hl : (secTable n).length = n := secTable_length n
    have hn0 : n ≠ 0 := by omega
    simp only [secTable, List.getD_eq_getElem?_getD]
    rw [List.getElem?_append_right (by omega)]
    simp [hl, hn0]
  simp [h2]

/-- cache consistency: although `eulernum` writes `_cache[n]` inside its inner loop (partial sums), every
value left in a reachable cache is the FINAL value for its key, `0 ≤ k ≤ MAX_EULER_CACHE`. -/
theorem eulernum_cache_consistent (c : IDict) (h : EulerReach c) (k v : Int) (hk : dget c k = some v) :
    0 ≤ k ∧ k ≤ 500 ∧ v = eulerCacheVal k.toNat :=
  (eulerReach_inv h).2 k v hk

example : EulerReach eulerCache0 := EulerReach.init

/-- odd arguments (of either sign) give 0. -/
theorem eulernum_odd_arg (m : Int) (c : IDict) (h : m % 2 = 1) : (eulernum m c).1 = some 0 := by
  rw [eulernum_odd m c h]

/-- Even NEGATIVE arguments: the model (like the code: the `for` loop body never runs and the function falls
off its end) returns Python `None`, not an integer and not an exception. -/
theorem eulernum_negative_even_returns_None (c : IDict) (h : EulerReach c) (m : Int) (he : m % 2 = 0) (hm : m < 0) :
    (eulernum m c).1 = none := by
  rw [eulernum_neg_even m c (eulerReach_inv h) he hm]

/-- for even `m ≥ 0`, after ANY call history, the answer is either the stored value or the freshly computed
value for `m` — never a value belonging to another key or a partial sum. -/
theorem eulernum_history_independent (c : IDict) (h : EulerReach c) (m : Int) (he : m % 2 = 0) (hm : 0 ≤ m) :
    ((eulernum m c).1 = some (eulerCacheVal m.toNat) ∨ (eulernum m c).1 = some (eulerRet m.toNat)) ∧
    EulerReach (eulernum m c).2 :=
  ⟨(eulernum_even m c (eulerReach_inv h) he hm).1, EulerReach.step m h⟩

/-
  FULL STATEMENT (not proved):
    theorem eulernum_spec (c) (h : EulerReach c) (m : Int) (hm : 0 ≤ m) : (eulernum m c).1 = some (eulerE m.toNat)
  What is missing: `eulerCacheVal n = eulerRet n = eulerE n` for ALL even n, i.e. the mathematics of the
  van de Lune recurrence (`∑_j a(n,j) = 2^n · |E_n|`); it is checked (kernel evaluation, `eulerS_small100`) for n ≤ 100, which covers the
  `n < 100` path of `mp.eulernum`.
-/
/-- `eulernum(m) = E_m` for `0 ≤ m ≤ 101`, after ANY call history (including histories that computed
much larger Euler numbers). -/
theorem eulernum_spec_partial (c : IDict) (h : EulerReach c) (m : Int) (hm : 0 ≤ m) (hm' : m ≤ 101) :
    (eulernum m c).1 = some (eulerE m.toNat) := by
  by_cases ho : m % 2 = 1
  · rw [eulernum_odd m c ho, eulerE_odd _ (by omega)]
  · obtain ⟨j, hj⟩ : ∃ j : Nat, m.toNat = 2 * j := ⟨m.toNat / 2, by omega⟩
    have hv := euler_values_small100 j (by omega)
    rw [← hj] at hv
    rcases (eulernum_even m c (eulerReach_inv h) (by omega) hm).1 with h1 | h1
    · rw [h1, hv.1]
    · rw [h1, hv.2]

/-! ## reference values of the float-path functions binomial / rf / ff (NOT models of the gammaprod code: the values the
driver answers with, against which the real results are judged: exact when they fit, within 1 ulp otherwise) -/

/-- the driver's `w_binomial` reference is the binomial coefficient. -/
theorem binomial_ref_exact (n k : Nat) : binomialRef (n : Int) (k : Int) = (Nat.choose n k : Int) := by
  unfold binomialRef
  rw [if_neg (by omega)]
  simpa using binomialRef_fold n k

/-- the driver's `w_rf` reference is the rising factorial `x (x+1) ⋯ (x+n-1)`. -/
theorem rf_ref_exact (x n : Nat) : rfRef (x : Int) n = (Nat.ascFactorial x n : Int) := by
  unfold rfRef
  induction n with
  | zero => simp
  | succ n ih =>
    rw [List.range_succ, List.foldl_append, ih]
    simp only [List.foldl_cons, List.foldl_nil, Nat.ascFactorial_succ]
    push_cast; ring

/-- the driver's `w_ff` reference is the falling factorial `x (x-1) ⋯ (x-n+1)`. -/
theorem ff_ref_exact (x n : Nat) : ffRef (x : Int) n = (Nat.descFactorial x n : Int) := by
  unfold ffRef
  induction n with
  | zero => simp
  | succ n ih =>
    rw [List.range_succ, List.foldl_append, ih]
    simp only [List.foldl_cons, List.foldl_nil, Nat.descFactorial_succ]
    by_cases h : n ≤ x
    · push_cast [h]; ring
    · have h0 : Nat.descFactorial x n = 0 := Nat.descFactorial_eq_zero_iff_lt.mpr (by omega)
      simp [h0]

/-! ## integer square roots (integer loops only; the floating-point initial estimates are parameters) -/

/-- the Newton loop of `isqrt_small_python` returns `⌊√x⌋` from ANY initial estimate `r0 ≥ ⌊√x⌋` (`x > 0`). -/
theorem isqrt_small_exact (x r0 : Nat) (hx : 0 < x) (hr : Nat.sqrt x ≤ r0) : isqrt_small x r0 = Nat.sqrt x := by
  have hs0 : 0 < Nat.sqrt x := Nat.sqrt_pos.mpr hx
  exact isqrtNewton_spec r0 x r0 hx (by omega) hr (by omega)

example : isqrt_small (2 ^ 60 + 5) (2 ^ 30 + 17) = 2 ^ 30 := by decide +kernel

/-- the correction loops of `sqrtrem_python` return `(⌊√x⌋, x - ⌊√x⌋²)` whenever `isqrt_fast`'s value `y0`
is at most 1 below the root (overestimates of any size are repaired). -/
theorem sqrtrem_exact (x : Nat) (y0 : Int) (h : (Nat.sqrt x : Int) ≤ y0 + 1) :
    sqrtremLarge x y0 = ((Nat.sqrt x : Int), (x : Int) - (Nat.sqrt x : Int) * Nat.sqrt x) := by
  have h1 : ((Nat.sqrt x : Int)) * Nat.sqrt x ≤ x := by exact_mod_cast Nat.sqrt_le x
  have h2 : (x : Int) < ((Nat.sqrt x : Int) + 1) * (Nat.sqrt x + 1) := by exact_mod_cast Nat.lt_succ_sqrt x
  unfold sqrtremLarge
  simp only
  rw [sqrtremDown_spec x _ (y0 + 1) h (by omega)]
  simp only
  split
  · unfold sqrtremUp
    rw [if_neg (by linarith)]
  · rfl

/-- …but NOT when the estimate is 2 below: the second loop tests `rem > 2*(1+y)` instead of `rem > 2*y`.
(Latent: no `x` with `isqrt_fast(x) ≤ ⌊√x⌋ - 2` is known.) -/
theorem sqrtrem_underestimate_counterexample : sqrtremLarge 16 2 = (3, 7) ∧ Nat.sqrt 16 = 4 :=
  ⟨sqrtremLarge_underestimate_witness, by decide +kernel⟩

end Mp

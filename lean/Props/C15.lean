/-
  Props/C15.lean — C15: complex interval (rectangle) arithmetic contains every possible exact result.

  For rectangles with finite canonical endpoints of any bit length and any precision: the results of mpci_add, mpci_sub,
  mpci_neg, mpci_pos and mpci_mul are well-formed rectangles containing `z ∘ w` for every `z`, `w` in the operands
  (real and imaginary parts as rationals).  Corollaries of the real-interval containment theorems (MpProofs/IntervalSound.lean:
  all sign cases of mpi_mul, directed rounding of every endpoint).  Division is in Props/C15div.lean, the modulus in
  Props/C15abs.lean, squares and integer powers in Props/C15pow.lean.  The transcendental functions are not covered by
  theorems: they are tied by the bit-exact correspondence and decided on sample points by the check.
-/
import MpProofs.IntervalSound

namespace Mp

theorem C15_add {Z W : Mpci} (hZ : FinCi Z) (hW : FinCi W) {prec : ℤ} (hp : 0 ≤ prec) {x y u v : ℚ}
    (hz : MemCi x y Z) (hw : MemCi u v W) :
    FinCi (mpci_add Z W prec) ∧ MemCi (x + u) (y + v) (mpci_add Z W prec) := by
  obtain ⟨h1, m1⟩ := mpi_add_sound hZ.1 hW.1 hp hz.1 hw.1
  obtain ⟨h2, m2⟩ := mpi_add_sound hZ.2 hW.2 hp hz.2 hw.2
  exact ⟨⟨h1, h2⟩, m1, m2⟩

theorem C15_sub {Z W : Mpci} (hZ : FinCi Z) (hW : FinCi W) {prec : ℤ} (hp : 0 ≤ prec) {x y u v : ℚ}
    (hz : MemCi x y Z) (hw : MemCi u v W) :
    FinCi (mpci_sub Z W prec) ∧ MemCi (x - u) (y - v) (mpci_sub Z W prec) := by
  obtain ⟨h1, m1⟩ := mpi_sub_sound hZ.1 hW.1 hp hz.1 hw.1
  obtain ⟨h2, m2⟩ := mpi_sub_sound hZ.2 hW.2 hp hz.2 hw.2
  exact ⟨⟨h1, h2⟩, m1, m2⟩

theorem C15_neg {Z : Mpci} (hZ : FinCi Z) {prec : ℤ} (hp : 0 ≤ prec) {x y : ℚ} (hz : MemCi x y Z) :
    FinCi (mpci_neg Z prec) ∧ MemCi (-x) (-y) (mpci_neg Z prec) := by
  obtain ⟨h1, m1⟩ := mpi_neg_sound hZ.1 hp hz.1
  obtain ⟨h2, m2⟩ := mpi_neg_sound hZ.2 hp hz.2
  exact ⟨⟨h1, h2⟩, m1, m2⟩

theorem C15_pos {Z : Mpci} (hZ : FinCi Z) {prec : ℤ} (hp : 0 ≤ prec) {x y : ℚ} (hz : MemCi x y Z) :
    FinCi (mpci_pos Z prec) ∧ MemCi x y (mpci_pos Z prec) := mpci_pos_sound hZ hp hz

/-- `(x + iy)(u + iv) = (xu - yv) + i(xv + yu)`: four exact interval products, one directed rounding per endpoint -/
theorem C15_mul {Z W : Mpci} (hZ : FinCi Z) (hW : FinCi W) {prec : ℤ} (hp : 0 ≤ prec) {x y u v : ℚ}
    (hz : MemCi x y Z) (hw : MemCi u v W) :
    FinCi (mpci_mul Z W prec) ∧ MemCi (x * u - y * v) (x * v + y * u) (mpci_mul Z W prec) :=
  mpci_mul_sound hZ hW hp hz hw

example : FinCi ((fzero, fone), (fnone, fone)) ∧ MemCi (1 / 2) 0 ((fzero, fone), (fnone, fone)) := by
  have v1 : val fone = 1 := by simp [val, fone]
  have vm : val fnone = -1 := by simp [val, fnone]
  refine ⟨⟨⟨by decide, by decide, ?_⟩, ⟨by decide, by decide, ?_⟩⟩, ⟨?_, ?_⟩, ⟨?_, ?_⟩⟩ <;>
    simp only [v1, vm, val_fzero] <;> norm_num

end Mp

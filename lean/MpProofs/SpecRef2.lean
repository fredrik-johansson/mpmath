/-
  Soundness of the series enclosures of `MpModel/SpecRef2.lean`: `hypEncl` (exact partial sum plus a geometric tail
  bound whose ratio is checked for every index from the stopping index on) and `zetaEncl` (partial sum plus the
  telescoping tail bound `Σ_{k>N} k^(−s) ≤ N^(1−s)`).
-/
import MpProofs.SpecRefHyper
import Mathlib.Analysis.PSeries
import Mathlib.Analysis.SpecificLimits.Basic

namespace Mp.SpecRef
open Mp.Encl
open scoped Nat

theorem ratDI_mem (wp : ℕ) (q : ℚ) : (ratDI wp q).Mem (q : ℝ) := by
  unfold ratDI
  have := DI.mem_divNat wp (DI.mem_ofInt q.num) q.den_pos
  rwa [← Rat.cast_def] at this

theorem ratHull_mem (wp : ℕ) (lo hi : ℚ) (v : ℝ) (h1 : (lo : ℝ) ≤ v) (h2 : v ≤ (hi : ℝ)) :
    (ratHull wp lo hi).Mem v :=
  ⟨le_trans (ratDI_mem wp lo).1 h1, le_trans h2 (ratDI_mem wp hi).2⟩

theorem absQ_eq (q : ℚ) : absQ q = |q| := ite_neg_eq_abs q

theorem geom_tail (f : ℕ → ℝ) (K : ℕ) (ρ : ℝ) (h0 : 0 ≤ ρ) (h1 : ρ < 1)
    (hr : ∀ k, K ≤ k → |f (k + 1)| ≤ ρ * |f k|) :
    Summable f ∧ |∑' k, f k - ∑ j ∈ Finset.range K, f j| ≤ |f K| / (1 - ρ) := by
  have hb : ∀ j, |f (j + K)| ≤ |f K| * ρ ^ j := by
    intro j
    induction j with
    | zero => simp
    | succ j ih =>
      have := hr (j + K) (Nat.le_add_left _ _)
      rw [show j + 1 + K = j + K + 1 by ring]
      calc |f (j + K + 1)| ≤ ρ * |f (j + K)| := this
        _ ≤ ρ * (|f K| * ρ ^ j) := mul_le_mul_of_nonneg_left ih h0
        _ = |f K| * ρ ^ (j + 1) := by ring
  have hgeo : HasSum (fun j : ℕ => |f K| * ρ ^ j) (|f K| * (1 - ρ)⁻¹) :=
    (hasSum_geometric_of_lt_one h0 h1).mul_left _
  have hg : Summable (fun j => f (j + K)) :=
    Summable.of_norm_bounded hgeo.summable (fun j => by rw [Real.norm_eq_abs]; exact hb j)
  have hf : Summable f := (summable_nat_add_iff K).1 hg
  refine ⟨hf, ?_⟩
  have hsplit := hf.sum_add_tsum_nat_add K
  have hnorm : ‖∑' j, f (j + K)‖ ≤ |f K| * (1 - ρ)⁻¹ :=
    tsum_of_norm_bounded hgeo (fun j => by rw [Real.norm_eq_abs]; exact hb j)
  rw [← hsplit, add_sub_cancel_left, div_eq_mul_inv]
  simpa [Real.norm_eq_abs] using hnorm

theorem prodShift_cons (a : ℚ) (l : List ℚ) (k : ℕ) : prodShift (a :: l) k = (a + (k : ℚ)) * prodShift l k := by
  simp [prodShift]

theorem prodShift_nil (k : ℕ) : prodShift [] k = 1 := by simp [prodShift]

theorem ratio_mono {a b : ℚ} {K k : ℕ} (hk : K ≤ k) (hb : 0 < b + (K : ℚ)) :
    (a + (k : ℚ)) / (b + (k : ℚ)) ≤
      (if 1 ≤ (a + (K : ℚ)) / (b + (K : ℚ)) then (a + (K : ℚ)) / (b + (K : ℚ)) else 1) := by
  have hkK : (0 : ℚ) ≤ (k : ℚ) - (K : ℚ) := sub_nonneg.2 (Nat.cast_le.2 hk)
  have hbk : 0 < b + (k : ℚ) := by linarith
  split
  · rename_i h1
    rw [le_div_iff₀ hb, one_mul, add_le_add_iff_right] at h1
    rw [div_le_div_iff₀ hbk hb]
    linarith [mul_nonneg (sub_nonneg.2 h1) hkK]
  · rename_i h1
    rw [not_le, div_lt_one hb] at h1
    rw [div_le_one hbk]
    linarith

theorem ratioBound_spec : ∀ (as bs : List ℚ) (K : ℕ) (R : ℚ), ratioBound as bs K = some R →
    0 ≤ R ∧ ∀ k, K ≤ k → 0 ≤ prodShift as k ∧ 0 < prodShift bs k ∧ prodShift as k / prodShift bs k ≤ R
  | [], [], K, R, h => by
    obtain rfl := Option.some.inj h
    exact ⟨zero_le_one, fun k _ => by rw [prodShift_nil]; exact ⟨zero_le_one, one_pos, (div_one 1).le⟩⟩
  | [], b :: bs, K, R, h => by
    rw [ratioBound] at h
    split at h
    · rename_i hb
      obtain ⟨R', hR', rfl⟩ := Option.map_eq_some_iff.1 h
      obtain ⟨h0, hk⟩ := ratioBound_spec [] bs K R' hR'
      refine ⟨div_nonneg h0 hb.le, fun k hkK => ?_⟩
      obtain ⟨hpa, hpos, hle⟩ := hk k hkK
      have hbK : b + (K : ℚ) ≤ b + (k : ℚ) := add_le_add_right (Nat.cast_le.2 hkK) b
      have hbk : 0 < b + (k : ℚ) := hb.trans_le hbK
      rw [prodShift_cons, mul_comm, ← div_div]
      exact ⟨hpa, mul_pos hpos hbk, div_le_div₀ h0 hle hb hbK⟩
    · cases h
  | a :: as, [], K, R, h => by cases h
  | a :: as, b :: bs, K, R, h => by
    rw [ratioBound] at h
    split at h
    · rename_i hab
      obtain ⟨R', hR', rfl⟩ := Option.map_eq_some_iff.1 h
      obtain ⟨h0, hk⟩ := ratioBound_spec as bs K R' hR'
      have hM : 0 ≤ (if 1 ≤ (a + (K : ℚ)) / (b + (K : ℚ)) then (a + (K : ℚ)) / (b + (K : ℚ)) else 1) := by
        split
        · exact div_nonneg hab.1 hab.2.le
        · exact zero_le_one
      refine ⟨mul_nonneg hM h0, fun k hkK => ?_⟩
      obtain ⟨hpa, hpb, hle⟩ := hk k hkK
      have hkK' : (K : ℚ) ≤ (k : ℚ) := Nat.cast_le.2 hkK
      have hak : 0 ≤ a + (k : ℚ) := hab.1.trans (add_le_add_right hkK' a)
      have hbk : 0 < b + (k : ℚ) := hab.2.trans_le (add_le_add_right hkK' b)
      rw [prodShift_cons, prodShift_cons, mul_div_mul_comm]
      exact ⟨mul_nonneg hak hpa, mul_pos hbk hpb,
        mul_le_mul (ratio_mono hkK hab.2) hle (div_nonneg hpa hpb.le) hM⟩
    · cases h

theorem hypSum_succ (as bs : List ℚ) (z : ℚ) (k : ℕ) :
    hypSum as bs z (k + 1) =
      ((hypSum as bs z k).1 * prodShift as k / prodShift bs k * z / ((k : ℚ) + 1),
        (hypSum as bs z k).2 + (hypSum as bs z k).1) := rfl

theorem hypLoop_inv (as bs : List ℚ) (z : ℚ) (wp : ℕ) : ∀ (fuel k : ℕ) (t S : ℚ), (t, S) = hypSum as bs z k →
    ∃ K, hypLoop as bs z wp fuel k t S = (K, (hypSum as bs z K).1, (hypSum as bs z K).2) := by
  intro fuel
  induction fuel with
  | zero =>
    intro k t S h
    refine ⟨k, ?_⟩
    rw [hypLoop, ← h]
  | succ fuel ih =>
    intro k t S h
    rw [hypLoop]
    split
    · exact ⟨k, by rw [← h]⟩
    · apply ih (k + 1)
      rw [hypSum_succ, ← h]

/-- the terms of the series as real numbers -/
noncomputable def hypTermR (as bs : List ℚ) (z : ℚ) (k : ℕ) : ℝ := ((hypTermQ as bs z k : ℚ) : ℝ)

theorem hypTerm_ratio (as bs : List ℚ) (z : ℚ) (K : ℕ) (R : ℚ) (h : ratioBound as (1 :: bs) K = some R) :
    ∀ k, K ≤ k → |hypTermR as bs z (k + 1)| ≤ ((R * |z| : ℚ) : ℝ) * |hypTermR as bs z k| := by
  intro k hk
  obtain ⟨hpa, hpb, hle⟩ := (ratioBound_spec _ _ _ _ h).2 k hk
  rw [prodShift_cons] at hpb hle
  have e : ∀ t : ℚ, t * prodShift as k / prodShift bs k * z / ((k : ℚ) + 1) =
      prodShift as k / ((1 + (k : ℚ)) * prodShift bs k) * z * t := fun t => by
    rw [mul_comm (1 + (k : ℚ)), ← div_div]; ring
  unfold hypTermR
  rw [← (hypSum_spec as bs z (k + 1)).1, ← (hypSum_spec as bs z k).1, hypSum_succ, ← Rat.cast_abs,
    ← Rat.cast_abs, ← Rat.cast_mul, Rat.cast_le, e, abs_mul, abs_mul, abs_of_nonneg (div_nonneg hpa hpb.le)]
  exact mul_le_mul_of_nonneg_right (mul_le_mul_of_nonneg_right hle (abs_nonneg z)) (abs_nonneg _)

theorem hypEncl_sound (as bs : List ℚ) (z : ℚ) (wp : ℕ) (F : DI) (h : hypEncl as bs z wp = some F) :
    (∀ b ∈ bs, isNpInt b = false) ∧ Summable (hypTermR as bs z) ∧ F.Mem (∑' k, hypTermR as bs z k) := by
  unfold hypEncl at h
  split at h
  · cases h
  · rename_i hnp
    obtain ⟨K, hK⟩ := hypLoop_inv as bs z wp (hypFuel z wp) 0 1 0 rfl
    rw [hK] at h
    dsimp only at h
    split at h
    · cases h
    · rename_i R hR
      split at h
      · rename_i hrho
        obtain rfl := Option.some.inj h
        rw [absQ_eq] at hrho
        have hρ0 : (0 : ℝ) ≤ ((R * |z| : ℚ) : ℝ) :=
          Rat.cast_nonneg.2 (mul_nonneg (ratioBound_spec _ _ _ _ hR).1 (abs_nonneg z))
        have hρ1 : ((R * |z| : ℚ) : ℝ) < 1 := by exact_mod_cast hrho
        obtain ⟨hsum, htail⟩ := geom_tail (hypTermR as bs z) K _ hρ0 hρ1 (hypTerm_ratio as bs z K R hR)
        refine ⟨fun b hb => ?_, hsum, ?_⟩
        · by_contra hc
          exact hnp (List.any_eq_true.2 ⟨b, hb, by simpa using hc⟩)
        · have hS : ((((hypSum as bs z K).2 : ℚ)) : ℝ) = ∑ j ∈ Finset.range K, hypTermR as bs z j := by
            rw [(hypSum_spec as bs z K).2]; unfold hypTermR; push_cast; rfl
          have hT : (((absQ (hypSum as bs z K).1 / (1 - R * absQ z) : ℚ)) : ℝ) =
              |hypTermR as bs z K| / (1 - ((R * |z| : ℚ) : ℝ)) := by
            rw [absQ_eq, absQ_eq, (hypSum_spec as bs z K).1]; unfold hypTermR; push_cast; rfl
          rw [abs_le] at htail
          apply ratHull_mem
          · rw [Rat.cast_sub, hS, hT]; exact sub_le_iff_le_add.2 (neg_le_sub_iff_le_add.1 htail.1)
          · rw [Rat.cast_add, hS, hT]; exact sub_le_iff_le_add'.1 htail.2
      · cases h

/-- test vector `1F1(2; 1; −31)` at working precision 85, for the examples of `Props/C22b.lean` -/
theorem hypEncl_example : hypEncl [2] [1] (-31) 85 =
    some ⟨⟨-43928034695299192800309138, -125⟩, ⟨-43928034695299192800309137, -125⟩⟩ := by decide +kernel

/-- the terms `1/(n+1)^s`, `n = 0, 1, 2, …` -/
noncomputable def zetaTermR (s : ℕ) (n : ℕ) : ℝ := 1 / ((n : ℝ) + 1) ^ s

theorem powSumDI_mem (wp s : ℕ) : ∀ n, (powSumDI wp s n).Mem (∑ j ∈ Finset.range n, zetaTermR s j) := by
  intro n
  induction n with
  | zero => simpa [powSumDI] using DI.mem_zero
  | succ n ih =>
    rw [powSumDI, Finset.sum_range_succ]
    apply DI.mem_round
    apply DI.mem_add ih
    have := DI.mem_divNat wp DI.mem_one (k := (n + 1) ^ s) (by positivity)
    unfold zetaTermR
    push_cast at this
    exact this

/-- with `a = 1/k`, `b = 1/(k+1)` this is the telescoping bound `1/(k+1)^(j+2) ≤ 1/k^(j+1) − 1/(k+1)^(j+1)` -/
theorem pow_sub_pow_ge {a b : ℝ} (hb : 0 ≤ b) (hab : b ≤ a) (h : b * b ≤ a - b) (j : ℕ) :
    b ^ (j + 2) ≤ a ^ (j + 1) - b ^ (j + 1) :=
  calc b ^ (j + 2) = b * b * b ^ j := by rw [pow_add, sq, mul_comm]
    _ ≤ (a - b) * b ^ j := mul_le_mul_of_nonneg_right h (pow_nonneg hb j)
    _ = a * b ^ j - b * b ^ j := sub_mul _ _ _
    _ ≤ a * a ^ j - b * b ^ j :=
      sub_le_sub_right (mul_le_mul_of_nonneg_left (pow_le_pow_left₀ hb hab j) (hb.trans hab)) _
    _ = a ^ (j + 1) - b ^ (j + 1) := by rw [pow_succ', pow_succ']

theorem term_telescope (k : ℝ) (hk : 0 < k) (j : ℕ) :
    1 / (k + 1) ^ (j + 2) ≤ 1 / k ^ (j + 1) - 1 / (k + 1) ^ (j + 1) := by
  have hk1 : 0 < k + 1 := by linarith
  have hab : (k + 1)⁻¹ ≤ k⁻¹ := inv_anti₀ hk (by linarith)
  have h : (k + 1)⁻¹ * (k + 1)⁻¹ ≤ k⁻¹ - (k + 1)⁻¹ := by
    rw [inv_sub_inv hk.ne' hk1.ne', add_sub_cancel_left, one_div, mul_inv]
    exact mul_le_mul_of_nonneg_right hab (inv_nonneg.2 hk1.le)
  simpa only [one_div, inv_pow] using pow_sub_pow_ge (inv_nonneg.2 hk1.le) hab h j
theorem zeta_tail_partial (j N : ℕ) (hN : 1 ≤ N) : ∀ M : ℕ,
    ∑ i ∈ Finset.range M, zetaTermR (j + 2) (i + N) ≤
      1 / (N : ℝ) ^ (j + 1) - 1 / ((N : ℝ) + (M : ℝ)) ^ (j + 1) := by
  intro M
  induction M with
  | zero => simp
  | succ M ih =>
    have hk : (0 : ℝ) < (N : ℝ) + (M : ℝ) :=
      add_pos_of_pos_of_nonneg (Nat.cast_pos.2 hN) (Nat.cast_nonneg M)
    have := term_telescope ((N : ℝ) + (M : ℝ)) hk j
    rw [Finset.sum_range_succ, zetaTermR, Nat.cast_add, Nat.cast_succ, ← add_assoc, add_comm (M : ℝ) (N : ℝ)]
    linarith

theorem zeta_series_bounds (s N : ℕ) (hs : 2 ≤ s) (hN : 1 ≤ N) :
    Summable (zetaTermR s) ∧
    ∑ j ∈ Finset.range N, zetaTermR s j ≤ ∑' n, zetaTermR s n ∧
    ∑' n, zetaTermR s n ≤ ∑ j ∈ Finset.range N, zetaTermR s j + 1 / (N : ℝ) ^ (s - 1) := by
  obtain ⟨j, rfl⟩ := Nat.exists_eq_add_of_le' hs
  have hnn : ∀ n, 0 ≤ zetaTermR (j + 2) (n + N) := fun n => by unfold zetaTermR; positivity
  have hpart : ∀ M, ∑ i ∈ Finset.range M, zetaTermR (j + 2) (i + N) ≤ 1 / (N : ℝ) ^ (j + 1) := fun M =>
    (zeta_tail_partial j N hN M).trans (sub_le_self _ (by positivity))
  have hsum : Summable (zetaTermR (j + 2)) :=
    (summable_nat_add_iff N).1 (summable_of_sum_range_le hnn hpart)
  have hle := Real.tsum_le_of_sum_range_le hnn hpart
  have h0 : 0 ≤ ∑' n, zetaTermR (j + 2) (n + N) := tsum_nonneg hnn
  have hsplit := hsum.sum_add_tsum_nat_add N
  exact ⟨hsum, by linarith, by rw [show j + 2 - 1 = j + 1 from rfl]; linarith⟩

theorem zetaEncl_sound (s wp : ℕ) (F : DI) (h : zetaEncl s wp = some F) :
    2 ≤ s ∧ Summable (zetaTermR s) ∧ F.Mem (∑' n, zetaTermR s n) := by
  unfold zetaEncl at h
  split at h
  · cases h
  · rename_i hs
    dsimp only at h
    split at h
    · cases h
    · rename_i hN
      obtain rfl := Option.some.inj h
      have hs2 : 2 ≤ s := not_lt.1 hs
      obtain ⟨hsum, hlo, hhi⟩ := zeta_series_bounds s (zetaTerms s wp) hs2 (by omega)
      have hS := powSumDI_mem (wp + 16) s (zetaTerms s wp)
      have hT := Dy.le_divUp (wp + 16) Dy.one ⟨(((zetaTerms s wp) ^ (s - 1) : ℕ) : ℤ), 0⟩
        (Int.natCast_pos.2 (Nat.pow_pos (by omega)))
      have e2 : Dy.one.val / (Dy.mk (((zetaTerms s wp) ^ (s - 1) : ℕ) : ℤ) 0).val =
          1 / ((zetaTerms s wp : ℕ) : ℝ) ^ (s - 1) := by simp [Dy.one, Dy.val]
      rw [e2] at hT
      refine ⟨hs2, hsum, ?_⟩
      apply DI.mem_round
      constructor
      · exact hS.1.trans hlo
      · rw [Dy.val_add]; exact hhi.trans (add_le_add hS.2 hT)

theorem altzetaEncl_sound (s wp : ℕ) (F : DI) (h : altzetaEncl s wp = some F) :
    2 ≤ s ∧ Summable (zetaTermR s) ∧ F.Mem ((1 - (2 : ℝ) ^ (1 - (s : ℤ))) * ∑' n, zetaTermR s n) := by
  unfold altzetaEncl at h
  simp only [Option.map_eq_some_iff] at h
  obtain ⟨Z, hZ, rfl⟩ := h
  obtain ⟨hs, hsum, hmem⟩ := zetaEncl_sound s (wp + 2) Z hZ
  refine ⟨hs, hsum, ?_⟩
  apply DI.mem_round
  rw [mul_comm]
  have hp := DI.mem_point (Dy.mk (pow2 (s - 1) - 1) (-((s - 1 : ℕ) : ℤ)))
  have e : (Dy.mk (pow2 (s - 1) - 1) (-((s - 1 : ℕ) : ℤ))).val = 1 - (2 : ℝ) ^ (1 - (s : ℤ)) := by
    simp only [Dy.val]
    push_cast [pow2_cast]
    rw [sub_mul, one_mul, ← zpow_natCast, ← zpow_add₀ (by norm_num : (2 : ℝ) ≠ 0)]
    have h1 : ((s - 1 : ℕ) : ℤ) = (s : ℤ) - 1 := by omega
    rw [h1]
    simp only [add_neg_cancel, zpow_zero]
    congr 2
    ring
  rw [e] at hp
  exact DI.mem_mul hmem hp

end Mp.SpecRef

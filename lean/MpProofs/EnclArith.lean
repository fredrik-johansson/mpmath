/-
  MpProofs/EnclArith.lean — soundness of the dyadic / interval arithmetic layer of `MpModel/Encl.lean`.
-/
import MpModel.Encl
import Mathlib.Data.Real.Basic
import Mathlib.Analysis.Real.Sqrt
import Mathlib.Data.Nat.Sqrt
import Mathlib.Algebra.Order.Field.Power
import Mathlib.Tactic.Ring
import Mathlib.Tactic.Linarith
import Mathlib.Tactic.Positivity
import Mathlib.Tactic.NormNum
import Mathlib.Tactic.FieldSimp
import Mathlib.Tactic.Push
import Mathlib.Tactic.GCongr

namespace Mp

/-- the absolute values of the model files (`qAbs`, `absQ`, `ratAbs`) are this conditional -/
theorem ite_neg_eq_abs (q : ℚ) : (if q < 0 then -q else q) = |q| := by
  split
  · rename_i h; rw [abs_of_neg h]
  · rename_i h; rw [abs_of_nonneg (not_lt.1 h)]

theorem list_range_map_sum {M : Type*} [AddCommMonoid M] (f : ℕ → M) (n : ℕ) :
    ((List.range n).map f).sum = ∑ i ∈ Finset.range n, f i := rfl

end Mp

namespace Mp.Encl

/-- the real value of a dyadic -/
noncomputable def Dy.val (x : Dy) : ℝ := (x.m : ℝ) * (2 : ℝ) ^ x.e

/-- `x` lies in the closed interval `I` -/
def DI.Mem (I : DI) (x : ℝ) : Prop := I.lo.val ≤ x ∧ x ≤ I.hi.val

theorem pow2_cast (s : ℕ) : ((pow2 s : ℤ) : ℝ) = (2 : ℝ) ^ s := by
  unfold pow2; push_cast; rfl

theorem two_zpow_split {a b : ℤ} (h : a ≤ b) :
    (2 : ℝ) ^ b = (2 : ℝ) ^ (b - a).toNat * (2 : ℝ) ^ a := by
  have h1 : ((b - a).toNat : ℤ) = b - a := Int.toNat_of_nonneg (by omega)
  rw [← zpow_natCast, h1, ← zpow_add₀ (by norm_num : (2 : ℝ) ≠ 0)]
  congr 1; ring

namespace Dy

@[simp] theorem val_zero : Dy.zero.val = 0 := by simp [Dy.zero, val]
@[simp] theorem val_one : Dy.one.val = 1 := by simp [Dy.one, val]
@[simp] theorem val_ofInt (n : ℤ) : (Dy.ofInt n).val = n := by simp [Dy.ofInt, val]
@[simp] theorem val_neg (x : Dy) : x.neg.val = -x.val := by simp [Dy.neg, val]

@[simp] theorem val_mul (x y : Dy) : (x.mul y).val = x.val * y.val := by
  simp only [Dy.mul, val, Int.cast_mul, zpow_add₀ (by norm_num : (2 : ℝ) ≠ 0)]
  ring

theorem val_shift (x : Dy) (s : ℤ) : (x.shift s).val = x.val * (2 : ℝ) ^ s := by
  simp only [Dy.shift, val, zpow_add₀ (by norm_num : (2 : ℝ) ≠ 0)]
  ring

@[simp] theorem val_add (x y : Dy) : (x.add y).val = x.val + y.val := by
  unfold Dy.add
  split
  · rename_i h
    simp only [val, Int.cast_add, Int.cast_mul, pow2_cast]
    rw [two_zpow_split h]; ring
  · rename_i h
    have h' : y.e ≤ x.e := by omega
    simp only [val, Int.cast_add, Int.cast_mul, pow2_cast]
    rw [two_zpow_split h']; ring

@[simp] theorem val_sub (x y : Dy) : (x.sub y).val = x.val - y.val := by
  simp [Dy.sub, sub_eq_add_neg]

/-- moving `2^s` from the exponent field into a factor -/
theorem val_mk_sub (m e s : ℤ) : (Dy.mk m (e - s)).val * (2 : ℝ) ^ s = (Dy.mk m e).val := by
  simp only [val]
  rw [mul_assoc, ← zpow_add₀ two_ne_zero, sub_add_cancel]

theorem val_nonneg_iff (x : Dy) : 0 ≤ x.val ↔ 0 ≤ x.m := by
  unfold val
  rw [mul_nonneg_iff_of_pos_right (zpow_pos (two_pos (α := ℝ)) _)]
  exact Int.cast_nonneg_iff

theorem val_pos_iff (x : Dy) : 0 < x.val ↔ 0 < x.m := by
  unfold val
  rw [mul_pos_iff_of_pos_right (zpow_pos (two_pos (α := ℝ)) _)]
  exact Int.cast_pos

theorem val_neg_iff (x : Dy) : x.val < 0 ↔ x.m < 0 := by
  rw [← not_le, val_nonneg_iff]; omega

theorem val_nonpos_iff (x : Dy) : x.val ≤ 0 ↔ x.m ≤ 0 := by
  rw [← not_lt, val_pos_iff]; omega

theorem le_iff (x y : Dy) : x.le y = true ↔ x.val ≤ y.val := by
  unfold Dy.le
  rw [decide_eq_true_iff, ← val_nonneg_iff, val_sub, sub_nonneg]

theorem lt_iff (x y : Dy) : x.lt y = true ↔ x.val < y.val := by
  unfold Dy.lt
  rw [decide_eq_true_iff, ← val_pos_iff, val_sub, sub_pos]

theorem val_min (x y : Dy) : (x.min y).val = Min.min x.val y.val := by
  unfold Dy.min
  by_cases h : x.le y = true
  · rw [if_pos h]; rw [le_iff] at h; rw [min_eq_left h]
  · rw [if_neg h]; rw [le_iff] at h; rw [min_eq_right (le_of_not_ge h)]

theorem val_max (x y : Dy) : (x.max y).val = Max.max x.val y.val := by
  unfold Dy.max
  by_cases h : x.le y = true
  · rw [if_pos h]; rw [le_iff] at h; rw [max_eq_right h]
  · rw [if_neg h]; rw [le_iff] at h; rw [max_eq_left (le_of_not_ge h)]

theorem cast_ediv_mul_le (m d : ℤ) (hd : 0 < d) : ((m / d : ℤ) : ℝ) * (d : ℝ) ≤ (m : ℝ) := by
  exact_mod_cast Int.ediv_mul_le m hd.ne'

theorem val_shiftRight_le (m e : ℤ) (s : ℕ) :
    (Dy.mk (m >>> s) (e + (s : ℤ))).val ≤ (Dy.mk m e).val := by
  have h := cast_ediv_mul_le m ((2 ^ s : ℕ) : ℤ) (by positivity)
  have hc : ((((2 ^ s : ℕ) : ℤ)) : ℝ) = (2 : ℝ) ^ s := by push_cast; rfl
  rw [hc] at h
  simp only [val]
  rw [Int.shiftRight_eq_div_pow, zpow_add₀ two_ne_zero, zpow_natCast, mul_comm ((2 : ℝ) ^ e), ← mul_assoc]
  exact mul_le_mul_of_nonneg_right h (zpow_pos (two_pos (α := ℝ)) e).le

theorem roundDown_le (wp : ℕ) (x : Dy) : (x.roundDown wp).val ≤ x.val := by
  unfold Dy.roundDown
  simp only
  split
  · exact le_rfl
  · exact val_shiftRight_le x.m x.e _

theorem le_roundUp (wp : ℕ) (x : Dy) : x.val ≤ (x.roundUp wp).val := by
  unfold Dy.roundUp
  simp only
  split
  · exact le_rfl
  · have h := val_shiftRight_le (-x.m) x.e (blen x.m - wp)
    simp only [val, Int.cast_neg] at h ⊢
    linarith

theorem divDown_le (wp : ℕ) (x y : Dy) (hy : 0 < y.m) : (x.divDown wp y).val ≤ x.val / y.val := by
  unfold Dy.divDown
  simp only
  generalize wp + blen y.m + 1 - blen x.m = s
  have h := cast_ediv_mul_le (x.m * pow2 s) y.m hy
  rw [Int.cast_mul, pow2_cast] at h
  rw [le_div_iff₀ ((val_pos_iff y).2 hy)]
  simp only [val]
  -- `q·2^(ex-s-ey) · (my·2^ey) = (q·my)·2^(ex-s) ≤ (mx·2^s)·2^(ex-s) = mx·2^ex`
  have e1 : (2 : ℝ) ^ (x.e - (s : ℤ) - y.e) * (2 : ℝ) ^ y.e = (2 : ℝ) ^ (x.e - (s : ℤ)) := by
    rw [← zpow_add₀ two_ne_zero, sub_add_cancel]
  have e2 : (2 : ℝ) ^ s * (2 : ℝ) ^ (x.e - (s : ℤ)) = (2 : ℝ) ^ x.e := by
    rw [← zpow_natCast, ← zpow_add₀ two_ne_zero, add_sub_cancel]
  rw [mul_mul_mul_comm, e1, ← e2, ← mul_assoc]
  exact mul_le_mul_of_nonneg_right h (zpow_pos (two_pos (α := ℝ)) _).le

theorem le_divUp (wp : ℕ) (x y : Dy) (hy : 0 < y.m) : x.val / y.val ≤ (x.divUp wp y).val := by
  unfold Dy.divUp
  have h := divDown_le wp x.neg y hy
  rw [val_neg, neg_div] at h
  rw [val_neg]; linarith

end Dy

namespace DI

theorem mem_point (x : Dy) : (DI.point x).Mem x.val := ⟨le_rfl, le_rfl⟩

theorem mem_zero : DI.zero.Mem 0 := by simpa [DI.zero] using mem_point Dy.zero

theorem mem_one : DI.one.Mem 1 := by simpa [DI.one] using mem_point Dy.one

theorem mem_ofInt (n : ℤ) : (DI.ofInt n).Mem n := by simpa [DI.ofInt] using mem_point (Dy.ofInt n)

theorem mem_neg {I : DI} {x : ℝ} (h : I.Mem x) : I.neg.Mem (-x) := by
  obtain ⟨h1, h2⟩ := h
  constructor <;> simp only [DI.neg, Dy.val_neg] <;> linarith

theorem mem_add {I J : DI} {x y : ℝ} (hx : I.Mem x) (hy : J.Mem y) : (I.add J).Mem (x + y) := by
  obtain ⟨h1, h2⟩ := hx
  obtain ⟨h3, h4⟩ := hy
  constructor <;> simp only [DI.add, Dy.val_add] <;> linarith

theorem mem_sub {I J : DI} {x y : ℝ} (hx : I.Mem x) (hy : J.Mem y) : (I.sub J).Mem (x - y) := by
  rw [sub_eq_add_neg]; exact mem_add hx (mem_neg hy)

theorem mem_shift {I : DI} {x : ℝ} (hx : I.Mem x) (s : ℤ) : (I.shift s).Mem (x * (2 : ℝ) ^ s) := by
  obtain ⟨h1, h2⟩ := hx
  have hp : (0 : ℝ) ≤ (2 : ℝ) ^ s := (zpow_pos (two_pos (α := ℝ)) s).le
  constructor <;> simp only [DI.shift, Dy.val_shift]
  · exact mul_le_mul_of_nonneg_right h1 hp
  · exact mul_le_mul_of_nonneg_right h2 hp

theorem mem_round {I : DI} {x : ℝ} (hx : I.Mem x) (wp : ℕ) : (I.round wp).Mem x :=
  ⟨le_trans (Dy.roundDown_le wp _) hx.1, le_trans hx.2 (Dy.le_roundUp wp _)⟩

theorem mul_between {a b x : ℝ} (y : ℝ) (h1 : a ≤ x) (h2 : x ≤ b) :
    min (a * y) (b * y) ≤ x * y ∧ x * y ≤ max (a * y) (b * y) := by
  rcases le_total 0 y with hy | hy
  · exact ⟨(min_le_left _ _).trans (mul_le_mul_of_nonneg_right h1 hy),
      (mul_le_mul_of_nonneg_right h2 hy).trans (le_max_right _ _)⟩
  · exact ⟨(min_le_right _ _).trans (mul_le_mul_of_nonpos_right h2 hy),
      (mul_le_mul_of_nonpos_right h1 hy).trans (le_max_left _ _)⟩

theorem mul_mem_corners {a b c d x y : ℝ} (hx1 : a ≤ x) (hx2 : x ≤ b) (hy1 : c ≤ y) (hy2 : y ≤ d) :
    min (min (a * c) (a * d)) (min (b * c) (b * d)) ≤ x * y ∧
    x * y ≤ max (max (a * c) (a * d)) (max (b * c) (b * d)) := by
  obtain ⟨l, u⟩ := mul_between y hx1 hx2
  have A := mul_between a hy1 hy2
  have B := mul_between b hy1 hy2
  simp only [mul_comm _ a, mul_comm _ b] at A B
  exact ⟨(min_le_min A.1 B.1).trans l, u.trans (max_le_max A.2 B.2)⟩

theorem mem_mulGen {I J : DI} {x y : ℝ} (hx : I.Mem x) (hy : J.Mem y) : (I.mulGen J).Mem (x * y) := by
  obtain ⟨h1, h2⟩ := hx
  obtain ⟨h3, h4⟩ := hy
  have := mul_mem_corners h1 h2 h3 h4
  unfold DI.Mem DI.mulGen
  simp only [Dy.val_min, Dy.val_max, Dy.val_mul]
  exact this

theorem mul_mem_of_nonneg {a b c d x y : ℝ} (ha : 0 ≤ a) (hc : 0 ≤ c) (hx1 : a ≤ x) (hx2 : x ≤ b)
    (hy1 : c ≤ y) (hy2 : y ≤ d) : a * c ≤ x * y ∧ x * y ≤ b * d :=
  ⟨mul_le_mul hx1 hy1 hc (ha.trans hx1), mul_le_mul hx2 hy2 (hc.trans hy1) (ha.trans (hx1.trans hx2))⟩

/-- the sign cases of `DI.mul` are the case of two non-negative factors applied to `±x`, `±y` -/
theorem mem_mul {I J : DI} {x y : ℝ} (hx : I.Mem x) (hy : J.Mem y) : (I.mul J).Mem (x * y) := by
  have hg := mem_mulGen hx hy
  obtain ⟨h1, h2⟩ := hx
  obtain ⟨h3, h4⟩ := hy
  have n1 := neg_le_neg h1
  have n2 := neg_le_neg h2
  have n3 := neg_le_neg h3
  have n4 := neg_le_neg h4
  unfold DI.mul DI.Mem
  by_cases ha : 0 ≤ I.lo.m
  · rw [if_pos ha]
    have ha := (Dy.val_nonneg_iff _).2 ha
    by_cases hc : 0 ≤ J.lo.m
    · rw [if_pos hc, Dy.val_mul, Dy.val_mul]
      exact mul_mem_of_nonneg ha ((Dy.val_nonneg_iff _).2 hc) h1 h2 h3 h4
    · rw [if_neg hc]
      by_cases hd : J.hi.m ≤ 0
      · rw [if_pos hd, Dy.val_mul, Dy.val_mul]
        have := mul_mem_of_nonneg ha (neg_nonneg.2 ((Dy.val_nonpos_iff _).2 hd)) h1 h2 n4 n3
        rw [mul_neg, mul_neg, mul_neg, neg_le_neg_iff, neg_le_neg_iff] at this
        exact this.symm
      · rw [if_neg hd]; exact hg
  · rw [if_neg ha]
    by_cases hb : I.hi.m ≤ 0
    · rw [if_pos hb]
      have hb := neg_nonneg.2 ((Dy.val_nonpos_iff _).2 hb)
      by_cases hc : 0 ≤ J.lo.m
      · rw [if_pos hc, Dy.val_mul, Dy.val_mul]
        have := mul_mem_of_nonneg hb ((Dy.val_nonneg_iff _).2 hc) n2 n1 h3 h4
        rw [neg_mul, neg_mul, neg_mul, neg_le_neg_iff, neg_le_neg_iff] at this
        exact this.symm
      · rw [if_neg hc]
        by_cases hd : J.hi.m ≤ 0
        · rw [if_pos hd, Dy.val_mul, Dy.val_mul]
          have := mul_mem_of_nonneg hb (neg_nonneg.2 ((Dy.val_nonpos_iff _).2 hd)) n2 n1 n4 n3
          rwa [neg_mul_neg, neg_mul_neg, neg_mul_neg] at this
        · rw [if_neg hd]; exact hg
    · rw [if_neg hb]; exact hg

theorem abs_le_mag {I : DI} {x : ℝ} (hx : I.Mem x) : |x| ≤ I.mag.val := by
  obtain ⟨h1, h2⟩ := hx
  unfold DI.mag
  rw [Dy.val_max, Dy.val_neg, abs_le]
  constructor
  · have := le_max_left (-I.lo.val) I.hi.val; linarith
  · exact le_trans h2 (le_max_right _ _)

theorem mag_nonneg {I : DI} {x : ℝ} (hx : I.Mem x) : 0 ≤ I.mag.val :=
  le_trans (abs_nonneg x) (abs_le_mag hx)

theorem mig_le_abs {I : DI} {x : ℝ} (hx : I.Mem x) : I.mig.val ≤ |x| := by
  obtain ⟨h1, h2⟩ := hx
  unfold DI.mig
  split
  · exact le_trans h1 (le_abs_self x)
  · split
    · rw [Dy.val_neg]; exact le_trans (by linarith) (neg_le_abs x)
    · simp

theorem mem_widen {I : DI} {r : Dy} {s x : ℝ} (hs : I.Mem s) (hx : |x - s| ≤ r.val) :
    (I.widen r).Mem x := by
  obtain ⟨h1, h2⟩ := hs
  rw [abs_le] at hx
  constructor <;> simp only [DI.widen, Dy.val_sub, Dy.val_add] <;> linarith

/-- lower bounds of a quotient with positive denominator, by the sign of the numerator's bound;
upper bounds follow by applying it to `-x` -/
theorem div_lower {a x c d y : ℝ} (hc : 0 < c) (hcy : c ≤ y) (hyd : y ≤ d) (hax : a ≤ x) :
    (0 ≤ a → a / d ≤ x / y) ∧ (a ≤ 0 → a / c ≤ x / y) := by
  have hy : 0 < y := hc.trans_le hcy
  refine ⟨fun ha => div_le_div₀ (ha.trans hax) hax hy hyd, fun ha => le_trans ?_ (div_le_div_of_nonneg_right hax hy.le)⟩
  rw [div_le_div_iff₀ hc hy]
  exact mul_le_mul_of_nonpos_left hcy ha

theorem mem_divPos {I J : DI} {x y : ℝ} (wp : ℕ) (hx : I.Mem x) (hy : J.Mem y) (hJ : 0 < J.lo.m) :
    (I.divPos wp J).Mem (x / y) := by
  have hlo : 0 < J.lo.val := (Dy.val_pos_iff _).2 hJ
  have hJh : 0 < J.hi.m := (Dy.val_pos_iff _).1 (hlo.trans_le (hy.1.trans hy.2))
  have L := div_lower hlo hy.1 hy.2 hx.1
  have U := div_lower hlo hy.1 hy.2 (neg_le_neg hx.2)
  rw [neg_div, neg_div, neg_div, neg_le_neg_iff, neg_le_neg_iff, neg_nonneg, neg_nonpos] at U
  unfold DI.divPos
  constructor
  · simp only
    by_cases h : 0 ≤ I.lo.m
    · rw [if_pos h]; exact (Dy.divDown_le wp _ _ hJh).trans (L.1 ((Dy.val_nonneg_iff _).2 h))
    · rw [if_neg h]; exact (Dy.divDown_le wp _ _ hJ).trans (L.2 ((Dy.val_neg_iff _).2 (not_le.1 h)).le)
  · simp only
    by_cases h : 0 ≤ I.hi.m
    · rw [if_pos h]; exact (U.2 ((Dy.val_nonneg_iff _).2 h)).trans (Dy.le_divUp wp _ _ hJ)
    · rw [if_neg h]; exact (U.1 ((Dy.val_neg_iff _).2 (not_le.1 h)).le).trans (Dy.le_divUp wp _ _ hJh)

theorem mem_divNat {I : DI} {x : ℝ} (wp : ℕ) (hx : I.Mem x) {k : ℕ} (hk : 0 < k) :
    (I.divNat wp k).Mem (x / (k : ℝ)) := by
  unfold DI.divNat
  have := mem_divPos wp hx (mem_ofInt (k : ℤ)) (by simp [DI.ofInt, DI.point, Dy.ofInt]; exact hk)
  simpa using this

theorem mem_taylorStep {T X : DI} {x : ℝ} {k : ℕ} (wp : ℕ) (ht : T.Mem (x ^ k / (k.factorial : ℝ)))
    (hx : X.Mem x) : ((T.mul X).divNat wp (k + 1)).Mem (x ^ (k + 1) / ((k + 1).factorial : ℝ)) := by
  have h := mem_divNat wp (mem_mul ht hx) (Nat.succ_pos k)
  rwa [div_mul_eq_mul_div, div_div, ← pow_succ, mul_comm, ← Nat.cast_mul, ← Nat.factorial_succ] at h

theorem mem_altAdd {S T : DI} {s a : ℝ} (n : ℕ) (hs : S.Mem s) (ht : T.Mem a) :
    (if n % 2 = 0 then S.add T else S.sub T).Mem (s + (-1) ^ n * a) := by
  split
  · rename_i h
    rw [Even.neg_one_pow (Nat.even_iff.2 h), one_mul]; exact mem_add hs ht
  · rename_i h
    rw [Odd.neg_one_pow (Nat.odd_iff.2 (by omega)), neg_one_mul, ← sub_eq_add_neg]; exact mem_sub hs ht

/-- the remainder bound of `Real.exp_bound` / `Complex.exp_bound` is at most twice the last term -/
theorem exp_remainder_le {T : DI} {a : ℝ} {n : ℕ} (hn : 0 < n) (ht : T.Mem (a ^ n / (n.factorial : ℝ))) :
    |a| ^ n * ((n.succ : ℝ) / ((n.factorial : ℝ) * n)) ≤ (T.mag.shift 1).val := by
  have hfac : (0 : ℝ) < (n.factorial : ℝ) := Nat.cast_pos.2 n.factorial_pos
  have h0 : (0 : ℝ) < n := Nat.cast_pos.2 hn
  have h2 : ((n : ℝ) + 1) / n ≤ 2 := by
    rw [div_le_iff₀ h0, two_mul]; exact add_le_add_right (Nat.one_le_cast.2 hn) _
  have hm := abs_le_mag ht
  rw [abs_div, abs_pow, abs_of_pos hfac] at hm
  rw [Dy.val_shift, zpow_one, Nat.cast_succ, ← mul_div_assoc, mul_div_mul_comm]
  exact mul_le_mul hm h2 (div_nonneg (add_nonneg h0.le zero_le_one) h0.le) (mag_nonneg ht)

theorem mem_divI {I J K : DI} {x y : ℝ} (wp : ℕ) (hx : I.Mem x) (hy : J.Mem y)
    (h : I.divI wp J = some K) : K.Mem (x / y) ∧ y ≠ 0 := by
  unfold DI.divI at h
  split at h
  · rename_i hJ
    have hy0 : 0 < y := lt_of_lt_of_le ((Dy.val_pos_iff _).2 hJ) hy.1
    simp only [Option.some.injEq] at h
    subst h
    exact ⟨mem_divPos wp hx hy hJ, hy0.ne'⟩
  · split at h
    · rename_i hJ
      have hy0 : y < 0 := lt_of_le_of_lt hy.2 ((Dy.val_neg_iff _).2 hJ)
      simp only [Option.some.injEq] at h
      subst h
      have := mem_divPos wp (mem_neg hx) (mem_neg hy) (by simp [DI.neg, Dy.neg]; exact hJ)
      rw [neg_div_neg_eq] at this
      exact ⟨this, hy0.ne⟩
    · simp at h

end DI

/-- whatever enclosure `o` returns contains `v`, and one is returned only if `P` holds -/
def Encloses (o : Option DI) (v : ℝ) (P : Prop := True) : Prop := ∀ F, o = some F → F.Mem v ∧ P

namespace Encloses
variable {o : Option DI} {v w : ℝ} {P Q : Prop}

protected theorem some {F : DI} (h : F.Mem v) (hP : P) : Encloses (some F) v P := by
  rintro _ ⟨rfl⟩; exact ⟨h, hP⟩

protected theorem none : Encloses none v P := fun _ h => nomatch h

theorem imp (h : Encloses o v P) (hPQ : P → Q) : Encloses o v Q :=
  fun F hF => ⟨(h F hF).1, hPQ (h F hF).2⟩

theorem drop (h : Encloses o v P) : Encloses o v := h.imp fun _ => trivial

theorem map {g : DI → DI} (h : Encloses o v P) (hg : ∀ F, F.Mem v → (g F).Mem w) :
    Encloses (o.map g) w P := by
  intro F hF
  obtain ⟨K, hK, rfl⟩ := Option.map_eq_some_iff.1 hF
  exact ⟨hg K (h K hK).1, (h K hK).2⟩

theorem round (h : Encloses o v P) (wp : ℕ) : Encloses (o.map (DI.round wp)) v P :=
  h.map fun _ hF => DI.mem_round hF wp

theorem bind {g : DI → Option DI} (h : Encloses o v P) (hg : ∀ F, F.Mem v → P → Encloses (g F) w Q) :
    Encloses (o.bind g) w Q := by
  intro F hF
  obtain ⟨K, hK, hF⟩ := Option.bind_eq_some_iff.1 hF
  exact hg K (h K hK).1 (h K hK).2 F hF

end Encloses

namespace DI

theorem encloses_divI {I J : DI} {x y : ℝ} (wp : ℕ) (hx : I.Mem x) (hy : J.Mem y) :
    Encloses (I.divI wp J) (x / y) (y ≠ 0) := fun _ h => mem_divI wp hx hy h

theorem mem_clamp1 {I : DI} {x : ℝ} (hx : I.Mem x) (h1 : -1 ≤ x) (h2 : x ≤ 1) : I.clamp1.Mem x := by
  unfold DI.clamp1 DI.Mem
  simp only [Dy.val_max, Dy.val_min, Dy.val_ofInt, Dy.val_one]
  exact ⟨max_le hx.1 (by push_cast; linarith), le_min hx.2 h2⟩

theorem mem_clamp1_neg {I : DI} {x : ℝ} (hx : I.Mem x) (h1 : -1 ≤ x) (h2 : x ≤ 1) : I.neg.clamp1.Mem (-x) :=
  mem_clamp1 (mem_neg hx) (neg_le_neg h2) (neg_le.2 h1)

end DI

theorem cast_toNat {m : ℤ} (hm : 0 ≤ m) : ((m.toNat : ℕ) : ℝ) = (m : ℝ) := by
  rw [← Int.cast_natCast, Int.toNat_of_nonneg hm]

theorem sqrtShift_even (wp : ℕ) (x : Dy) :
    x.e - (x.sqrtShift wp : ℤ) = 2 * ((x.e - (x.sqrtShift wp : ℤ)) / 2) := by
  refine (Int.mul_ediv_cancel' (Int.dvd_of_emod_eq_zero ?_)).symm
  unfold Dy.sqrtShift
  by_cases h : (x.e - ((2 * wp + 2 - blen x.m : ℕ) : ℤ)) % 2 = 0
  · rw [if_pos h]; exact h
  · rw [if_neg h, Nat.cast_succ, sub_add_eq_sub_sub, Int.sub_emod, (Int.emod_two_eq_zero_or_one _).resolve_left h]
    rfl

/-- `x = M · 2^(2h)` with `M = x.m · 2^s` -/
theorem sqrt_val_eq (wp : ℕ) (x : Dy) (hx : 0 ≤ x.m) :
    x.val = ((x.m.toNat * 2 ^ x.sqrtShift wp : ℕ) : ℝ) *
      ((2 : ℝ) ^ ((x.e - (x.sqrtShift wp : ℤ)) / 2)) ^ 2 := by
  have he := sqrtShift_even wp x
  generalize x.sqrtShift wp = s at he ⊢
  generalize (x.e - (s : ℤ)) / 2 = h at he ⊢
  rw [Nat.cast_mul, cast_toNat hx, Nat.cast_pow, Nat.cast_ofNat, ← zpow_natCast ((2 : ℝ) ^ h), ← zpow_mul,
    mul_comm h, Nat.cast_ofNat, ← he, mul_assoc, ← zpow_natCast, ← zpow_add₀ two_ne_zero, add_sub_cancel]
  rfl

/-- `√x = √M · 2^h` for the integer `M` and the exponent `h` that `sqrtDown` and `sqrtUp` use -/
theorem sqrt_val (wp : ℕ) (x : Dy) (hx : 0 ≤ x.m) :
    Real.sqrt x.val = Real.sqrt ((x.m.toNat * 2 ^ x.sqrtShift wp : ℕ) : ℝ) *
      (2 : ℝ) ^ ((x.e - (x.sqrtShift wp : ℤ)) / 2) := by
  rw [sqrt_val_eq wp x hx, Real.sqrt_mul (Nat.cast_nonneg _), Real.sqrt_sq (zpow_pos (two_pos (α := ℝ)) _).le]

theorem sqrtDown_le (wp : ℕ) (x : Dy) (hx : 0 ≤ x.m) : (x.sqrtDown wp).val ≤ Real.sqrt x.val := by
  rw [sqrt_val wp x hx, Dy.sqrtDown, Dy.val]
  exact mul_le_mul_of_nonneg_right (by rw [Int.cast_natCast]; exact Real.nat_sqrt_le_real_sqrt)
    (zpow_pos (two_pos (α := ℝ)) _).le

theorem le_sqrtUp (wp : ℕ) (x : Dy) (hx : 0 ≤ x.m) : Real.sqrt x.val ≤ (x.sqrtUp wp).val := by
  rw [sqrt_val wp x hx, Dy.sqrtUp, Dy.val]
  refine mul_le_mul_of_nonneg_right ?_ (zpow_pos (two_pos (α := ℝ)) _).le
  rw [Int.cast_natCast]
  split
  · rename_i h
    exact Real.sqrt_le_iff.2 ⟨Nat.cast_nonneg _, by rw [sq, ← Nat.cast_mul, h]⟩
  · rw [Nat.cast_succ]; exact Real.real_sqrt_le_nat_sqrt_succ

/-- soundness of the square-root enclosure (for `Real.sqrt`, which is `0` on negatives) -/
theorem sqrtI_sound (wp : ℕ) (I : DI) (x : ℝ) (hx : I.Mem x) : (sqrtI wp I).Mem (Real.sqrt x) := by
  obtain ⟨h1, h2⟩ := hx
  unfold sqrtI DI.Mem
  constructor
  · simp only
    split
    · simp
    · rename_i h
      exact le_trans (sqrtDown_le wp _ (by omega)) (Real.sqrt_le_sqrt h1)
  · simp only
    split
    · rename_i h
      have : x ≤ 0 := le_trans h2 ((Dy.val_nonpos_iff _).2 h)
      rw [Real.sqrt_eq_zero_of_nonpos this]; simp
    · rename_i h
      exact le_trans (Real.sqrt_le_sqrt h2) (le_sqrtUp wp _ (by omega))

end Mp.Encl

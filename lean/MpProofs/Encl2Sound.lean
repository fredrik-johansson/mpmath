/-
  MpProofs/Encl2Sound.lean — lemmas about `MpModel/Encl2.lean`: the `ok` test of the root checker and the
  perfect-power test read over the reals, enclosures of the two-argument functions and of sinc.
-/
import MpModel.Encl2
import MpProofs.EnclSound
import Mathlib.Analysis.SpecialFunctions.Pow.Real
import Mathlib.Analysis.SpecialFunctions.Log.Base
import Mathlib.Analysis.SpecialFunctions.Trigonometric.Sinc

namespace Mp.Encl

theorem Dy.val_pow (x : Dy) (n : ℕ) (hx : 0 ≤ x.m) : (x.pow n).val = x.val ^ n := by
  unfold Dy.pow Dy.val
  rw [Int.cast_natCast, Nat.cast_pow, cast_toNat hx, mul_pow, ← zpow_natCast ((2 : ℝ) ^ x.e) n, ← zpow_mul]

/-- the real `n`-th root of a non-negative real -/
noncomputable def nthRoot (n : ℕ) (x : ℝ) : ℝ := x ^ ((n : ℝ)⁻¹)

theorem nthRoot_pow {n : ℕ} (hn : n ≠ 0) {x : ℝ} (hx : 0 ≤ x) : nthRoot n x ^ n = x :=
  Real.rpow_inv_natCast_pow hx hn

theorem nthRoot_nonneg (n : ℕ) {x : ℝ} (hx : 0 ≤ x) : 0 ≤ nthRoot n x := Real.rpow_nonneg hx _

/-- relative accuracy `t` of `y` against `r`, decided on `n`-th powers -/
theorem abs_sub_le_iff_pow {n : ℕ} (hn : n ≠ 0) {r y t : ℝ} (hr : 0 ≤ r) (hy : 0 ≤ y)
    (ht0 : 0 ≤ t) (ht1 : t ≤ 1) :
    ((1 - t) * r) ^ n ≤ y ^ n ∧ y ^ n ≤ ((1 + t) * r) ^ n ↔ |y - r| ≤ t * r := by
  rw [pow_le_pow_iff_left₀ (mul_nonneg (sub_nonneg.2 ht1) hr) hy hn,
    pow_le_pow_iff_left₀ hy (mul_nonneg (by linarith) hr) hn, abs_le]
  constructor <;> rintro ⟨h1, h2⟩ <;> constructor <;> linarith

/-- the `ok` test of `rootCheck` compares the exact `n`-th powers of `(1-t)·r`, `y` and `(1+t)·r`
for `r = x^(1/n)` -/
theorem rootCheck_test {n : ℕ} (hn : n ≠ 0) {x y t : Dy} (hx : 0 ≤ x.m) (hy : 0 ≤ y.m)
    (ht0 : 0 ≤ t.val) (ht1 : t.val ≤ 1) :
    ((((Dy.one.sub t).pow n).mul x).le (y.pow n) && (y.pow n).le (((Dy.one.add t).pow n).mul x)) = true ↔
      |y.val - nthRoot n x.val| ≤ t.val * nthRoot n x.val := by
  have hxv := (Dy.val_nonneg_iff x).2 hx
  rw [← abs_sub_le_iff_pow hn (nthRoot_nonneg n hxv) ((Dy.val_nonneg_iff y).2 hy) ht0 ht1,
    mul_pow, mul_pow, nthRoot_pow hn hxv, Bool.and_eq_true, Dy.le_iff, Dy.le_iff, Dy.val_mul, Dy.val_mul,
    Dy.val_pow y n hy, Dy.val_pow, Dy.val_pow, Dy.val_add, Dy.val_sub, Dy.val_one]
  · rw [← Dy.val_nonneg_iff, Dy.val_add, Dy.val_one]; linarith
  · rw [← Dy.val_nonneg_iff, Dy.val_sub, Dy.val_one]; linarith

theorem rootExact_check_sound (n : ℕ) (x y : Dy) (h : rootExact n x y = true) :
    0 ≤ y.val ∧ 0 ≤ x.val ∧ y.val ^ n = x.val := by
  unfold rootExact at h
  simp only [Bool.and_eq_true, decide_eq_true_eq] at h
  obtain ⟨⟨hy, hx⟩, he⟩ := h
  rw [Dy.eqv_iff, Dy.val_pow y n hy] at he
  exact ⟨(Dy.val_nonneg_iff y).2 hy, (Dy.val_nonneg_iff x).2 hx, he⟩

theorem rootExact_is_root (n : ℕ) (hn : n ≠ 0) (x y : Dy) (h : rootExact n x y = true) :
    y.val = nthRoot n x.val := by
  obtain ⟨hy, hx, he⟩ := rootExact_check_sound n x y h
  have h2 : y.val ^ n = nthRoot n x.val ^ n := by rw [he, nthRoot_pow hn hx]
  exact (pow_left_inj₀ hy (nthRoot_nonneg n hx) hn).1 h2

/-- the real function of a `Fun2` -/
noncomputable def Fun2.sem : Fun2 → ℝ → ℝ → ℝ
  | .pow, x, y => x ^ y
  | .powm1, x, y => x ^ y - 1
  | .hypot, x, y => Real.sqrt (x ^ 2 + y ^ 2)
  | .logb, x, b => Real.logb b x

def Fun2.dom : Fun2 → ℝ → ℝ → Prop
  | .pow, x, _ => 0 < x
  | .powm1, x, _ => 0 < x
  | .hypot, _, _ => True
  | .logb, x, b => 0 < x ∧ 0 < b ∧ b ≠ 1

theorem eval2_sound (f : Fun2) (wp : ℕ) (x y : Dy) :
    Encloses (eval2 f wp x y) (f.sem x.val y.val) (f.dom x.val y.val) := by
  have hX := DI.mem_point x
  have hY := DI.mem_point y
  cases f <;> unfold eval2 <;> simp only [Fun2.sem, Fun2.dom]
  case pow =>
    intro F h
    obtain ⟨L, hL, rfl⟩ := Option.map_eq_some_iff.1 h
    obtain ⟨hl, hx0⟩ := encloses_logI hX L hL
    rw [Real.rpow_def_of_pos hx0]
    exact ⟨DI.mem_round (expI_mem _ (DI.mem_round (DI.mem_mul hl hY) _)) wp, hx0⟩
  case powm1 =>
    intro F h
    obtain ⟨L, hL, rfl⟩ := Option.map_eq_some_iff.1 h
    obtain ⟨hl, hx0⟩ := encloses_logI hX L hL
    rw [Real.rpow_def_of_pos hx0]
    exact ⟨DI.mem_round (DI.mem_sub (expI_mem _ (DI.mem_round (DI.mem_mul hl hY) _)) DI.mem_one) wp, hx0⟩
  case hypot =>
    rw [sq, sq]
    exact .some (DI.mem_round (sqrtI_sound _ _ _ (DI.mem_add (DI.mem_mul hX hX) (DI.mem_mul hY hY))) wp) trivial
  case logb =>
    split
    · rename_i a b ha hb
      obtain ⟨hla, hx0⟩ := encloses_logI hX a ha
      obtain ⟨hlb, hb0⟩ := encloses_logI hY b hb
      rw [← Real.log_div_log]
      exact ((DI.encloses_divI _ hla hlb).round wp).imp fun hne =>
        ⟨hx0, hb0, fun h1 => hne (by rw [h1, Real.log_one])⟩
    · exact .none

theorem sincPoint_sound (wp : ℕ) (x : Dy) : Encloses (sincPoint wp x) (Real.sinc x.val) := by
  unfold sincPoint
  split
  · rename_i h0
    have : x.val = 0 := by simp [Dy.val, h0]
    rw [this, Real.sinc_zero]
    exact .some DI.mem_one trivial
  · have hX := DI.mem_point x
    intro F h
    obtain ⟨hq, hne⟩ := (DI.encloses_divI _ (sinI_mem _ hX) hX).round wp F h
    rw [Real.sinc_of_ne_zero hne]
    exact ⟨hq, trivial⟩

end Mp.Encl

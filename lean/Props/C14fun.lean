/-
  Props/C14fun.lean — C14 / C15, transcendental part: the ORACLE used by harness/iv_fun_ops.py is rigorous.

  The interval functions iv.exp/log/sqrt/sin/cos/tan/cot/sec/csc, mpi_atan, mpi_atan2, real `**`, and the complex
  mpci_exp/log/cos/sin/abs are NOT modelled; their containment statement "for all intervals and precisions" is
  SAMPLED.  For each sample point `t` of an input interval the check asks the compiled driver (ops `encl`, `encl2 pow`)
  for a dyadic enclosure `[F.lo, F.hi]` and compares it with the interval returned by the real code in exact integer
  arithmetic.  What is proved here: every enclosure the driver prints contains the exact real value
  (`FunId.sem` / `Fun2.sem` are Mathlib's `Real.exp`, `Real.log`, `Real.sqrt`, `Real.arctan`, `Real.sin`, `Real.cos`,
  `Real.tan`, `Real.cot`, `1/cos`, `1/sin`, `Real.sinh`, `Real.cosh`, `π`, `x ^ y`), and an enclosure is only produced
  inside the real domain.  Hence `F.hi < L` or `U < F.lo` for a returned interval `[L, U]` is a proof that the exact
  value `f(t)` is outside `[L, U]`, and `L ≤ F.lo ∧ F.hi ≤ U` is a proof that it is inside.
  Not proved: the combination steps done in Python for atan2 (quotient bracket, monotonicity of arctan, quadrant + π),
  the complex formulas (e^x cos y, cos x cosh y, ½ log(x²+y²), …) and Γ at integers / half-integers.
-/
import MpProofs.Encl2Sound

namespace Mp
open Mp.Encl

/-- one-argument reference: the enclosure printed by `encl f wp m e` contains `f(m·2^e)`; `x` is in the domain of `f` -/
theorem C14_ref_enclosure (f : FunId) (wp : ℕ) (x : Dy) (F : DI) (h : evalPoint f wp x = some F) :
    (F.lo.val ≤ f.sem x.val ∧ f.sem x.val ≤ F.hi.val) ∧ f.dom x.val :=
  evalPoint_sound f wp x F h

/-- consequence used for a FAILURE verdict: a returned interval `[L, U]` lying entirely on one side of the
enclosure does not contain the exact value -/
theorem C14_ref_outside (f : FunId) (wp : ℕ) (x : Dy) (F : DI) (h : evalPoint f wp x = some F) (L U : ℝ)
    (hout : F.hi.val < L ∨ U < F.lo.val) : ¬ (L ≤ f.sem x.val ∧ f.sem x.val ≤ U) := by
  obtain ⟨⟨h1, h2⟩, _⟩ := evalPoint_sound f wp x F h
  rintro ⟨h3, h4⟩
  rcases hout with h5 | h5
  · exact absurd (lt_of_le_of_lt h2 h5) (not_lt.mpr h3)
  · exact absurd (lt_of_lt_of_le h5 h1) (not_lt.mpr h4)

/-- consequence used for an INSIDE verdict -/
theorem C14_ref_inside (f : FunId) (wp : ℕ) (x : Dy) (F : DI) (h : evalPoint f wp x = some F) (L U : ℝ)
    (hin : L ≤ F.lo.val ∧ F.hi.val ≤ U) : L ≤ f.sem x.val ∧ f.sem x.val ≤ U := by
  obtain ⟨⟨h1, h2⟩, _⟩ := evalPoint_sound f wp x F h
  exact ⟨le_trans hin.1 h1, le_trans h2 hin.2⟩

/-- two-argument reference (`encl2 pow wp x y`): the enclosure contains `x ^ y` (real power), and `0 < x` -/
theorem C14_ref_enclosure_pow (wp : ℕ) (x y : Dy) (F : DI) (h : eval2 .pow wp x y = some F) :
    F.Mem (x.val ^ y.val) ∧ 0 < x.val :=
  eval2_sound .pow wp x y F h

example : ∃ F, evalPoint .cos 93 ⟨7403024530358735, -53⟩ = some F := ⟨_, rfl⟩

end Mp

/-
  MpProofs/Cache.lean — invariants, refinement and abort safety of the cache machines of
  MpModel/Cache.lean (DESIGN.md C17, C33).  The property-level statements are in Props/C33.lean
  and Props/C17.lean.
-/
import MpModel.Cache
import MpProofs.Spec
import Mathlib.Algebra.Order.Floor.Ring
import Mathlib.Data.Rat.Floor
import Mathlib.Tactic.Ring
import Mathlib.Tactic.Linarith
import Mathlib.Tactic.Positivity
import Mathlib.Tactic.NormNum
import Mathlib.Tactic.FieldSimp

namespace Mp.Cache

open Mp

/-! ## function maps -/

@[simp] theorem FMap.set_same {K V : Type} [DecidableEq K] (m : FMap K V) (k : K) (v : V) :
    (m.set k v) k = some v := by simp [FMap.set]

theorem FMap.set_other {K V : Type} [DecidableEq K] (m : FMap K V) (k k' : K) (v : V) (h : k' ≠ k) :
    (m.set k v) k' = m k' := by simp [FMap.set, h]

@[simp] theorem FMap.empty_apply {K V : Type} (k : K) : (FMap.empty : FMap K V) k = none := rfl

/-- A property of every entry of a map survives an update by an entry that has it.  Every cache invariant
below has the form `∀ k v, s k = some v → P k v`. -/
theorem FMap.forall_set {K V : Type} [DecidableEq K] {P : K → V → Prop} {m : FMap K V} {k : K} {v : V}
    (hm : ∀ k' v', m k' = some v' → P k' v') (hv : P k v) :
    ∀ k' v', (m.set k v) k' = some v' → P k' v' := by
  intro k' v' e
  by_cases hk : k' = k
  · subst hk; rw [FMap.set_same] at e; exact Option.some.inj e ▸ hv
  · rw [FMap.set_other _ _ _ _ hk] at e; exact hm k' v' e

/-! ## histories

The state after a history is a `List.foldl` of the request function.  An invariant that every request
preserves holds after every history; `Inv` may mention the history so far (provenance of the entries). -/

theorem foldl_invH {S R : Type} {step : S → R → S} (Inv : List R → S → Prop)
    (hstep : ∀ h s r, Inv h s → Inv (h ++ [r]) (step s r)) {s0 : S} (h0 : Inv [] s0) (h : List R) :
    Inv h (h.foldl step s0) := by
  induction h using List.reverseRecOn with
  | nil => exact h0
  | append_singleton h r ih => rw [List.foldl_append]; exact hstep h _ r ih

theorem foldl_inv {S R : Type} {step : S → R → S} (Inv : S → Prop) (h : List R)
    (hstep : ∀ s, ∀ r ∈ h, Inv s → Inv (step s r)) {s0 : S} (h0 : Inv s0) : Inv (h.foldl step s0) := by
  induction h generalizing s0 with
  | nil => exact h0
  | cons r h ih =>
    exact ih (fun s r' hr => hstep s r' (List.mem_cons_of_mem _ hr)) (hstep s0 r List.mem_cons_self h0)

/-! ## shifts -/

/-- a fixed-point function is *shift-stable* when truncating a higher-precision value gives the
lower-precision value: `F P >> (P-Q) = F Q`.  True floors have this property (`floor_shiftStable`). -/
def ShiftStable (F : Nat → Int) : Prop := ∀ P Q : Nat, Q ≤ P → shr (F P) (P - Q) = F Q

theorem shr_shr (x : Int) (a b : Nat) : shr (shr x a) b = shr x (a + b) := by
  simp [shr, Int.shiftRight_add]

theorem shr_zero (x : Int) : shr x 0 = x := by simp [shr]

theorem shr_eq_div (x : Int) (n : Nat) : shr x n = x / ((2 ^ n : Nat) : Int) := by
  simp [shr, Int.shiftRight_eq_div_pow]

/-- floors compose: `⌊c·2^P⌋ >> (P-Q) = ⌊c·2^Q⌋`. -/
theorem floor_shiftStable (c : ℚ) : ShiftStable (fun P => ⌊c * (2 : ℚ) ^ P⌋) := by
  intro P Q hQP
  have h2 : ((2 : ℚ) ^ (P - Q)) ≠ 0 := by positivity
  have e : c * (2 : ℚ) ^ Q = c * (2 : ℚ) ^ P / (((2 ^ (P - Q) : ℕ) : ℚ)) := by
    have : (2 : ℚ) ^ P = (2 : ℚ) ^ Q * (2 : ℚ) ^ (P - Q) := by
      rw [← pow_add]; congr 1; omega
    rw [this]; push_cast; field_simp
  show shr ⌊c * (2 : ℚ) ^ P⌋ (P - Q) = ⌊c * (2 : ℚ) ^ Q⌋
  rw [shr_eq_div, e, Int.floor_div_natCast]

/-! ## constant_memo -/

/-- state invariant: empty, or `memo_val = F memo_prec` -/
def MemoInv (F : Nat → Int) (s : MemoState) : Prop :=
  (s.memo_prec = -1 ∧ s.memo_val = none) ∨ ∃ P : Nat, s.memo_prec = (P : Int) ∧ s.memo_val = some (F P)

/-- invariant with provenance: the cached precision is `np q` for a request `q` of the history `h`
that was not aborted. -/
def MemoInvH (F : Nat → Int) (np : Nat → Nat) (h : List (Nat × Bool)) (s : MemoState) : Prop :=
  (s.memo_prec = -1 ∧ s.memo_val = none) ∨
  ∃ q : Nat, (q, false) ∈ h ∧ s.memo_prec = (np q : Int) ∧ s.memo_val = some (F (np q))

theorem MemoInvH.toInv {F np h s} (hi : MemoInvH F np h s) : MemoInv F s := by
  rcases hi with hi | ⟨q, _, h1, h2⟩
  · exact Or.inl hi
  · exact Or.inr ⟨np q, h1, h2⟩

theorem MemoInvH.mono {F np h h' s} (hi : MemoInvH F np h s) (hs : ∀ x ∈ h, x ∈ h') :
    MemoInvH F np h' s := by
  rcases hi with hi | ⟨q, hq, h1, h2⟩
  · exact Or.inl hi
  · exact Or.inr ⟨q, hs _ hq, h1, h2⟩

theorem memoReq_fault_state (F : Nat → Int) (np : Nat → Nat) (s : MemoState) (prec : Nat) :
    (memoReq F np s prec true).1 = s := by
  unfold memoReq
  split
  · split <;> rfl
  · rfl

theorem memoReq_invH (F : Nat → Int) (np : Nat → Nat) (h : List (Nat × Bool)) (s : MemoState)
    (prec : Nat) (fault : Bool) (hi : MemoInvH F np h s) :
    MemoInvH F np (h ++ [(prec, fault)]) (memoReq F np s prec fault).1 := by
  have hm : MemoInvH F np (h ++ [(prec, fault)]) s := hi.mono (by intro x hx; simp [hx])
  cases fault with
  | true => rw [memoReq_fault_state]; exact hm
  | false =>
    unfold memoReq
    split
    · split <;> exact hm
    · simp only [Bool.false_eq_true, if_false]
      split <;> exact Or.inr ⟨prec, by simp, rfl, rfl⟩

theorem memoAfter_invH (F : Nat → Int) (np : Nat → Nat) (h : List (Nat × Bool)) :
    MemoInvH F np h (memoAfter F np memoInit h) :=
  foldl_invH (MemoInvH F np) (fun h s r => memoReq_invH F np h s r.1 r.2) (Or.inl ⟨rfl, rfl⟩) h

theorem memoReq_answer (F : Nat → Int) (np : Nat → Nat) (hnp : ∀ p, p ≤ np p) (h : List (Nat × Bool))
    (s : MemoState) (prec : Nat) (hi : MemoInvH F np h s) :
    ∃ P : Nat, prec ≤ P ∧ (P = np prec ∨ ∃ q, (q, false) ∈ h ∧ P = np q) ∧
      (memoReq F np s prec false).2 = .ok (shr (F P) (P - prec)) := by
  unfold memoReq
  split
  · next hle =>
    rcases hi with ⟨h1, _⟩ | ⟨q, hq, h1, h2⟩
    · omega
    · refine ⟨np q, by omega, Or.inr ⟨q, hq, rfl⟩, ?_⟩
      simp only [h2, h1]
      congr 2
      omega
  · refine ⟨np prec, hnp prec, Or.inl rfl, ?_⟩
    simp only [Bool.false_eq_true, if_false]
    have : ¬ np prec < prec := by have := hnp prec; omega
    simp [this]

/-! ### the micro-step machine -/

/-- program points at which the invariant is required to hold when the request is abandoned there:
all of them except the gap between the two assignments. -/
def MemoPc.safe : MemoPc → Prop
  | .wroteVal _ _ _ => False
  | _ => True

theorem memoMicro_state_or (F : Nat → Int) (np : Nat → Nat) (c : MemoState × MemoPc) :
    (memoMicro F np c).1 = c.1 ∨
    (∃ p n v, c.2 = .gotVal p n v ∧ (memoMicro F np c).2 = .wroteVal p n v) ∨
    (∃ p n v, c.2 = .wroteVal p n v) := by
  obtain ⟨s, pc⟩ := c
  cases pc with
  | start p => left; simp only [memoMicro]; split; (split <;> rfl); rfl
  | miss p => left; rfl
  | call p n => left; rfl
  | gotVal p n v => right; left; exact ⟨p, n, v, rfl, rfl⟩
  | wroteVal p n v => right; right; exact ⟨p, n, v, rfl⟩
  | done r => left; rfl

/-- configurations reachable inside one request started in a state with the invariant -/
def MemoCfgOK (F : Nat → Int) (c : MemoState × MemoPc) : Prop :=
  match c.2 with
  | .start _ | .miss _ | .call _ _ | .done _ => MemoInv F c.1
  | .gotVal _ n v => MemoInv F c.1 ∧ v = F n
  | .wroteVal _ n v => v = F n ∧ c.1.memo_val = some v

theorem memoMicro_ok (F : Nat → Int) (np : Nat → Nat) (c : MemoState × MemoPc) (h : MemoCfgOK F c) :
    MemoCfgOK F (memoMicro F np c) := by
  obtain ⟨s, pc⟩ := c
  cases pc with
  | start p =>
    simp only [memoMicro]
    split
    · split <;> exact h
    · exact h
  | miss p => exact h
  | call p n => exact ⟨h, rfl⟩
  | gotVal p n v => exact ⟨h.2, rfl⟩
  | wroteVal p n v =>
    obtain ⟨h1, h2⟩ := h
    show MemoInv F _
    subst h1
    exact Or.inr ⟨n, rfl, h2⟩
  | done r => exact h

theorem memoMicroN_ok (F : Nat → Int) (np : Nat → Nat) (k : Nat) (c : MemoState × MemoPc)
    (h : MemoCfgOK F c) : MemoCfgOK F (memoMicroN F np k c) := by
  induction k generalizing c with
  | zero => exact h
  | succ k ih => exact ih _ (memoMicro_ok F np c h)

theorem MemoCfgOK.inv_of_safe {F : Nat → Int} {c : MemoState × MemoPc} (h : MemoCfgOK F c)
    (hs : c.2.safe) : MemoInv F c.1 := by
  obtain ⟨s, pc⟩ := c
  cases pc with
  | wroteVal p n v => exact absurd hs (by simp [MemoPc.safe])
  | gotVal p n v => exact h.1
  | start p => exact h
  | miss p => exact h
  | call p n => exact h
  | done r => exact h

/-! ## def_mpf_constant -/

/-- for a positive mantissa `round_down` is `round_floor` and `round_up` is `round_ceiling` -/
theorem constFinal_d_eq_f (v prec : Nat) : constFinal v prec .d = constFinal v prec .f := by
  have h (m n : Nat) : roundShift .d 0 m n = roundShift .f 0 m n := rfl
  simp only [constFinal, normalize, h, reduceCtorEq, or_self, if_false]

theorem constFinal_u_eq_c (v prec : Nat) : constFinal v prec .u = constFinal v prec .c := by
  have h (m n : Nat) : roundShift .u 0 m n = roundShift .c 0 m n := rfl
  simp only [constFinal, normalize, h, reduceCtorEq, or_true, true_or, if_true]

/-- hypothesis on `normalize`: floor rounding of a positive mantissa does not increase the value. -/
def NormalizeFloorLe : Prop :=
  ∀ (m : Nat) (e : Int) (p : Int), 0 < p → val (normalize 0 m e (bitcount m) p .f) ≤ (m : ℚ) * (2 : ℚ) ^ e

/-- hypothesis on `normalize`: ceiling rounding of a positive mantissa does not decrease the value. -/
def NormalizeCeilGe : Prop :=
  ∀ (m : Nat) (e : Int) (p : Int), 0 < p → (m : ℚ) * (2 : ℚ) ^ e ≤ val (normalize 0 m e (bitcount m) p .c)

theorem mul_zpow_neg_wp (x : ℚ) (prec : Nat) :
    x * (2 : ℚ) ^ (-((prec : Int) + 20)) = x / (2 : ℚ) ^ (prec + 20) := by
  rw [zpow_neg, ← div_eq_mul_inv, ← zpow_natCast]; rfl

theorem constFinal_floor_le (hf : NormalizeFloorLe) (c : ℚ) (v prec : Nat) (hp : 0 < prec)
    (h2 : (v : ℚ) ≤ c * (2 : ℚ) ^ (prec + 20)) : val (constFinal v prec .f) ≤ c := by
  have e : constFinal v prec .f = normalize 0 v (-((prec : Int) + 20)) (bitcount v) prec .f := by
    simp [constFinal]
  rw [e]
  refine le_trans (hf v (-((prec : Int) + 20)) prec (by exact_mod_cast hp)) ?_
  rw [mul_zpow_neg_wp, div_le_iff₀ (by positivity)]
  exact h2

theorem constFinal_ceil_ge (hc : NormalizeCeilGe) (c : ℚ) (v prec : Nat) (hp : 0 < prec)
    (h1 : c * (2 : ℚ) ^ (prec + 20) - 1 < (v : ℚ)) : c ≤ val (constFinal v prec .c) := by
  have e : constFinal v prec .c = normalize 0 (v + 1) (-((prec : Int) + 20)) (bitcount (v + 1)) prec .c := by
    simp [constFinal]
  rw [e]
  refine le_trans ?_ (hc (v + 1) (-((prec : Int) + 20)) prec (by exact_mod_cast hp))
  rw [mul_zpow_neg_wp, le_div_iff₀ (by positivity)]
  push_cast
  linarith

/-! ## log_int_cache -/

/-- every entry is the value of `F` at the stored working precision, only keys below the limit are
stored, and the stored working precision is `q + 10` for a request `(n, q)` of the history that was
not aborted. -/
def LogIntInv (F : Nat → Nat → Int) (h : List (Nat × Nat × Bool)) (s : LogIntState) : Prop :=
  ∀ n x, s n = some x →
    x.1 = F n x.2 ∧ n < MAX_LOG_INT_CACHE ∧ ∃ q, (n, q, false) ∈ h ∧ x.2 = q + 10

theorem LogIntInv.mono {F h h' s} (hi : LogIntInv F h s) (hs : ∀ x ∈ h, x ∈ h') : LogIntInv F h' s := by
  intro n x e
  obtain ⟨a, b, q, hq, c⟩ := hi n x e
  exact ⟨a, b, q, hs _ hq, c⟩

theorem logIntMiss_fault_state (F : Nat → Nat → Int) (s : LogIntState) (n prec : Nat) :
    (logIntMiss F s n prec true).1 = s := rfl

theorem logIntReq_fault_state (F : Nat → Nat → Int) (s : LogIntState) (n prec : Nat) :
    (logIntReq F s n prec true).1 = s := by
  unfold logIntReq
  split
  · split <;> rfl
  · rfl

theorem logIntMiss_inv (F : Nat → Nat → Int) (h : List (Nat × Nat × Bool)) (s : LogIntState)
    (n prec : Nat) (hm : LogIntInv F (h ++ [(n, prec, false)]) s) :
    LogIntInv F (h ++ [(n, prec, false)]) (logIntMiss F s n prec false).1 := by
  unfold logIntMiss
  simp only [Bool.false_eq_true, if_false]
  split
  · next hlt => exact FMap.forall_set hm ⟨rfl, hlt, prec, by simp, rfl⟩
  · exact hm

theorem logIntReq_inv (F : Nat → Nat → Int) (h : List (Nat × Nat × Bool)) (s : LogIntState)
    (n prec : Nat) (fault : Bool) (hi : LogIntInv F h s) :
    LogIntInv F (h ++ [(n, prec, fault)]) (logIntReq F s n prec fault).1 := by
  have hm : LogIntInv F (h ++ [(n, prec, fault)]) s := hi.mono (by intro x hx; simp [hx])
  cases fault with
  | true => rw [logIntReq_fault_state]; exact hm
  | false =>
    unfold logIntReq
    split
    · split
      · exact hm
      · exact logIntMiss_inv F h s n prec hm
    · exact logIntMiss_inv F h s n prec hm

theorem logIntAfter_inv (F : Nat → Nat → Int) (h : List (Nat × Nat × Bool)) :
    LogIntInv F h (logIntAfter F FMap.empty h) :=
  foldl_invH (LogIntInv F) (fun h s r => logIntReq_inv F h s r.1 r.2.1 r.2.2) (fun _ _ e => by simp at e) h

theorem logIntReq_answer (F : Nat → Nat → Int) (h : List (Nat × Nat × Bool)) (s : LogIntState)
    (n prec : Nat) (hi : LogIntInv F h s) :
    ∃ (w : Served) (wp : Nat), prec ≤ wp ∧ (wp = prec + 10 ∨ ∃ q, (n, q, false) ∈ h ∧ wp = q + 10) ∧
      (logIntReq F s n prec false).2 = .ok (w, shr (F n wp) (wp - prec)) := by
  have hmiss : ∃ (w : Served) (wp : Nat), prec ≤ wp ∧ (wp = prec + 10 ∨ ∃ q, (n, q, false) ∈ h ∧ wp = q + 10) ∧
      (logIntMiss F s n prec false).2 = .ok (w, shr (F n wp) (wp - prec)) :=
    ⟨.computed, prec + 10, by omega, Or.inl rfl, by simp [logIntMiss]⟩
  unfold logIntReq
  split
  · next value vprec e =>
    obtain ⟨(hv : value = F n vprec), _, q, hq, (hvp : vprec = q + 10)⟩ := hi n (value, vprec) e
    split
    · next hge => exact ⟨.cache, vprec, hge, Or.inr ⟨q, hq, hvp⟩, by rw [hv]⟩
    · exact hmiss
  · exact hmiss

/-! ## exact-key caches -/

def ExactInv {K V : Type} (F : K → V) (s : FMap K V) : Prop := ∀ k v, s k = some v → v = F k

theorem exactReq_fault_state {K V : Type} [DecidableEq K] (F : K → V) (s : FMap K V) (k : K) :
    (exactReq F s k true).1 = s := by
  unfold exactReq
  split <;> rfl

theorem exactReq_inv {K V : Type} [DecidableEq K] (F : K → V) (s : FMap K V) (k : K) (fault : Bool)
    (hi : ExactInv F s) : ExactInv F (exactReq F s k fault).1 := by
  cases fault with
  | true => rw [exactReq_fault_state]; exact hi
  | false =>
    unfold exactReq
    split
    · exact hi
    · exact FMap.forall_set hi rfl

theorem exactAfter_inv {K V : Type} [DecidableEq K] (F : K → V) (s : FMap K V) (h : List (K × Bool))
    (hi : ExactInv F s) : ExactInv F (exactAfter F s h) :=
  foldl_inv (ExactInv F) h (fun s r _ => exactReq_inv F s r.1 r.2) hi

theorem exactReq_answer {K V : Type} [DecidableEq K] (F : K → V) (s : FMap K V) (k : K)
    (hi : ExactInv F s) : ∃ w, (exactReq F s k false).2 = .ok (w, F k) := by
  unfold exactReq
  cases e : s k with
  | none => exact ⟨.computed, by simp⟩
  | some v => exact ⟨.cache, by simp [hi k v e]⟩

/-! ## memoize -/

def MemoizeInv {K V : Type} (F : K → Nat → V) (h : List (K × Nat × Bool)) (s : MemoizeState K V) : Prop :=
  ∀ k x, s k = some x → x.2 = F k x.1 ∧ (k, x.1, false) ∈ h

theorem memoizeReq_fault_state {K V : Type} [DecidableEq K] (F : K → Nat → V) (pos : V → Nat → V)
    (s : MemoizeState K V) (k : K) (prec : Nat) : (memoizeReq F pos s k prec true).1 = s := by
  unfold memoizeReq
  split
  · split <;> rfl
  · rfl

theorem memoizeMiss_inv {K V : Type} [DecidableEq K] (F : K → Nat → V)
    (h : List (K × Nat × Bool)) (s : MemoizeState K V) (k : K) (prec : Nat)
    (hm : MemoizeInv F (h ++ [(k, prec, false)]) s) :
    MemoizeInv F (h ++ [(k, prec, false)]) (memoizeMiss F s k prec false).1 := by
  unfold memoizeMiss
  simp only [Bool.false_eq_true, if_false]
  exact FMap.forall_set hm ⟨rfl, by simp⟩

theorem memoizeReq_inv {K V : Type} [DecidableEq K] (F : K → Nat → V) (pos : V → Nat → V)
    (h : List (K × Nat × Bool)) (s : MemoizeState K V) (k : K) (prec : Nat) (fault : Bool)
    (hi : MemoizeInv F h s) : MemoizeInv F (h ++ [(k, prec, fault)]) (memoizeReq F pos s k prec fault).1 := by
  have hm : MemoizeInv F (h ++ [(k, prec, fault)]) s := by
    intro k' x e
    obtain ⟨a, b⟩ := hi k' x e
    exact ⟨a, by simp [b]⟩
  cases fault with
  | true => rw [memoizeReq_fault_state]; exact hm
  | false =>
    unfold memoizeReq
    split
    · split
      · exact hm
      · exact memoizeMiss_inv F h s k prec hm
    · exact memoizeMiss_inv F h s k prec hm

theorem memoizeAfter_inv {K V : Type} [DecidableEq K] (F : K → Nat → V) (pos : V → Nat → V)
    (h : List (K × Nat × Bool)) : MemoizeInv F h (memoizeAfter F pos FMap.empty h) :=
  foldl_invH (MemoizeInv F) (fun h s r => memoizeReq_inv F pos h s r.1 r.2.1 r.2.2) (fun _ _ e => by simp at e) h

theorem memoizeReq_answer {K V : Type} [DecidableEq K] (F : K → Nat → V) (pos : V → Nat → V)
    (h : List (K × Nat × Bool)) (s : MemoizeState K V) (k : K) (prec : Nat) (hi : MemoizeInv F h s) :
    (memoizeReq F pos s k prec false).2 = .ok (.computed, F k prec) ∨
    ∃ cp, prec ≤ cp ∧ (k, cp, false) ∈ h ∧
      (memoizeReq F pos s k prec false).2 = .ok (.cache, pos (F k cp) prec) := by
  unfold memoizeReq
  split
  · next cp v e =>
    obtain ⟨(hv : v = F k cp), hq⟩ := hi k (cp, v) e
    split
    · next hge => right; exact ⟨cp, hge, hq, by rw [hv]⟩
    · left; simp [memoizeMiss]
  · left; simp [memoizeMiss]

/-! ## quadrature nodes -/

def QuadInv {I N : Type} (calcN : Nat → Nat → N) (tr : N → I → I → Nat → N) (p0 : Nat)
    (s : QuadState I N) : Prop :=
  (∀ d p n, s.standard (d, p) = some n → n = calcN d p) ∧
  (∀ a b d p n, s.transformed (a, b, d, p) = some n → n = tr (calcN d p) a b (p + 20)) ∧
  s.ctxPrec = p0

/-- inside a request `ctx.prec` is `prec + 20`; the cache parts of the invariant -/
def QuadInvC {I N : Type} (calcN : Nat → Nat → N) (tr : N → I → I → Nat → N) (s : QuadState I N) : Prop :=
  (∀ d p n, s.standard (d, p) = some n → n = calcN d p) ∧
  (∀ a b d p n, s.transformed (a, b, d, p) = some n → n = tr (calcN d p) a b (p + 20))

theorem quadStd_spec {I N : Type} (calcN : Nat → Nat → N) (tr : N → I → I → Nat → N)
    (s1 : QuadState I N) (d p : Nat) (fault : Option Nat) (hi : QuadInvC calcN tr s1)
    (s2 : QuadState I N) (w : QuadServed) (nodes : N)
    (e : quadStd calcN s1 d p fault = some (s2, w, nodes)) :
    QuadInvC calcN tr s2 ∧ nodes = calcN d p ∧ s2.ctxPrec = s1.ctxPrec := by
  unfold quadStd at e
  split at e
  · next n es =>
    simp only [Option.some.injEq, Prod.mk.injEq] at e
    obtain ⟨rfl, _, rfl⟩ := e
    exact ⟨hi, hi.1 d p _ es, rfl⟩
  · split at e
    · simp at e
    · simp only [Option.some.injEq, Prod.mk.injEq] at e
      obtain ⟨rfl, _, rfl⟩ := e
      exact ⟨⟨fun d' p' => FMap.forall_set (P := fun k n => n = calcN k.1 k.2) (fun k => hi.1 k.1 k.2) rfl (d', p'),
        hi.2⟩, rfl, rfl⟩

theorem quadFinish_spec {I N : Type} [DecidableEq I] (calcN : Nat → Nat → N) (tr : N → I → I → Nat → N)
    (s2 : QuadState I N) (w : QuadServed) (a b : I) (d p orig : Nat) (fault : Option Nat)
    (hi : QuadInvC calcN tr s2) :
    QuadInvC calcN tr (quadFinish tr s2 w (calcN d p) a b d p orig fault).1 ∧
    (quadFinish tr s2 w (calcN d p) a b d p orig fault).1.ctxPrec = orig ∧
    (fault ≠ some 1 → (quadFinish tr s2 w (calcN d p) a b d p orig fault).2 =
      .ok (w, tr (calcN d p) a b (p + 20))) := by
  unfold quadFinish
  by_cases hf : fault = some 1
  · rw [if_pos hf]
    exact ⟨hi, rfl, fun h => absurd hf h⟩
  · rw [if_neg hf]
    split
    · exact ⟨⟨hi.1, fun a' b' d' p' =>
        FMap.forall_set (P := fun k n => n = tr (calcN k.2.2.1 k.2.2.2) k.1 k.2.1 (k.2.2.2 + 20))
          (fun k => hi.2 k.1 k.2.1 k.2.2.1 k.2.2.2) rfl (a', b', d', p')⟩, rfl, fun _ => rfl⟩
    · exact ⟨hi, rfl, fun _ => rfl⟩

theorem quadReq_inv {I N : Type} [DecidableEq I] (calcN : Nat → Nat → N) (tr : N → I → I → Nat → N)
    (p0 : Nat) (s : QuadState I N) (a b : I) (d p : Nat) (fault : Option Nat)
    (hi : QuadInv calcN tr p0 s) : QuadInv calcN tr p0 (quadReq calcN tr s a b d p fault).1 := by
  obtain ⟨h1, h2, h3⟩ := hi
  unfold quadReq
  split
  · exact ⟨h1, h2, h3⟩
  · simp only
    split
    · exact ⟨h1, h2, h3⟩
    · next s2 w nodes e =>
      obtain ⟨hc, hn, _⟩ := quadStd_spec calcN tr { s with ctxPrec := p + 20 } d p fault ⟨h1, h2⟩ s2 w nodes e
      subst hn
      obtain ⟨q1, q2, _⟩ := quadFinish_spec calcN tr s2 w a b d p s.ctxPrec fault hc
      exact ⟨q1.1, q1.2, by rw [q2, h3]⟩

theorem quadReq_answer {I N : Type} [DecidableEq I] (calcN : Nat → Nat → N) (tr : N → I → I → Nat → N)
    (p0 : Nat) (s : QuadState I N) (a b : I) (d p : Nat) (hi : QuadInv calcN tr p0 s) :
    ∃ w, (quadReq calcN tr s a b d p none).2 = .ok (w, tr (calcN d p) a b (p + 20)) := by
  obtain ⟨h1, h2, h3⟩ := hi
  unfold quadReq
  split
  · next n et => exact ⟨.transformedCache, by rw [h2 a b d p n et]⟩
  · simp only
    split
    · next e =>
      exfalso
      unfold quadStd at e
      split at e <;> simp at e
    · next s2 w nodes e =>
      obtain ⟨hc, hn, _⟩ := quadStd_spec calcN tr { s with ctxPrec := p + 20 } d p none ⟨h1, h2⟩ s2 w nodes e
      subst hn
      obtain ⟨_, _, q3⟩ := quadFinish_spec calcN tr s2 w a b d p s.ctxPrec none hc
      exact ⟨w, q3 (by simp)⟩

/-! ## matrix `_LU` -/

/-- the cached decomposition is the decomposition of the CURRENT contents at SOME precision -/
def LUInv {D R : Type} (LU : D → Nat → Option R) (s : LUState D R) : Prop :=
  ∀ r, s.lu = some r → ∃ p, LU s.data p = some r

/-- the cached decomposition is the decomposition of the current contents at the current precision -/
def LUInvStrong {D R : Type} (LU : D → Nat → Option R) (s : LUState D R) : Prop :=
  ∀ r, s.lu = some r → LU s.data s.prec = some r

def LUOp.isResize {D : Type} : LUOp D → Bool
  | .resize _ => true
  | _ => false

def LUOp.isSetPrec {D : Type} : LUOp D → Bool
  | .setPrec _ => true
  | _ => false

/-- One step, for both invariants.  `Q d p r`: "`r` may be served when the contents are `d` and the
precision is `p`".  A fresh decomposition may be served; resizing keeps a decomposition of the old contents,
and a precision change is harmless only if `Q` does not look at the precision. -/
theorem luStep_inv {D R : Type} (LU : D → Nat → Option R) (Q : D → Nat → R → Prop)
    (hLU : ∀ d p r, LU d p = some r → Q d p r) (s : LUState D R) (o : LUOp D)
    (ho : o.isResize = false) (hp : o.isSetPrec = false ∨ ∀ d p p' r, Q d p r → Q d p' r)
    (hi : ∀ r, s.lu = some r → Q s.data s.prec r) :
    ∀ r, (luStep LU s o).1.lu = some r → Q (luStep LU s o).1.data (luStep LU s o).1.prec r := by
  cases o with
  | decomp uc fault =>
    simp only [luStep]
    split
    · exact hi
    · split
      · exact hi
      · split
        · exact hi
        · next r e => intro r' hr; cases hr; exact hLU _ _ _ e
  | setItem d => intro r hr; simp [luStep] at hr
  | setSlice d => intro r hr; simp [luStep] at hr
  | resize d => simp [LUOp.isResize] at ho
  | setPrec p =>
    rcases hp with hp | hp
    · simp [LUOp.isSetPrec] at hp
    · exact fun r hr => hp _ _ _ _ (hi r hr)

theorem luAfter_inv {D R : Type} (LU : D → Nat → Option R) (s : LUState D R) (h : List (LUOp D))
    (ho : ∀ o ∈ h, o.isResize = false) (hi : LUInv LU s) : LUInv LU (luAfter LU s h) :=
  foldl_inv (LUInv LU) h (fun s o hm => luStep_inv LU (fun d _ r => ∃ p, LU d p = some r)
    (fun _ p _ e => ⟨p, e⟩) s o (ho o hm) (Or.inr fun _ _ _ _ h => h)) hi

theorem luAfter_invStrong {D R : Type} (LU : D → Nat → Option R) (s : LUState D R) (h : List (LUOp D))
    (ho : ∀ o ∈ h, o.isResize = false ∧ o.isSetPrec = false) (hi : LUInvStrong LU s) :
    LUInvStrong LU (luAfter LU s h) :=
  foldl_inv (LUInvStrong LU) h (fun s o hm => luStep_inv LU (fun d p r => LU d p = some r)
    (fun _ _ _ e => e) s o (ho o hm).1 (Or.inl (ho o hm).2)) hi

/-! ## bernoulli_cache -/

/-- `k` completed iterations of the loop body, starting from the initial entry
`({0: fone}, [2, 10, 1])`; `none` when one of the bodies raises by itself. -/
def bernIter (env : BernEnv) (wp : Nat) : Nat → Option BernEntry
  | 0 => some bernEntryInit
  | k+1 =>
    match bernIter env wp k with
    | none => none
    | some e => (env.body wp e.m e.numbers e.bin e.bin1).map (bernAdvance e)

/-- the value of `numbers[n]` in the entry of working precision `wp`, whenever it is present: it
does not depend on the history (`bernIter_numbers`). -/
def bernVal (env : BernEnv) (wp n : Nat) : Option Mpf :=
  (bernIter env wp (n / 2)).bind (fun e => e.numbers n)

/-- every cache entry is the result of some number of completed loop iterations from the initial
entry: `numbers` and `state` are consistent. -/
def BernInv (env : BernEnv) (s : BernState) : Prop :=
  ∀ wp e, s wp = some e → ∃ k, bernIter env wp k = some e

theorem bernIter_succ_inv {env : BernEnv} {wp k : Nat} {e : BernEntry} (h : bernIter env wp (k + 1) = some e) :
    ∃ e' b, bernIter env wp k = some e' ∧ e = bernAdvance e' b := by
  simp only [bernIter] at h
  cases e0 : bernIter env wp k with
  | none => simp [e0] at h
  | some e' =>
    simp only [e0, Option.map_eq_some_iff] at h
    obtain ⟨b, _, rfl⟩ := h
    exact ⟨e', b, rfl, rfl⟩

theorem bernIter_m (env : BernEnv) (wp k : Nat) (e : BernEntry) (h : bernIter env wp k = some e) :
    e.m = 2 * k + 2 := by
  induction k generalizing e with
  | zero => simp [bernIter] at h; subst h; rfl
  | succ k ih =>
    obtain ⟨e', b, e0, rfl⟩ := bernIter_succ_inv h
    have := ih e' e0
    simp only [bernAdvance]; omega

theorem bernIter_numbers (env : BernEnv) (wp k : Nat) (e : BernEntry) (h : bernIter env wp k = some e)
    (n : Nat) (hn : n ≠ 0) (v : Mpf) (hv : e.numbers n = some v) : bernVal env wp n = some v := by
  induction k generalizing e with
  | zero =>
    simp [bernIter] at h; subst h
    simp [bernEntryInit, FMap.set, hn] at hv
  | succ k ih =>
    obtain ⟨e', b, e0, rfl⟩ := bernIter_succ_inv h
    have hm := bernIter_m env wp k e' e0
    by_cases hk : n = e'.m
    · have : n / 2 = k + 1 := by omega
      simp only [bernVal, this, h, Option.bind_some]
      exact hv
    · simp only [bernAdvance] at hv
      rw [FMap.set_other _ _ _ _ hk] at hv
      exact ih e' e0 hv

theorem bernIter_keys (env : BernEnv) (wp k : Nat) (e : BernEntry) (h : bernIter env wp k = some e)
    (n : Nat) (h2 : n % 2 = 0) (hlo : 2 ≤ n) (hhi : n < e.m) : (e.numbers n).isSome = true := by
  induction k generalizing e with
  | zero => simp [bernIter] at h; subst h; simp [bernEntryInit] at hhi; omega
  | succ k ih =>
    obtain ⟨e', b, e0, rfl⟩ := bernIter_succ_inv h
    have hm := bernIter_m env wp k e' e0
    simp only [bernAdvance] at hhi ⊢
    by_cases hk : n = e'.m
    · subst hk; simp
    · rw [FMap.set_other _ _ _ _ hk]
      exact ih e' e0 (by omega)

/-- the loop only ever appends completed iterations, whether it finishes or is aborted -/
theorem bernLoop_iter (env : BernEnv) (wp n fuel : Nat) (e : BernEntry) (fault : Option Nat) (k : Nat)
    (h : bernIter env wp k = some e) :
    ∃ j, bernIter env wp (k + j) = some (bernLoop env wp n fuel e fault).1 := by
  induction fuel generalizing e fault k with
  | zero => exact ⟨0, h⟩
  | succ fuel ih =>
    unfold bernLoop
    split
    · split
      · exact ⟨0, h⟩
      · split
        · exact ⟨0, h⟩
        · next b hb =>
          have h1 : bernIter env wp (k + 1) = some (bernAdvance e b) := by
            simp [bernIter, h, hb]
          obtain ⟨j, hj⟩ := ih (bernAdvance e b) (fault.map (· - 1)) (k + 1) h1
          exact ⟨j + 1, by rw [← hj]; congr 1; omega⟩
    · exact ⟨0, h⟩

/-- with enough fuel a loop that reports completion has passed `n` -/
theorem bernLoop_complete (env : BernEnv) (wp n fuel : Nat) (e : BernEntry) (fault : Option Nat)
    (hf : n < e.m + 2 * fuel) (hc : (bernLoop env wp n fuel e fault).2 = true) :
    n < (bernLoop env wp n fuel e fault).1.m := by
  induction fuel generalizing e fault with
  | zero => simpa [bernLoop] using hf
  | succ fuel ih =>
    unfold bernLoop at hc ⊢
    by_cases hle : e.m ≤ n
    · rw [if_pos hle] at hc ⊢
      by_cases h0 : fault = some 0
      · rw [if_pos h0] at hc; simp at hc
      · rw [if_neg h0] at hc ⊢
        cases hb : env.body wp e.m e.numbers e.bin e.bin1 with
        | none => rw [hb] at hc; simp at hc
        | some b =>
          rw [hb] at hc
          simp only at hc ⊢
          exact ih _ _ (by simp only [bernAdvance]; omega) hc
    · rw [if_neg hle]; show n < e.m; omega

theorem bernHuge_state (env : BernEnv) (s : BernState) (n prec : Nat) (rnd : Option Rnd)
    (fault : Option Nat) : (bernHuge env s n prec rnd fault).1 = s := by
  unfold bernHuge; split <;> rfl

theorem bernRunLoop_state (env : BernEnv) (s : BernState) (e : BernEntry) (wp n prec : Nat)
    (rnd : Option Rnd) (fault : Option Nat) :
    (bernRunLoop env s e wp n prec rnd fault).1 = s.set wp (bernLoop env wp n (n + 1) e fault).1 := by
  unfold bernRunLoop
  simp only
  split
  · split <;> rfl
  · rfl

theorem bernRunLoop_inv (env : BernEnv) (s : BernState) (e : BernEntry) (wp n prec : Nat)
    (rnd : Option Rnd) (fault : Option Nat) (hi : BernInv env s) (k : Nat)
    (he : bernIter env wp k = some e) :
    BernInv env (bernRunLoop env s e wp n prec rnd fault).1 := by
  rw [bernRunLoop_state]
  obtain ⟨j, hj⟩ := bernLoop_iter env wp n (n + 1) e fault k he
  exact FMap.forall_set hi ⟨k + j, hj⟩

theorem bernCached_inv (env : BernEnv) (s : BernState) (n prec : Nat) (rnd : Option Rnd)
    (fault : Option Nat) (hi : BernInv env s) : BernInv env (bernCached env s n prec rnd fault).1 := by
  unfold bernCached
  simp only
  split
  · next e he =>
    obtain ⟨k, hk⟩ := hi _ e he
    split
    · split <;> exact hi
    · split
      · rw [bernHuge_state]; exact hi
      · exact bernRunLoop_inv env s e _ n prec rnd fault hi k hk
  · split
    · rw [bernHuge_state]; exact hi
    · exact bernRunLoop_inv env _ bernEntryInit _ n prec rnd fault (FMap.forall_set hi ⟨0, rfl⟩) 0 rfl

/-- on the cached range of arguments `mpf_bernoulli` is its cached part -/
theorem bernReq_cached (env : BernEnv) (s : BernState) {n : Nat} (prec : Nat) (rnd : Option Rnd)
    (fault : Option Nat) (h2 : n % 2 = 0) (hlo : 2 ≤ n) (hhi : n ≤ MAX_BERNOULLI_CACHE)
    (hfrac : env.useFrac n prec = false) :
    bernReq env s n prec rnd fault = bernCached env s n prec rnd fault := by
  unfold bernReq
  rw [if_neg (by omega), if_neg (by omega), if_neg (by omega), hfrac, if_neg Bool.false_ne_true,
    if_neg (by omega)]

/-- every request — completed or aborted at any of its crash points — preserves the invariant; only the
last branch touches the cache -/
theorem bernReq_inv (env : BernEnv) (s : BernState) (n prec : Nat) (rnd : Option Rnd)
    (fault : Option Nat) (hi : BernInv env s) : BernInv env (bernReq env s n prec rnd fault).1 := by
  unfold bernReq
  by_cases h0 : n = 0
  · rw [if_pos h0]; exact hi
  by_cases h1 : n = 1
  · rw [if_neg h0, if_pos h1]; exact hi
  by_cases h2 : n % 2 = 1
  · rw [if_neg h0, if_neg h1, if_pos h2]; exact hi
  rw [if_neg h0, if_neg h1, if_neg h2]
  by_cases hf : env.useFrac n prec = true
  · rw [if_pos hf]; split <;> exact hi
  rw [if_neg hf]
  by_cases hm : n > MAX_BERNOULLI_CACHE
  · rw [if_pos hm, bernHuge_state]; exact hi
  · rw [if_neg hm]; exact bernCached_inv env s n prec rnd fault hi

theorem bernAfter_inv (env : BernEnv) (s : BernState)
    (h : List (Nat × Nat × Option Rnd × Option Nat)) (hi : BernInv env s) :
    BernInv env (bernAfter env s h) :=
  foldl_inv (BernInv env) h (fun s r _ => bernReq_inv env s r.1 r.2.1 r.2.2.1 r.2.2.2) hi

theorem bernInv_empty (env : BernEnv) : BernInv env FMap.empty := by
  intro wp e h; simp at h

/-- the outcomes allowed by `bernoulli_refines`: `mpf_bernoulli_huge`, an exception of the
recurrence itself, or the history-independent table value `bernVal env wp n` passed through the
final `bernRound` (`numbers[n]` for `rnd = None`, else `mpf_pos(numbers[n], prec, rnd)`) — on
whichever path it is served. -/
def BernOutcome (env : BernEnv) (n prec : Nat) (rnd : Option Rnd) (r : Res (BernPath × Mpf)) : Prop :=
  r = .ok (.huge, env.huge n prec rnd) ∨ r = .raised ∨
  ∃ v path, bernVal env (bernWp prec) n = some v ∧ r = .ok (path, bernRound v prec rnd)

theorem bernRunLoop_outcome (env : BernEnv) (s : BernState) (e : BernEntry) (prec n : Nat)
    (rnd : Option Rnd) (k : Nat) (he : bernIter env (bernWp prec) k = some e) (h2 : n % 2 = 0) (hlo : 2 ≤ n) :
    BernOutcome env n prec rnd (bernRunLoop env s e (bernWp prec) n prec rnd none).2 := by
  obtain ⟨j, hj⟩ := bernLoop_iter env (bernWp prec) n (n + 1) e none k he
  have hm := bernIter_m env _ k e he
  unfold bernRunLoop
  simp only
  split
  · next hc =>
    have hlt := bernLoop_complete env (bernWp prec) n (n + 1) e none (by omega) hc
    split
    · next v hv =>
      right; right
      exact ⟨v, .computed, bernIter_numbers env _ _ _ hj n (by omega) v hv, rfl⟩
    · next hv =>
      have := bernIter_keys env _ _ _ hj n h2 hlo hlt
      rw [hv] at this; simp at this
  · right; left; rfl

theorem bernCached_outcome (env : BernEnv) (s : BernState) (n prec : Nat) (rnd : Option Rnd)
    (hi : BernInv env s) (h2 : n % 2 = 0) (hlo : 2 ≤ n) :
    BernOutcome env n prec rnd (bernCached env s n prec rnd none).2 := by
  unfold bernCached
  simp only
  split
  · next e he =>
    obtain ⟨k, hk⟩ := hi _ e he
    split
    · next v hv =>
      have hb := bernIter_numbers env _ k e hk n (by omega) v hv
      split
      · right; right; exact ⟨v, .cachedRaw, hb, rfl⟩
      · next rr => right; right; exact ⟨v, .cachedPos, hb, rfl⟩
    · split
      · left; simp [bernHuge]
      · exact bernRunLoop_outcome env s e prec n rnd k hk h2 hlo
  · split
    · left; simp [bernHuge]
    · exact bernRunLoop_outcome env _ bernEntryInit prec n rnd 0 rfl h2 hlo

/-! ## `newprec` -/

theorem le_roundShift_n (m : Nat) {n : Nat} (hn : 0 < n) : m / 2 ^ n ≤ roundShift .n 0 m n := by
  obtain ⟨k, rfl⟩ : ∃ k, n = k + 1 := ⟨n - 1, by omega⟩
  have e : m >>> k >>> 1 = m / 2 ^ (k + 1) := by
    rw [← Nat.shiftRight_add, Nat.shiftRight_eq_div_pow]
  simp only [roundShift, Nat.add_sub_cancel, e]
  split <;> omega

/-- cutting `n` low bits of `m ≥ N·2^52` (`N = 2^n`) to `r ≥ ⌊m/N⌋` loses less than the fraction `2^-52` -/
theorem cut_loss {m r N : ℚ} (h1 : m < N * (r + 1)) (h3 : N * 2 ^ 52 ≤ m) :
    m * (1 - 1 / 2 ^ 52) ≤ r * N := by
  have h4 : N ≤ m / 2 ^ 52 := (le_div_iff₀ (by norm_num)).2 h3
  rw [mul_add, mul_one] at h1
  rw [mul_sub, mul_one, mul_one_div, mul_comm r]
  linarith

/-- one rounding to 53 bits loses less than the fraction `2^-52` of the value -/
theorem rnd53_val_ge (m : Nat) (e : Int) :
    (m : ℚ) * (2 : ℚ) ^ e * (1 - 1 / 2 ^ 52) ≤ ((rnd53 m e).1 : ℚ) * (2 : ℚ) ^ (rnd53 m e).2 := by
  have h2 : (0 : ℚ) < (2 : ℚ) ^ e := zpow_pos (by norm_num) e
  unfold rnd53
  simp only []
  split
  · exact mul_le_of_le_one_right (mul_nonneg (Nat.cast_nonneg m) h2.le) (by norm_num)
  · next hbc =>
    have hm : m ≠ 0 := by rintro rfl; simp [bitcount] at hbc
    obtain ⟨n, hn⟩ : ∃ n, bitcount m - 53 = n + 1 := ⟨bitcount m - 54, by omega⟩
    have hlo : 2 ^ (n + 1) * 2 ^ 52 ≤ m := by
      have := Nat.log2_self_le hm
      have hb : Nat.log2 m = n + 1 + 52 := by simp only [bitcount, hm, if_false] at hn; omega
      rw [hb, pow_add] at this; exact this
    have hr := le_roundShift_n m (show 0 < n + 1 by omega)
    have hdiv : m < 2 ^ (n + 1) * (m / 2 ^ (n + 1) + 1) := Nat.lt_mul_div_succ m (Nat.two_pow_pos _)
    rw [hn]
    generalize roundShift .n 0 m (n + 1) = r at hr
    have hq : (m : ℚ) * (1 - 1 / 2 ^ 52) ≤ (r : ℚ) * (2 : ℚ) ^ (n + 1) :=
      cut_loss
        (by exact_mod_cast lt_of_lt_of_le hdiv (Nat.mul_le_mul_left _ (Nat.succ_le_succ hr)))
        (by exact_mod_cast hlo)
    rw [zpow_add₀ (by norm_num), zpow_natCast]
    calc (m : ℚ) * (2 : ℚ) ^ e * (1 - 1 / 2 ^ 52) = ((m : ℚ) * (1 - 1 / 2 ^ 52)) * (2 : ℚ) ^ e := by ring
      _ ≤ ((r : ℚ) * (2 : ℚ) ^ (n + 1)) * (2 : ℚ) ^ e := mul_le_mul_of_nonneg_right hq h2.le
      _ = _ := by ring

/-- a factor `γ` that outweighs three losses by the factor `κ` -/
theorem three_roundings_le {p A B C κ γ : ℚ} (hp : 0 ≤ p) (hκ : 0 ≤ κ) (hγ : 0 ≤ γ) (h : 1 ≤ κ * κ * κ * γ)
    (ha : p * κ ≤ A) (hb : A * γ * κ ≤ B) (hc : (B + 10) * κ ≤ C) : p ≤ C :=
  calc p ≤ p * (κ * κ * κ * γ) := le_mul_of_one_le_right hp h
    _ = (p * κ) * (γ * κ * κ) := by ring
    _ ≤ A * (γ * κ * κ) := mul_le_mul_of_nonneg_right ha (mul_nonneg (mul_nonneg hγ hκ) hκ)
    _ = (A * γ * κ) * κ := by ring
    _ ≤ B * κ := mul_le_mul_of_nonneg_right hb hκ
    _ ≤ (B + 10) * κ := mul_le_mul_of_nonneg_right (by linarith) hκ
    _ ≤ C := hc

/-- a sum formed after shifting both summands to the common exponent `e` is exact -/
theorem shift_sum_val (b1 t : Nat) {b2 e : Int} (he1 : e ≤ b2) (he2 : e ≤ 0) :
    ((b1 <<< (b2 - e).toNat + t <<< (0 - e).toNat : Nat) : ℚ) * (2 : ℚ) ^ e = (b1 : ℚ) * (2 : ℚ) ^ b2 + t := by
  have e1 : (2 : ℚ) ^ (b2 - e).toNat * (2 : ℚ) ^ e = (2 : ℚ) ^ b2 := by
    rw [← zpow_natCast, Int.toNat_of_nonneg (by omega), ← zpow_add₀ (by norm_num)]; congr 1; omega
  have e2 : (2 : ℚ) ^ (0 - e).toNat * (2 : ℚ) ^ e = 1 := by
    rw [← zpow_natCast, Int.toNat_of_nonneg (by omega), ← zpow_add₀ (by norm_num)]; simp
  simp only [Nat.shiftLeft_eq]
  push_cast
  rw [add_mul, mul_assoc, e1, mul_assoc, e2, mul_one]

/-- `int()` of a float `c1·2^c2 ≥ p` is `≥ p` -/
theorem le_trunc (p c1 : Nat) (c2 : Int) (h : (p : ℚ) ≤ (c1 : ℚ) * (2 : ℚ) ^ c2) :
    p ≤ if c2 ≥ 0 then c1 <<< c2.toNat else c1 >>> (-c2).toNat := by
  by_cases h0 : c2 ≥ 0
  · rw [if_pos h0, Nat.shiftLeft_eq]
    rw [← Int.toNat_of_nonneg h0, zpow_natCast] at h
    exact_mod_cast h
  · rw [if_neg h0, Nat.shiftRight_eq_div_pow, Nat.le_div_iff_mul_le (Nat.two_pow_pos _)]
    have k : c2 = -(((-c2).toNat : Nat) : Int) := by omega
    rw [k, zpow_neg, zpow_natCast, ← div_eq_mul_inv, le_div_iff₀ (by positivity)] at h
    exact_mod_cast h

/-- `prec ≤ int(prec*1.05+10)`: three roundings lose less than `3·2^-52` of the value, the factor
`C105 / 2^52 ≥ 1.05` more than makes up for it, and truncating a value `≥ prec` leaves `≥ prec`. -/
theorem le_newprec (p : Nat) : p ≤ newprec p := by
  unfold newprec
  simp only []
  have ha := rnd53_val_ge p 0
  generalize rnd53 p 0 = a at ha ⊢
  have hb := rnd53_val_ge (a.1 * C105) (a.2 - 52)
  generalize rnd53 (a.1 * C105) (a.2 - 52) = b at hb ⊢
  have he1 : min b.2 0 ≤ b.2 := min_le_left _ _
  have he2 : min b.2 0 ≤ 0 := min_le_right _ _
  generalize min b.2 0 = e at he1 he2 ⊢
  have hc := rnd53_val_ge (b.1 <<< (b.2 - e).toNat + 10 <<< (0 - e).toNat) e
  rw [shift_sum_val b.1 10 he1 he2] at hc
  generalize rnd53 (b.1 <<< (b.2 - e).toNat + 10 <<< (0 - e).toNat) e = c at hc ⊢
  apply le_trunc
  have hb2 : ((a.1 * C105 : Nat) : ℚ) * (2 : ℚ) ^ (a.2 - 52)
      = (a.1 : ℚ) * (2 : ℚ) ^ a.2 * ((C105 : ℚ) / 2 ^ 52) := by
    rw [zpow_sub₀ (by norm_num), Nat.cast_mul]; norm_num; ring
  rw [hb2] at hb
  rw [zpow_zero, mul_one] at ha
  exact three_roundings_le (Nat.cast_nonneg p) (by norm_num) (by norm_num [C105]) (by norm_num [C105]) ha hb
    (by exact_mod_cast hc)

end Mp.Cache

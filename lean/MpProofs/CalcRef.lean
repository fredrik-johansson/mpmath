/-
  MpProofs/CalcRef.lean — semantics of reference expressions and soundness of the closeness checker.
-/
import MpModel.CalcRef
import MpProofs.EnclSound
import Mathlib.Data.Rat.Cast.Order
import Mathlib.Data.Real.Basic

namespace Mp.Calc
open Mp.Encl

/-- the real number denoted by a reference expression -/
noncomputable def Ref.sem : Ref → ℝ
  | .rat q => (q : ℝ)
  | .pi => Real.pi
  | .add a b => a.sem + b.sem
  | .mul a b => a.sem * b.sem
  | .neg a => -a.sem
  | .inv a => (a.sem)⁻¹
  | .pow a n => a.sem ^ n
  | .sqrt a => Real.sqrt a.sem
  | .exp a => Real.exp a.sem
  | .log a => Real.log a.sem
  | .sin a => Real.sin a.sem
  | .cos a => Real.cos a.sem
  | .atan a => Real.arctan a.sem

@[simp] theorem Ref.sem_sub (a b : Ref) : (Ref.sub a b).sem = a.sem - b.sem := by
  simp [Ref.sub, Ref.sem, sub_eq_add_neg]
@[simp] theorem Ref.sem_div (a b : Ref) : (Ref.div a b).sem = a.sem / b.sem := by
  simp [Ref.div, Ref.sem, div_eq_mul_inv]
@[simp] theorem Ref.sem_sum (l : List Ref) : (Ref.sum l).sem = (l.map Ref.sem).sum := by
  induction l with
  | nil => simp [Ref.sum, Ref.sem]
  | cons r rs ih => simp [Ref.sum, Ref.sem, ih]
@[simp] theorem Ref.sem_prod (l : List Ref) : (Ref.prod l).sem = (l.map Ref.sem).prod := by
  induction l with
  | nil => simp [Ref.prod, Ref.sem]
  | cons r rs ih => simp [Ref.prod, Ref.sem, ih]

theorem ratI_mem (wp : ℕ) (q : ℚ) : (ratI wp q).Mem (q : ℝ) := by
  unfold ratI
  have hq : (q : ℝ) = (q.num : ℝ) / (q.den : ℝ) := by
    conv_lhs => rw [← Rat.num_div_den q]
    push_cast; rfl
  split
  · rename_i h
    rw [hq, h]; simpa using DI.mem_ofInt q.num
  · rw [hq]
    have h1 := DI.mem_ofInt q.num
    have h2 := DI.mem_ofInt (q.den : ℤ)
    have hpos : 0 < (DI.ofInt (q.den : ℤ)).lo.m := by
      simp only [DI.ofInt, DI.point, Dy.ofInt]
      exact_mod_cast q.den_pos
    have := DI.mem_divPos wp h1 h2 hpos
    simpa using this

theorem powI_mem (wp : ℕ) {X : DI} {x : ℝ} (hx : X.Mem x) (n : ℕ) : (powI wp X n).Mem (x ^ n) := by
  induction n with
  | zero => simpa [powI] using DI.mem_one
  | succ n ih =>
    simp only [powI, pow_succ]
    exact DI.mem_round (DI.mem_mul ih hx) wp

theorem Ref.eval_sound (wp : ℕ) (r : Ref) : ∀ F, r.eval wp = some F → F.Mem r.sem := by
  -- every node binds the enclosures of its arguments and applies one sound interval operation
  induction r <;> intro F h <;>
    simp only [Ref.eval, Option.bind_eq_bind, Option.pure_def, Option.bind_eq_some_iff, Option.some.injEq] at h
  case rat q => exact h ▸ ratI_mem wp q
  case pi => exact h ▸ piI_mem wp
  case add a b iha ihb =>
    obtain ⟨A, ha, B, hb, rfl⟩ := h
    exact DI.mem_round (DI.mem_add (iha A ha) (ihb B hb)) wp
  case mul a b iha ihb =>
    obtain ⟨A, ha, B, hb, rfl⟩ := h
    exact DI.mem_round (DI.mem_mul (iha A ha) (ihb B hb)) wp
  case neg a iha =>
    obtain ⟨A, ha, rfl⟩ := h
    exact DI.mem_neg (iha A ha)
  case inv a iha =>
    obtain ⟨A, ha, h⟩ := h
    simpa [Ref.sem, one_div] using (DI.mem_divI wp DI.mem_one (iha A ha) h).1
  case pow a n iha =>
    obtain ⟨A, ha, rfl⟩ := h
    exact powI_mem wp (iha A ha) n
  case sqrt a iha =>
    obtain ⟨A, ha, rfl⟩ := h
    exact DI.mem_round (sqrtI_sound _ _ _ (iha A ha)) wp
  case exp a iha =>
    obtain ⟨A, ha, rfl⟩ := h
    exact expI_mem wp (iha A ha)
  case log a iha =>
    obtain ⟨A, ha, h⟩ := h
    exact (encloses_logI (iha A ha) _ h).1
  case sin a iha =>
    obtain ⟨A, ha, rfl⟩ := h
    exact sinI_mem wp (iha A ha)
  case cos a iha =>
    obtain ⟨A, ha, rfl⟩ := h
    exact cosI_mem wp (iha A ha)
  case atan a iha =>
    obtain ⟨A, ha, rfl⟩ := h
    exact atanI_mem wp (iha A ha)

private theorem memE {F : DI} {y : Dy} {v : ℝ} (hv : F.Mem v) :
    (DI.mk (y.sub F.hi) (y.sub F.lo)).Mem (y.val - v) := by
  constructor <;> simp only [Dy.val_sub] <;> linarith [hv.1, hv.2]

/-- what a verdict on the comparison of `d` with `b` asserts (`≤` when `strict = false`, `<` when `strict = true`);
`undecided` asserts nothing -/
def Decides (strict : Bool) (d b : ℝ) : Verdict → Prop
  | .ok => (strict = false → d ≤ b) ∧ (strict = true → d < b)
  | .violates => (strict = false → b < d) ∧ (strict = true → b ≤ d)
  | .undecided => True

theorem decideClose_spec (F W S : DI) (y t : Dy) (strict : Bool) {v w s : ℝ} (ht : 0 ≤ t.val)
    (hv : F.Mem v) (hw : W.Mem w) (hs : S.Mem s) :
    Decides strict |y.val - v| (t.val * max |w| s) (decideClose F W S y t strict) := by
  have hE := memE (y := y) hv
  have hlo : t.val * (W.mig.max S.lo).val ≤ t.val * max |w| s :=
    mul_le_mul_of_nonneg_left (by rw [Dy.val_max]; exact max_le_max (DI.mig_le_abs hw) hs.1) ht
  have hhi : t.val * max |w| s ≤ t.val * (W.mag.max S.hi).val :=
    mul_le_mul_of_nonneg_left (by rw [Dy.val_max]; exact max_le_max (DI.abs_le_mag hw) hs.2) ht
  unfold decideClose
  cases strict
  · simp only [Bool.false_eq_true, if_false]
    split_ifs with h1 h2
    · rw [Dy.le_iff, Dy.val_mul] at h1
      exact ⟨fun _ => (DI.abs_le_mag hE).trans (h1.trans hlo), nofun⟩
    · rw [Dy.lt_iff, Dy.val_mul] at h2
      exact ⟨fun _ => hhi.trans_lt (h2.trans_le (DI.mig_le_abs hE)), nofun⟩
    · trivial
  · simp only [if_true]
    split_ifs with h1 h2
    · rw [Dy.lt_iff, Dy.val_mul] at h1
      exact ⟨nofun, fun _ => (DI.abs_le_mag hE).trans_lt (h1.trans_le hlo)⟩
    · rw [Dy.le_iff, Dy.val_mul] at h2
      exact ⟨nofun, fun _ => hhi.trans (h2.trans (DI.mig_le_abs hE))⟩
    · trivial

theorem closeLoopTo_spec (r sc : Ref) (fl : ℚ) (y t : Dy) (strict : Bool) (ht : 0 ≤ t.val) (ws : List ℕ) :
    Decides strict |y.val - r.sem| (t.val * max |sc.sem| (fl : ℝ)) (closeLoopTo r sc fl y t strict ws) := by
  induction ws with
  | nil => trivial
  | cons wp ws ih =>
    unfold closeLoopTo
    cases hF : r.eval wp with
    | none => exact ih
    | some F =>
      cases hW : sc.eval wp with
      | none => exact ih
      | some W =>
        simp only
        split
        · exact ih
        · exact decideClose_spec F W _ y t strict ht (Ref.eval_sound wp r F hF) (Ref.eval_sound wp sc W hW)
            (ratI_mem wp fl)

/-- tolerance `2^(k−p)` -/
noncomputable def tol (p k : ℕ) : ℝ := (2 : ℝ) ^ ((k : ℤ) - (p : ℤ))

theorem tol_pos (p k : ℕ) : 0 < tol p k := by unfold tol; positivity

theorem checkCloseTo_spec (r sc : Ref) (y : Dy) (p k : ℕ) (fl : ℚ) (strict : Bool) :
    Decides strict |y.val - r.sem| (tol p k * max |sc.sem| (fl : ℝ)) (checkCloseTo r sc y p k fl strict) := by
  have := closeLoopTo_spec r sc fl y ⟨1, (k : ℤ) - (p : ℤ)⟩ strict (by rw [val_two_zpow]; positivity)
    [p + 32, 2 * p + 96, 4 * p + 256, 8 * p + 1024]
  rwa [val_two_zpow] at this

theorem checkCloseTo_sound_ok (r sc : Ref) (y : Dy) (p k : ℕ) (fl : ℚ) (strict : Bool)
    (h : checkCloseTo r sc y p k fl strict = .ok) :
    (strict = false → |y.val - r.sem| ≤ tol p k * max |sc.sem| (fl : ℝ)) ∧
    (strict = true → |y.val - r.sem| < tol p k * max |sc.sem| (fl : ℝ)) := by
  have := checkCloseTo_spec r sc y p k fl strict
  rwa [h] at this

theorem checkCloseTo_sound_violates (r sc : Ref) (y : Dy) (p k : ℕ) (fl : ℚ) (strict : Bool)
    (h : checkCloseTo r sc y p k fl strict = .violates) :
    (strict = false → tol p k * max |sc.sem| (fl : ℝ) < |y.val - r.sem|) ∧
    (strict = true → tol p k * max |sc.sem| (fl : ℝ) ≤ |y.val - r.sem|) := by
  have := checkCloseTo_spec r sc y p k fl strict
  rwa [h] at this

/-- verdict `ok` of `checkClose` ⇒ `|y − v| ≤ 2^(k−p)·max(|v|, fl)` (strict: `<`) over ℝ -/
theorem checkClose_sound_ok (r : Ref) (y : Dy) (p k : ℕ) (fl : ℚ) (strict : Bool)
    (h : checkClose r y p k fl strict = .ok) :
    (strict = false → |y.val - r.sem| ≤ tol p k * max |r.sem| (fl : ℝ)) ∧
    (strict = true → |y.val - r.sem| < tol p k * max |r.sem| (fl : ℝ)) :=
  checkCloseTo_sound_ok r r y p k fl strict h

/-- verdict `violates` of `checkClose` ⇒ the negation of the inequality over ℝ -/
theorem checkClose_sound_violates (r : Ref) (y : Dy) (p k : ℕ) (fl : ℚ) (strict : Bool)
    (h : checkClose r y p k fl strict = .violates) :
    (strict = false → tol p k * max |r.sem| (fl : ℝ) < |y.val - r.sem|) ∧
    (strict = true → tol p k * max |r.sem| (fl : ℝ) ≤ |y.val - r.sem|) :=
  checkCloseTo_sound_violates r r y p k fl strict h

end Mp.Calc

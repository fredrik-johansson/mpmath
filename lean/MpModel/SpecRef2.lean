/-
  MpModel/SpecRef2.lean — further reference values for C19 / C22 (executable, import-free):

  * `encCheck` / `encCheckC`: the accuracy deciders of `SpecRef.lean` over an arbitrary enclosure function
    `enc : Nat → Option DI` (working precision ↦ interval containing the reference value).
  * `hypEncl`: NON-terminating hypergeometric series `pFq(as; bs; z) = Σ_k Π(a_i)_k/Π(b_j)_k · z^k/k!` at rational
    parameters (none a non-positive integer) and rational `z`: exact rational partial sum `Σ_{k<K}` plus the geometric
    tail bound `|t_K|/(1−ρ)`, where `ρ ≥ |t_{k+1}/t_k|` for every `k ≥ K` is CHECKED (`ratioBound`).
    Covers `p ≤ q` (entire functions, any `z`) and `p = q+1` (Gauss type) for `ρ < 1`, i.e. `|z|` sufficiently below 1.
  * `zetaEncl`: `ζ(s) = Σ_{k≥1} k^(−s)` at integers `s ≥ 2` (odd ones included): `Σ_{k≤N} k^(−s)` with outward rounding
    and the tail bound `0 ≤ Σ_{k>N} k^(−s) ≤ N^(1−s)`; `altzetaEncl`: times the dyadic number `1 − 2^(1−s)`.
  * integer (negative) degrees of the orthogonal polynomials for which mpmath's representation has a reflection
    symmetry: `legendre` (`P_n = P_{−n−1}`), `chebyt` (`T_{−n} = T_n`), `chebyu` (`U_{−n−2} = −U_n`, `U_{−1} = 0`).

  Soundness: `MpProofs/SpecRef2.lean` (the enclosures), `MpProofs/SpecRef.lean` (the deciders `encCheck`, `encCheckC`),
  `Props/C19b.lean`, `Props/C22b.lean`.
-/
import MpModel.SpecRef

namespace Mp.SpecRef
open Mp.Encl

/-! ### deciders over an enclosure function -/

def encLoop (enc : Nat → Option DI) (y t : Dy) : List Nat → Verdict
  | [] => .undecided
  | wp :: ws =>
    match enc wp with
    | none => .undecided
    | some F =>
      match decide1 F y t with
      | .undecided => encLoop enc y t ws
      | v => v

def encLoopC (enc : Nat → Option DI) (yre yim t : Dy) : List Nat → Verdict
  | [] => .undecided
  | wp :: ws =>
    match enc wp with
    | none => .undecided
    | some F =>
      match decideC F yre yim t with
      | .undecided => encLoopC enc yre yim t ws
      | v => v

/-- decide `|y − v| ≤ 2^(k−p)·|v|` for the number `v` enclosed by `enc` -/
def encCheck (enc : Nat → Option DI) (y : Dy) (p k : Nat) : Verdict :=
  encLoop enc y ⟨1, (k : Int) - (p : Int)⟩ (precList p)

def encCheckC (enc : Nat → Option DI) (yre yim : Dy) (p k : Nat) : Verdict :=
  encLoopC enc yre yim ⟨1, (k : Int) - (p : Int)⟩ (precList p)

/-- dyadic enclosure of a rational number -/
def ratDI (wp : Nat) (q : Rat) : DI := (DI.ofInt q.num).divNat wp q.den

/-- dyadic enclosure of the rational interval `[lo, hi]` -/
def ratHull (wp : Nat) (lo hi : Rat) : DI := ⟨(ratDI wp lo).lo, (ratDI wp hi).hi⟩

def absQ (q : Rat) : Rat := if q < 0 then -q else q

/-! ### C22: non-terminating hypergeometric series -/

/-- a bound `R` with `0 ≤ Π(a_i+k)`, `0 < Π(b_j+k)` and `Π(a_i+k)/Π(b_j+k) ≤ R` for EVERY `k ≥ K`
(the lists are paired: `(a+k)/(b+k) ≤ max(1, (a+K)/(b+K))`; unpaired denominators: `1/(b+k) ≤ 1/(b+K)`);
`none` if some `a_i + K < 0`, some `b_j + K ≤ 0`, or there are more numerator than denominator parameters -/
def ratioBound : List Rat → List Rat → Nat → Option Rat
  | [], [], _ => some 1
  | [], b :: bs, K =>
    if 0 < b + (K : Rat) then (ratioBound [] bs K).map (fun R => R / (b + (K : Rat))) else none
  | a :: as, b :: bs, K =>
    if 0 ≤ a + (K : Rat) ∧ 0 < b + (K : Rat) then
      (ratioBound as bs K).map (fun R =>
        (if 1 ≤ (a + (K : Rat)) / (b + (K : Rat)) then (a + (K : Rat)) / (b + (K : Rat)) else 1) * R)
    else none
  | _ :: _, [], _ => none

/-- heuristic stopping test at index `k` (`t = t_k`, `S = Σ_{j<k} t_j`): the ratio bound holds with `ρ < 1` and the
tail bound is below `2^(−wp−2)·|S|`; unconstrained by the proofs -/
def hypStop (as bs : List Rat) (z : Rat) (wp k : Nat) (t S : Rat) : Bool :=
  match ratioBound as (1 :: bs) k with
  | none => false
  | some R =>
    let rho := R * absQ z
    decide (rho < 1) && decide (absQ t * (2 : Rat) ^ (wp + 2) ≤ absQ S * (1 - rho))

/-- `(K, t_K, Σ_{j<K} t_j)` for the first `K ≥ k` at which `hypStop` holds (or fuel runs out) -/
def hypLoop (as bs : List Rat) (z : Rat) (wp : Nat) : Nat → Nat → Rat → Rat → Nat × Rat × Rat
  | 0, k, t, S => (k, t, S)
  | fuel + 1, k, t, S =>
    if hypStop as bs z wp k t S then (k, t, S)
    else hypLoop as bs z wp fuel (k + 1) (t * prodShift as k / prodShift bs k * z / ((k : Rat) + 1)) (S + t)

def hypFuel (z : Rat) (wp : Nat) : Nat := 4 * wp + 8 * ((absQ z).ceil.toNat + 1) + 64

/-- enclosure of `Σ_{k≥0} Π(a_i)_k/Π(b_j)_k · z^k/k!`; `none` if a denominator parameter is a non-positive integer,
or the checked ratio bound at the stopping index is not below 1 -/
def hypEncl (as bs : List Rat) (z : Rat) (wp : Nat) : Option DI :=
  if bs.any isNpInt then none else
  let r := hypLoop as bs z wp (hypFuel z wp) 0 1 0
  match ratioBound as (1 :: bs) r.1 with
  | none => none
  | some R =>
    let rho := R * absQ z
    if rho < 1 then
      let tail := absQ r.2.1 / (1 - rho)
      some (ratHull wp (r.2.2 - tail) (r.2.2 + tail))
    else none

/-- reference of a non-terminating series: `outside` when a numerator parameter is a non-positive integer (the
terminating case is `hyperRef`) or a denominator parameter is one (pole / limit cases) -/
def hypSeriesOK (as bs : List Rat) : Bool := !(as.any isNpInt) && !(bs.any isNpInt)

/-! ### C19: ζ(s) at integers s ≥ 2 from the defining series -/

/-- `Σ_{k=1}^{n} 1/k^s`, outward rounded at `wp` bits -/
def powSumDI (wp s : Nat) : Nat → DI
  | 0 => DI.zero
  | n + 1 => ((powSumDI wp s n).add (DI.one.divNat wp ((n + 1) ^ s))).round wp

/-- number of terms: a power of two `N` with `N^(s−1) ≥ 2^(wp+2)` (heuristic) -/
def zetaTerms (s wp : Nat) : Nat := 2 ^ ((wp + 2 + (s - 2)) / (s - 1))

/-- largest accepted number of terms of the direct sum -/
def zetaMaxTerms : Nat := 8192

/-- enclosure of `ζ(s) = Σ_{k≥1} k^(−s)`, `s ≥ 2`: `Σ_{k≤N} k^(−s) ≤ ζ(s) ≤ Σ_{k≤N} k^(−s) + N^(1−s)` -/
def zetaEncl (s : Nat) (wp : Nat) : Option DI :=
  if s < 2 then none else
  let N := zetaTerms s wp
  if N = 0 ∨ zetaMaxTerms < N then none else
  let w := wp + 16
  let S := powSumDI w s N
  let T : Dy := Dy.divUp w Dy.one ⟨((N ^ (s - 1) : Nat) : Int), 0⟩
  some ((⟨S.lo, S.hi.add T⟩ : DI).round wp)

/-- `altzeta(s) = (1 − 2^(1−s))·ζ(s)`; the factor is the dyadic number `(2^(s−1) − 1)·2^(−(s−1))` -/
def altzetaEncl (s : Nat) (wp : Nat) : Option DI :=
  (zetaEncl s (wp + 2)).map (fun Z => (Z.mul (DI.point ⟨pow2 (s - 1) - 1, -((s - 1 : Nat) : Int)⟩)).round wp)

/-! ### C22: integer degrees -/

/-- `legendre(n, x)` for every integer `n`: `P_n = P_{−n−1}` for `n < 0` (the symmetry of `2F1(−n, n+1; 1; ·)`) -/
def legendreZRef (n : Int) (x : Rat) : Ref := recRef (if 0 ≤ n then n else -n - 1) (legendreQ x)

/-- `chebyt(n, x)` for every integer `n`: `T_{−n} = T_n` -/
def chebytZRef (n : Int) (x : Rat) : Ref := recRef (if 0 ≤ n then n else -n) (chebytQ x)

def Ref.neg : Ref → Ref
  | .val e => .val (.neg e)
  | r => r

/-- `chebyu(n, x)` for every integer `n`: `U_{−1} = 0`, `U_{−n−2} = −U_n` -/
def chebyuZRef (n : Int) (x : Rat) : Ref :=
  if 0 ≤ n then recRef n (chebyuQ x)
  else if n = -1 then .val (.rat 0 1)
  else (recRef (-n - 2) (chebyuQ x)).neg

end Mp.SpecRef

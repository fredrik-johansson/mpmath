/-
  Props/C36.lean — C36 (`chebyfit`, `fourier`, `fourierval`), level: translation validation with a PROVED
  validator.

  Property text: "chebyfit(f, [a, b], N) reproduces polynomials of degree below N to within 2^(10-p) relative,
  and its reported error bound is consistent with the actual error on sample points.  fourier(f, [a, b], N)
  recovers the coefficients of trigonometric polynomials of degree at most N to the same accuracy, and fourierval
  evaluates such series exactly as their definition."

  The quantifier "for all polynomials / intervals / N / precisions" is sampled by the harness, which runs the real
  functions of `/repo/mpmath/calculus/approximation.py` on inputs with rational data and reads every returned
  number exactly (mpf values are dyadic rationals).  What is proved here is that the checks it performs mean
  what they say, over ℝ:
    * `chebyfit` on a polynomial `P` (coefficients `c`, increasing degree) returns coefficients `d` (the harness
      reverses `chebyfit`'s highest-degree-first list).  The exact rational number
      `polyCoeffDist d c M = Σ_j |d[j] − c[j]|·M^j`, `M ≥ max(|a|, |b|)`, is compared with `t·S` by exact rational
      arithmetic; `C36_polyDiffBound_sound`: then `|fit(x) − P(x)| ≤ t·S` for EVERY real `x ∈ [−M, M] ⊇ [a, b]`
      (not only sample points).  `C36_polyCoeffDist_eq_sum` states what the number is.
    * values at sample points (the fitted polynomial, the reported error bound, `fourierval`, the coefficients
      returned by `fourier`) are compared with closed-form references by `checkCloseTo r sc y p k fl false`;
      `C36_checker_ok/_violates`: verdict `ok` ⇒ `|y − v| ≤ 2^(k−p)·max(|scale|, fl)`, verdict `violates` ⇒ its
      negation;
      `C36_poly_ref`: the reference for `P(x)` denotes `P(x)`;
    * `C36_fourierval_spec`: the reference for `fourierval((cs, ss), [a, b], x)` denotes
      `Σ_n cs[n]·cos(m n x) + Σ_n ss[n]·sin(m n x)`, `m = 2π/(b − a)` — the definition in the docstring, which the
      code (lines 242-246, skipping zero coefficients) implements; `C36_fourierval_check_sound` combines it with
      the checker.
  Not claimed: that the Fourier coefficient integrals `(2/L)∫ f cos(m n t) dt` of a trigonometric polynomial are its
  coefficients (orthogonality is used by the harness as the reference `Ref.rat c_n`, it is not proved here);
  convergence of the Chebyshev interpolation / Gauss-Legendre quadrature as theorems.
-/
import MpProofs.CalcOde

namespace Mp
open Mp.Calc Mp.Encl

/-! ## chebyfit: distance of the fitted polynomial from the input polynomial -/

/-- the quantity the harness computes exactly: `polyCoeffDist d c M = Σ_j |d[j] − c[j]|·M^j`
(missing coefficients are `0`) -/
theorem C36_polyCoeffDist_eq_sum (d c : List ℚ) (M : ℚ) :
    ((polyCoeffDist d c M : ℚ) : ℝ) = ∑ j ∈ Finset.range (max d.length c.length),
      |(d.getD j 0 : ℝ) - (c.getD j 0 : ℝ)| * (M : ℝ) ^ j :=
  polyCoeffDist_eq_sum d c M

/-- `listPolyFn l x` is the polynomial `Σ_j l[j]·x^j` -/
theorem C36_listPolyFn_def (l : List ℚ) (x : ℝ) :
    listPolyFn l x = ∑ j ∈ Finset.range l.length, (l.getD j 0 : ℝ) * x ^ j := rfl

/-- if the exact rational number `polyCoeffDist d c M` is at most `t·S` (a decidable comparison of rationals),
then the fitted polynomial `Σ d[j] x^j` is within `t·S` of the input polynomial `Σ c[j] x^j` at EVERY real
`x` with `|x| ≤ M` -/
theorem C36_polyDiffBound_sound (d c : List ℚ) (M t S : ℚ) (hM : 0 ≤ M) (h : polyCoeffDist d c M ≤ t * S) :
    ∀ x : ℝ, |x| ≤ (M : ℝ) → |listPolyFn d x - listPolyFn c x| ≤ (t : ℝ) * (S : ℝ) := by
  intro x hx
  have h' : ((polyCoeffDist d c M : ℚ) : ℝ) ≤ ((t * S : ℚ) : ℝ) := by exact_mod_cast h
  push_cast at h'
  exact le_trans (polyCoeffDist_bound d c M hM x hx) h'

/-- the bound is attained in the worst case `x = M` with all differences of one sign, e.g. for a constant
offset: it cannot be improved without more information (so the check is not needlessly strict there) -/
theorem C36_polyDiffBound_tight (c0 e M : ℚ) :
    polyCoeffDist [c0 + e] [c0] M = ratAbs e := by
  simp [polyCoeffDist, absHorner]

/-- the reference used for `P(x)` at a rational sample point denotes `P(x) = Σ c·x^n` -/
theorem C36_poly_ref (ts : List (ℚ × ℕ)) (x : ℚ) :
    (polyRef ts (.rat x)).sem = (ts.map fun t => (t.1 : ℝ) * (x : ℝ) ^ t.2).sum :=
  polyRef_sem ts (.rat x)

/-! ## the scaled closeness checker -/

/-- verdict `ok` of the scaled checker: the dyadic `y` is within `2^(k−p)·max(|scale|, fl)` of the exact
value of the reference `r` (`scale` = value of `sc`, e.g. the size of the polynomial / coefficient vector;
`fl` an absolute floor) -/
theorem C36_checker_ok (r sc : Ref) (y : Dy) (p k : ℕ) (fl : ℚ)
    (h : checkCloseTo r sc y p k fl false = .ok) :
    |y.val - r.sem| ≤ (2 : ℝ) ^ ((k : ℤ) - (p : ℤ)) * max |sc.sem| (fl : ℝ) := by
  have := (checkCloseTo_sound_ok r sc y p k fl false h).1 rfl
  simpa only [tol] using this

/-- verdict `violates` ⇒ it is NOT within that tolerance -/
theorem C36_checker_violates (r sc : Ref) (y : Dy) (p k : ℕ) (fl : ℚ)
    (h : checkCloseTo r sc y p k fl false = .violates) :
    ¬ |y.val - r.sem| ≤ (2 : ℝ) ^ ((k : ℤ) - (p : ℤ)) * max |sc.sem| (fl : ℝ) := by
  have := (checkCloseTo_sound_violates r sc y p k fl false h).1 rfl
  simp only [tol] at this
  exact not_le.2 this

/-- a value `y` of the fitted polynomial at a rational sample point `x`, checked against `P(x)` relative to a
scale `S` (a rational, e.g. `Σ|c_j|·M^j`): `ok` ⇒ `|y − P(x)| ≤ 2^(k−p)·|S|` -/
theorem C36_polyvalCheck_sound (ts : List (ℚ × ℕ)) (x S : ℚ) (y : Dy) (p k : ℕ)
    (h : checkCloseTo (polyRef ts (.rat x)) (.rat S) y p k 0 false = .ok) :
    |y.val - (ts.map fun t => (t.1 : ℝ) * (x : ℝ) ^ t.2).sum| ≤ (2 : ℝ) ^ ((k : ℤ) - (p : ℤ)) * |(S : ℝ)| := by
  have := C36_checker_ok _ _ y p k 0 h
  rw [C36_poly_ref] at this
  simpa [Ref.sem] using this

/-! ## fourierval -/

/-- `fourierval` evaluates the series as its definition: the reference for `fourierval((cs, ss), [a, b], x)`
denotes `Σ_{n < len cs} cs[n]·cos(2π/(b−a)·n·x) + Σ_{n < len ss} ss[n]·sin(2π/(b−a)·n·x)` -/
theorem C36_fourierval_spec (cs ss : List ℚ) (a b x : ℚ) (r : Ref) (h : fourierRef cs ss a b x = some r) :
    r.sem = ∑ n ∈ Finset.range cs.length,
        (cs.getD n 0 : ℝ) * Real.cos (2 * Real.pi / ((b : ℝ) - (a : ℝ)) * (n : ℝ) * (x : ℝ)) +
      ∑ n ∈ Finset.range ss.length,
        (ss.getD n 0 : ℝ) * Real.sin (2 * Real.pi / ((b : ℝ) - (a : ℝ)) * (n : ℝ) * (x : ℝ)) :=
  fourierRef_sem cs ss a b x r h

/-- the reference exists exactly when the interval is non-degenerate (`a = b`: Python divides by zero) -/
theorem C36_fourierval_defined (cs ss : List ℚ) (a b x : ℚ) :
    (∃ r, fourierRef cs ss a b x = some r) ↔ a ≠ b := by
  unfold fourierRef
  by_cases h : a = b <;> simp [h]

/-- checker `ok` on the `fourierval` reference ⇒ the returned value `y` is within `2^(k−p)` (relative or
absolute) of the trigonometric sum `fourierSum cs ss a b x` (the sum displayed in `C36_fourierval_spec`) -/
theorem C36_fourierval_check_sound (cs ss : List ℚ) (a b x : ℚ) (r : Ref) (y : Dy) (p k : ℕ)
    (hr : fourierRef cs ss a b x = some r) (h : checkCloseTo r r y p k 1 false = .ok) :
    |y.val - fourierSum cs ss a b (x : ℝ)| ≤
      (2 : ℝ) ^ ((k : ℤ) - (p : ℤ)) * max |fourierSum cs ss a b (x : ℝ)| 1 := by
  rw [← fourierRef_sem' cs ss a b x r hr]
  simpa using C36_checker_ok r r y p k 1 h

/-- … and `violates` ⇒ it is not -/
theorem C36_fourierval_check_violates (cs ss : List ℚ) (a b x : ℚ) (r : Ref) (y : Dy) (p k : ℕ)
    (hr : fourierRef cs ss a b x = some r) (h : checkCloseTo r r y p k 1 false = .violates) :
    ¬ |y.val - fourierSum cs ss a b (x : ℝ)| ≤
      (2 : ℝ) ^ ((k : ℤ) - (p : ℤ)) * max |fourierSum cs ss a b (x : ℝ)| 1 := by
  rw [← fourierRef_sem' cs ss a b x r hr]
  simpa using C36_checker_violates r r y p k 1 h

/-- a coefficient `y` returned by `fourier`, checked against the rational coefficient `c` of the input
trigonometric polynomial relative to the size `S` of its coefficient vector: `ok` ⇒ `|y − c| ≤ 2^(k−p)·max(|S|, fl)` -/
theorem C36_fourierCoeffCheck_sound (c S fl : ℚ) (y : Dy) (p k : ℕ)
    (h : checkCloseTo (.rat c) (.rat S) y p k fl false = .ok) :
    |y.val - (c : ℝ)| ≤ (2 : ℝ) ^ ((k : ℤ) - (p : ℤ)) * max |(S : ℝ)| (fl : ℝ) := by
  simpa [Ref.sem] using C36_checker_ok (.rat c) (.rat S) y p k fl h

-- non-vacuity
-- chebyfit: fit 1 + 2x + (3 + 2^-40)x² against 1 + 2x + 3x² on [−2, 2]: distance 2^-38 ≤ 2^-43·(1+4+12)·2^6; not ≤ 2^-43·17
example : polyCoeffDist [1, 2, 3 + 1 / 1099511627776] [1, 2, 3] 2 = 1 / 274877906944 := by decide +kernel
example : polyCoeffDist [1, 2, 3 + 1 / 1099511627776] [1, 2, 3] 2 ≤ (1 / 8796093022208) * (17 * 64) := by
  decide +kernel
example : ¬ polyCoeffDist [1, 2, 3 + 1 / 1099511627776] [1, 2, 3] 2 ≤ (1 / 8796093022208) * 17 := by
  decide +kernel
-- lists of different lengths (a spurious leading coefficient 2^-50 of degree 3)
example : polyCoeffDist [1, 2, 3, 1 / 1125899906842624] [1, 2, 3] 2 = 8 / 1125899906842624 := by decide +kernel
-- scaled checker: 1/3 read as a double, scale 2, tolerance 2^(10−53)·2; and 0.34 violates
example : checkCloseTo (.rat (1 / 3)) (.rat 2) ⟨6004799503160661, -54⟩ 53 10 0 false = .ok := by decide +kernel
example : checkCloseTo (.rat (1 / 3)) (.rat 2) ⟨87, -8⟩ 53 10 0 false = .violates := by decide +kernel
-- P(x) = 1 + 2x + 3x² at x = 1/2 is 11/4
example : checkCloseTo (polyRef [(1, 0), (2, 1), (3, 2)] (.rat (1 / 2))) (.rat 17) ⟨11, -2⟩ 53 10 0 false = .ok := by
  decide +kernel
-- fourierval(([1, 2], [0, 3]), [0, 1], 1/4) = 1 + 2cos(π/2) + 3 sin(π/2) = 4; 4.5 violates; degenerate interval
example : fourierRef [1, 2] [0, 3] 0 1 (1 / 4) ≠ none := by decide +kernel
example : fourierRef [1, 2] [0, 3] 1 1 (1 / 4) = none := by decide +kernel
example : checkCloseTo ((fourierRef [1, 2] [0, 3] 0 1 (1 / 4)).getD (.rat 0))
    ((fourierRef [1, 2] [0, 3] 0 1 (1 / 4)).getD (.rat 0)) ⟨4, 0⟩ 53 10 1 false = .ok :=
  Example.fourierval_verdicts.1
example : checkCloseTo ((fourierRef [1, 2] [0, 3] 0 1 (1 / 4)).getD (.rat 0))
    ((fourierRef [1, 2] [0, 3] 0 1 (1 / 4)).getD (.rat 0)) ⟨9, -1⟩ 53 10 1 false = .violates :=
  Example.fourierval_verdicts.2

end Mp

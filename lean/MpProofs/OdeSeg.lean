/-
  MpProofs/OdeSeg.lean — lemmas about the odefun segment cache model (MpModel/OdeSeg.lean).
  Specification vocabulary: `Incr` (strictly increasing step), `Inv` (cache invariant).
-/
import MpModel.OdeSeg

namespace Mp
namespace OdeSeg

variable {σ : Type}

/-- every successful step moves the right boundary strictly to the right
(`ode_taylor` returns `x0 + radius` with `radius > 0`; the harness checks it on every real step) -/
def Incr (step : Seg σ → Option (σ × Int)) : Prop :=
  ∀ s ser xb, step s = some (ser, xb) → s.xb < xb

/-- the cache invariant: `series_data` is an initial piece of the canonical segment sequence and
`series_boundaries` is `x0` followed by the right end points of the segments -/
structure Inv (step : Seg σ → Option (σ × Int)) (x0 : Int) (seg0 : Seg σ) (s : State σ) : Prop where
  ne : s.data ≠ []
  seq : ∀ k, k < s.data.length → s.data[k]? = canon step seg0 k
  bounds : s.bounds = x0 :: s.data.map (·.xb)

/-- strictly increasing, phrased with the accessor the binary search uses -/
def SortedLt (a : List Int) : Prop := ∀ i j, i < j → j < a.length → a.getD i 0 < a.getD j 0

/-! ### binary search -/

theorem SortedLt.le {a : List Int} (hs : SortedLt a) {i j : Nat} (hij : i ≤ j) (hj : j < a.length) :
    a.getD i 0 ≤ a.getD j 0 := by
  rcases Nat.lt_or_eq_of_le hij with h | rfl
  · exact Int.le_of_lt (hs i j h hj)
  · exact Int.le_refl _

/-- the loop keeps `a[i] ≤ x` left of `lo` and `x < a[i]` from `hi` on; by sortedness one comparison at
`mid` extends either side up to `mid` -/
theorem bisectRightLoop_spec (a : List Int) (x : Int) (hs : SortedLt a) :
    ∀ fuel lo hi, hi - lo ≤ fuel → lo ≤ hi → hi ≤ a.length →
      (∀ i, i < lo → a.getD i 0 ≤ x) → (∀ i, hi ≤ i → i < a.length → x < a.getD i 0) →
      bisectRightLoop a x fuel lo hi ≤ a.length ∧
      (∀ i, i < bisectRightLoop a x fuel lo hi → a.getD i 0 ≤ x) ∧
      (∀ i, bisectRightLoop a x fuel lo hi ≤ i → i < a.length → x < a.getD i 0) := by
  intro fuel
  induction fuel with
  | zero =>
    intro lo hi hf hle hlen h1 h2
    obtain rfl : lo = hi := by omega
    exact ⟨hlen, h1, h2⟩
  | succ f ih =>
    intro lo hi hf hle hlen h1 h2
    rw [bisectRightLoop]
    by_cases hlt : lo < hi
    · rw [if_pos hlt]
      have hm : (lo + hi) / 2 < a.length := by omega
      by_cases hx : x < a.getD ((lo + hi) / 2) 0
      · rw [if_pos hx]
        exact ih lo ((lo + hi) / 2) (by omega) (by omega) (by omega) h1
          (fun i hi1 hi2 => Int.lt_of_lt_of_le hx (hs.le hi1 hi2))
      · rw [if_neg hx]
        exact ih ((lo + hi) / 2 + 1) hi (by omega) (by omega) hlen
          (fun i hi1 => Int.le_trans (hs.le (Nat.le_of_lt_succ hi1) hm) (Int.not_lt.1 hx)) h2
    · rw [if_neg hlt]
      obtain rfl : lo = hi := by omega
      exact ⟨hlen, h1, h2⟩

/-- on a strictly increasing list `bisect_right(a, x)` is the number of elements `≤ x` -/
theorem bisectRight_spec (a : List Int) (x : Int) (hs : SortedLt a) :
    bisectRight a x ≤ a.length ∧
    (∀ i, i < bisectRight a x → a.getD i 0 ≤ x) ∧
    (∀ i, bisectRight a x ≤ i → i < a.length → x < a.getD i 0) := by
  unfold bisectRight
  exact bisectRightLoop_spec a x hs a.length 0 a.length (by omega) (by omega) (by omega)
    (by intro i hi; omega) (by intro i h1 h2; omega)

/-! ### the canonical sequence -/

theorem canon_pred {step : Seg σ → Option (σ × Int)} {seg0 : Seg σ} {k : Nat} {b : Seg σ}
    (h : canon step seg0 (k + 1) = some b) :
    ∃ a, canon step seg0 k = some a ∧ nextSeg step a = some b := by
  simp only [canon] at h
  cases hc : canon step seg0 k with
  | none => simp [hc] at h
  | some a => simp only [hc] at h; exact ⟨a, rfl, h⟩

theorem canon_succ {step : Seg σ → Option (σ × Int)} {seg0 : Seg σ} {k : Nat} {a b : Seg σ}
    (ha : canon step seg0 k = some a) (hn : nextSeg step a = some b) :
    canon step seg0 (k + 1) = some b := by
  simp only [canon, ha, hn]

theorem nextSeg_spec {step : Seg σ → Option (σ × Int)} (hinc : Incr step) {a b : Seg σ}
    (h : nextSeg step a = some b) : b.xa = a.xb ∧ a.xb < b.xb := by
  unfold nextSeg at h
  cases hs : step a with
  | none => simp [hs] at h
  | some p =>
    obtain ⟨ser, xb⟩ := p
    simp only [hs, Option.some.injEq] at h
    subst h
    exact ⟨rfl, hinc a ser xb hs⟩

theorem canon_xa_lt_xb {step : Seg σ → Option (σ × Int)} (hinc : Incr step) {seg0 : Seg σ}
    (h1 : seg0.xa < seg0.xb) : ∀ k a, canon step seg0 k = some a → a.xa < a.xb := by
  intro k
  cases k with
  | zero => intro a h; simp only [canon, Option.some.injEq] at h; subst h; exact h1
  | succ k =>
    intro a h
    obtain ⟨p, _, hn⟩ := canon_pred h
    have := nextSeg_spec hinc hn
    omega

/-- the canonical segments are laid end to end, left to right -/
theorem canon_mono {step : Seg σ → Option (σ × Int)} (hinc : Incr step) {seg0 : Seg σ} :
    ∀ k j a b, j < k → canon step seg0 j = some a → canon step seg0 k = some b →
      a.xb ≤ b.xa ∧ a.xb < b.xb := by
  intro k
  induction k with
  | zero => intro j a b h; omega
  | succ k ih =>
    intro j a b hjk ha hb
    obtain ⟨p, hp, hn⟩ := canon_pred hb
    have hs := nextSeg_spec hinc hn
    by_cases he : j = k
    · subst he
      rw [hp] at ha
      cases ha
      omega
    · have := ih j a p (by omega) ha hp
      omega

/-! ### consequences of the invariant -/

theorem Inv.len_bounds {step : Seg σ → Option (σ × Int)} {x0 : Int} {seg0 : Seg σ} {s : State σ}
    (h : Inv step x0 seg0 s) : s.bounds.length = s.data.length + 1 := by
  rw [h.bounds]; simp

theorem Inv.pos {step : Seg σ → Option (σ × Int)} {x0 : Int} {seg0 : Seg σ} {s : State σ}
    (h : Inv step x0 seg0 s) : 0 < s.data.length := by
  have := h.ne
  cases hd : s.data with
  | nil => exact absurd hd this
  | cons a l => simp

theorem Inv.get {step : Seg σ → Option (σ × Int)} {x0 : Int} {seg0 : Seg σ} {s : State σ}
    (h : Inv step x0 seg0 s) {k : Nat} (hk : k < s.data.length) :
    ∃ sg, s.data[k]? = some sg ∧ canon step seg0 k = some sg := by
  have := h.seq k hk
  refine ⟨s.data[k], ?_, ?_⟩
  · simp [hk]
  · rw [← this]; simp [hk]

theorem Inv.bound_succ {step : Seg σ → Option (σ × Int)} {x0 : Int} {seg0 : Seg σ} {s : State σ}
    (h : Inv step x0 seg0 s) {k : Nat} {sg : Seg σ} (hk : s.data[k]? = some sg) :
    s.bounds.getD (k + 1) 0 = sg.xb := by
  rw [h.bounds]
  simp [List.getD, hk]

theorem Inv.bound_xa {step : Seg σ → Option (σ × Int)} (hinc : Incr step) {x0 : Int} {seg0 : Seg σ}
    (h0 : seg0.xa = x0) {s : State σ}
    (h : Inv step x0 seg0 s) {k : Nat} {sg : Seg σ} (hk : s.data[k]? = some sg) :
    s.bounds.getD k 0 = sg.xa := by
  have hlt : k < s.data.length := (List.getElem?_eq_some_iff.1 hk).elim fun h _ => h
  cases k with
  | zero =>
    have := h.seq 0 hlt
    rw [hk] at this
    simp only [canon, Option.some.injEq] at this
    subst this
    rw [h.bounds]; simp [h0]
  | succ k =>
    obtain ⟨p, hp1, hp2⟩ := h.get (k := k) (by omega)
    have hc := h.seq (k + 1) hlt
    rw [hk] at hc
    obtain ⟨q, hq1, hq2⟩ := canon_pred hc.symm
    rw [hp2] at hq1
    cases hq1
    have := nextSeg_spec hinc hq2
    rw [h.bound_succ hp1]
    omega

theorem Inv.sorted {step : Seg σ → Option (σ × Int)} (hinc : Incr step) {x0 : Int} {seg0 : Seg σ}
    (h0 : seg0.xa = x0) (h1 : x0 < seg0.xb) {s : State σ} (h : Inv step x0 seg0 s) :
    SortedLt s.bounds := by
  intro i j hij hj
  rw [h.len_bounds] at hj
  obtain ⟨a, ha1, ha2⟩ := h.get (k := i) (by omega)
  obtain ⟨b, hb1, hb2⟩ := h.get (k := j - 1) (by omega)
  have e1 := h.bound_xa hinc h0 ha1
  have e2 := h.bound_succ hb1
  have hj' : j - 1 + 1 = j := by omega
  rw [hj'] at e2
  rw [e1, e2]
  have hax := canon_xa_lt_xb hinc (by omega : seg0.xa < seg0.xb) i a ha2
  by_cases he : i = j - 1
  · subst he
    rw [ha2] at hb2; cases hb2
    exact hax
  · have := canon_mono hinc (j - 1) i a b (by omega) ha2 hb2
    omega

theorem sortedLt_pairwise {a : List Int} (h : SortedLt a) : a.Pairwise (· < ·) := by
  rw [List.pairwise_iff_getElem]
  intro i j hi hj hij
  have := h i j hij hj
  simpa [List.getD, hi, hj] using this

theorem inv_init {step : Seg σ → Option (σ × Int)} (x0 : Int) (seg0 : Seg σ) :
    Inv step x0 seg0 (init x0 seg0) := by
  refine ⟨by simp [init], ?_, by simp [init]⟩
  intro k hk
  simp only [init, List.length_singleton] at hk
  have : k = 0 := by omega
  subst this
  simp [init, canon]

theorem pyGet_pred {α : Type} (l : List α) (n : Nat) (hn : 1 ≤ n) :
    pyGet l ((n : Int) - 1) = l[n - 1]? := by
  unfold pyGet
  have h : (0 : Int) ≤ (n : Int) - 1 := by omega
  have h2 : ((n : Int) - 1).toNat = n - 1 := by omega
  simp only [h, if_true, h2]

/-! ### the cached branch -/

/-- With the invariant, the lookup `n = bisect(boundaries, x)`, `n < len` selects the canonical
segment `n-1`, and `xa ≤ x < xb`. -/
theorem cached_spec {step : Seg σ → Option (σ × Int)} (hinc : Incr step) {x0 : Int} {seg0 : Seg σ}
    (h0 : seg0.xa = x0) (h1 : x0 < seg0.xb) {s : State σ} (h : Inv step x0 seg0 s) {x : Int}
    (hx : x0 ≤ x) (hn : bisectRight s.bounds x < s.bounds.length) :
    1 ≤ bisectRight s.bounds x ∧
    ∃ sg, pyGet s.data ((bisectRight s.bounds x : Int) - 1) = some sg ∧
      canon step seg0 (bisectRight s.bounds x - 1) = some sg ∧
      bisectRight s.bounds x - 1 < s.data.length ∧ sg.xa ≤ x ∧ x < sg.xb := by
  obtain ⟨b1, b2, b3⟩ := bisectRight_spec s.bounds x (h.sorted hinc h0 h1)
  have hlen := h.len_bounds
  have hpos : 1 ≤ bisectRight s.bounds x := by
    rcases Nat.eq_zero_or_pos (bisectRight s.bounds x) with hz | hz
    · have := b3 0 (by omega) (by omega)
      rw [h.bounds] at this
      simp at this
      omega
    · exact hz
  refine ⟨hpos, ?_⟩
  obtain ⟨sg, hs1, hs2⟩ := h.get (k := bisectRight s.bounds x - 1) (by omega)
  refine ⟨sg, ?_, hs2, by omega, ?_, ?_⟩
  · rw [pyGet_pred _ _ hpos]; exact hs1
  · have := b2 (bisectRight s.bounds x - 1) (by omega)
    rw [h.bound_xa hinc h0 hs1] at this
    exact this
  · have := b3 (bisectRight s.bounds x) (by omega) hn
    have e := h.bound_succ hs1
    have hj : bisectRight s.bounds x - 1 + 1 = bisectRight s.bounds x := by omega
    rw [hj] at e
    omega

theorem fallthrough_last {step : Seg σ → Option (σ × Int)} (hinc : Incr step) {x0 : Int}
    {seg0 : Seg σ} (h0 : seg0.xa = x0) (h1 : x0 < seg0.xb) {s : State σ} (h : Inv step x0 seg0 s)
    {x : Int} (hn : ¬ bisectRight s.bounds x < s.bounds.length) :
    ∀ last, s.data.getLast? = some last → last.xb ≤ x := by
  intro last hl
  obtain ⟨b1, b2, b3⟩ := bisectRight_spec s.bounds x (h.sorted hinc h0 h1)
  have hlen := h.len_bounds
  have hp := h.pos
  rw [List.getLast?_eq_getElem?] at hl
  have := b2 (s.data.length - 1 + 1) (by omega)
  rw [h.bound_succ hl] at this
  exact this

/-! ### the extension loop -/

theorem inv_snoc {step : Seg σ → Option (σ × Int)} {x0 : Int} {seg0 : Seg σ} {s : State σ}
    (h : Inv step x0 seg0 s) {last sg : Seg σ} (hl : s.data.getLast? = some last)
    (hn : nextSeg step last = some sg) :
    Inv step x0 seg0 ⟨s.bounds ++ [sg.xb], s.data ++ [sg]⟩ := by
  have hp := h.pos
  rw [List.getLast?_eq_getElem?] at hl
  have hc : canon step seg0 (s.data.length - 1) = some last := by
    rw [← h.seq _ (by omega)]; exact hl
  have hnew : canon step seg0 s.data.length = some sg := by
    have := canon_succ hc hn
    have e : s.data.length - 1 + 1 = s.data.length := by omega
    rw [e] at this; exact this
  refine ⟨by simp, ?_, ?_⟩
  · intro k hk
    simp only [List.length_append, List.length_singleton] at hk
    by_cases hk' : k < s.data.length
    · simp only [List.getElem?_append_left hk']
      exact h.seq k hk'
    · have : k = s.data.length := by omega
      subst this
      simp [hnew]
  · simp [h.bounds]

/-- The `while 1` loop: whatever the fuel and the fault position, the invariant is preserved, the
cached lists are only extended at the end, and a returned segment is the freshly appended last
canonical segment, the first one with `x ≤ xb`. -/
theorem extend_spec {step : Seg σ → Option (σ × Int)} (hinc : Incr step) {x0 : Int} {seg0 : Seg σ}
    (x : Int) :
    ∀ fuel fault (s : State σ), Inv step x0 seg0 s →
      (∀ last, s.data.getLast? = some last → last.xb ≤ x) →
      Inv step x0 seg0 (extend step x fuel fault s).1 ∧
      (∃ l, (extend step x fuel fault s).1.data = s.data ++ l) ∧
      (extend step x fuel fault s).2 ≠ .indexError ∧
      (∀ sg, (extend step x fuel fault s).2 = .seg sg →
        (extend step x fuel fault s).1.data.getLast? = some sg ∧
        s.data.length < (extend step x fuel fault s).1.data.length ∧
        sg.xa ≤ x ∧ x ≤ sg.xb ∧
        (sg.xa < x ∨ (extend step x fuel fault s).1.data.length = s.data.length + 1) ∧
        (∀ last, s.data.getLast? = some last → last.xb < x → sg.xa < x)) := by
  intro fuel
  induction fuel with
  | zero =>
    intro fault s h hl
    simp only [extend]
    exact ⟨h, ⟨[], by simp⟩, by simp, by intro sg hsg; cases hsg⟩
  | succ f ih =>
    intro fault s h hl
    simp only [extend]
    cases hlast : s.data.getLast? with
    | none =>
      exfalso
      have := h.ne
      rw [List.getLast?_eq_none_iff] at hlast
      exact this hlast
    | some last =>
      simp only []
      by_cases hf : fault = some 0
      · simp only [hf, if_true]
        exact ⟨h, ⟨[], by simp⟩, by simp, by intro sg hsg; cases hsg⟩
      · simp only [hf, if_false]
        cases hn : nextSeg step last with
        | none =>
          simp only []
          exact ⟨h, ⟨[], by simp⟩, by simp, by intro sg hsg; cases hsg⟩
        | some sg =>
          simp only []
          have hinv := inv_snoc h hlast hn
          have hsp := nextSeg_spec hinc hn
          have hlx := hl last hlast
          by_cases hx : x ≤ sg.xb
          · simp only [hx, if_true]
            refine ⟨hinv, ⟨[sg], rfl⟩, by simp, ?_⟩
            intro sg' hsg'
            cases hsg'
            exact ⟨by simp, by simp, by omega, hx, Or.inr (by simp), fun l hl _ => by cases hl; omega⟩
          · simp only [hx, if_false]
            have hl' : ∀ l', (s.data ++ [sg]).getLast? = some l' → l'.xb ≤ x := by
              intro l' hl'
              simp only [List.getLast?_append, List.getLast?_singleton, Option.some_or,
                Option.some.injEq] at hl'
              subst hl'; omega
            obtain ⟨i1, ⟨l, i2⟩, i3, i4⟩ := ih (fault.map (· - 1)) ⟨s.bounds ++ [sg.xb], s.data ++ [sg]⟩ hinv hl'
            refine ⟨i1, ⟨sg :: l, by rw [i2]; simp⟩, i3, ?_⟩
            intro sg' hsg'
            -- the segment returned later starts at the end of one appended by this call, left of `x`
            obtain ⟨j1, j2, j3, j4, _, j6⟩ := i4 sg' hsg'
            have hlt : sg'.xa < x := j6 sg (by simp) (by omega)
            simp only [List.length_append, List.length_singleton] at j2
            exact ⟨j1, by omega, j3, j4, Or.inl hlt, fun _ _ _ => hlt⟩

/-- enough fuel: no `outOfFuel` when every boundary step is at least 1 (strictly increasing on `Int`) -/
theorem extend_fuel_enough {step : Seg σ → Option (σ × Int)} (hinc : Incr step) (x : Int) :
    ∀ fuel fault (s : State σ) last, s.data.getLast? = some last →
      (x - last.xb).toNat < fuel →
      (extend step x fuel fault s).2 ≠ .outOfFuel := by
  intro fuel
  induction fuel with
  | zero => intro fault s last _ h; omega
  | succ f ih =>
    intro fault s last hlast hf
    simp only [extend, hlast]
    by_cases hfa : fault = some 0
    · simp [hfa]
    · simp only [hfa, if_false]
      cases hn : nextSeg step last with
      | none => simp
      | some sg =>
        simp only []
        have hsp := nextSeg_spec hinc hn
        by_cases hx : x ≤ sg.xb
        · simp [hx]
        · simp only [hx, if_false]
          exact ih _ _ sg (by simp) (by omega)

theorem extend_ne_valueError (step : Seg σ → Option (σ × Int)) (x : Int) :
    ∀ fuel fault (s : State σ), (extend step x fuel fault s).2 ≠ .valueError := by
  intro fuel
  induction fuel with
  | zero => intro fault s; simp [extend]
  | succ f ih =>
    intro fault s
    simp only [extend]
    split
    · simp
    · split
      · simp
      · split
        · simp
        · split
          · simp
          · exact ih _ _

/-! ### one request, histories -/

theorem getSeries_lt {step : Seg σ → Option (σ × Int)} {x0 x : Int} (hx : x < x0) (fuel : Nat)
    (fault : Option Nat) (s : State σ) : getSeries step x0 fuel fault s x = (s, .valueError) := by
  unfold getSeries; rw [if_pos hx]

theorem getSeries_cached {step : Seg σ → Option (σ × Int)} {x0 x : Int} (hx : ¬ x < x0) (fuel : Nat)
    (fault : Option Nat) {s : State σ} (hn : bisectRight s.bounds x < s.bounds.length) {sg : Seg σ}
    (hg : pyGet s.data ((bisectRight s.bounds x : Int) - 1) = some sg) :
    getSeries step x0 fuel fault s x = (s, .seg sg) := by
  unfold getSeries; simp only [hx, hn, if_false, if_true, hg]

theorem getSeries_extend {step : Seg σ → Option (σ × Int)} {x0 x : Int} (hx : ¬ x < x0) (fuel : Nat)
    (fault : Option Nat) {s : State σ} (hn : ¬ bisectRight s.bounds x < s.bounds.length) :
    getSeries step x0 fuel fault s x = extend step x fuel fault s := by
  unfold getSeries; simp only [hx, hn, if_false]

/-- `get_series` preserves the invariant, only appends to the cache, never raises IndexError, and a
returned segment is canonical and contains `x`. -/
theorem getSeries_spec {step : Seg σ → Option (σ × Int)} (hinc : Incr step) {x0 : Int} {seg0 : Seg σ}
    (h0 : seg0.xa = x0) (h1 : x0 < seg0.xb) {s : State σ} (h : Inv step x0 seg0 s)
    (fuel : Nat) (fault : Option Nat) (x : Int) :
    Inv step x0 seg0 (getSeries step x0 fuel fault s x).1 ∧
    (∃ l, (getSeries step x0 fuel fault s x).1.data = s.data ++ l) ∧
    (getSeries step x0 fuel fault s x).2 ≠ .indexError ∧
    ((getSeries step x0 fuel fault s x).2 = .valueError ↔ x < x0) ∧
    (∀ sg, (getSeries step x0 fuel fault s x).2 = .seg sg →
      ∃ k, canon step seg0 k = some sg ∧ sg.xa ≤ x ∧ x ≤ sg.xb ∧
        ((getSeries step x0 fuel fault s x).1 = s ∧ k < s.data.length ∧ x < sg.xb ∨
         s.data.length ≤ k ∧ (getSeries step x0 fuel fault s x).1.data.length = k + 1 ∧
           (getSeries step x0 fuel fault s x).1.data.getLast? = some sg ∧
           (sg.xa < x ∨ k = s.data.length))) := by
  by_cases hx : x < x0
  · rw [getSeries_lt hx]
    exact ⟨h, ⟨[], by simp⟩, by simp, by simp [hx], by intro sg hsg; cases hsg⟩
  · by_cases hn : bisectRight s.bounds x < s.bounds.length
    · obtain ⟨hpos, sg, c1, c2, c3, c4, c5⟩ := cached_spec hinc h0 h1 h (by omega) hn
      rw [getSeries_cached hx fuel fault hn c1]
      refine ⟨h, ⟨[], by simp⟩, by simp, by simp [hx], ?_⟩
      intro sg' hsg'
      cases hsg'
      exact ⟨_, c2, c4, by omega, Or.inl ⟨by trivial, c3, c5⟩⟩
    · rw [getSeries_extend hx fuel fault hn]
      obtain ⟨e1, e2, e3, e4⟩ := extend_spec hinc (x0 := x0) (seg0 := seg0) x fuel fault s h
        (fallthrough_last hinc h0 h1 h hn)
      refine ⟨e1, e2, e3, ?_, ?_⟩
      · constructor
        · intro hv; exact absurd hv (extend_ne_valueError step x fuel fault s)
        · intro hh; first | exact absurd hh hx | exact hh.elim
      · intro sg hsg
        obtain ⟨j1, j2, j3, j4, j5, _⟩ := e4 sg hsg
        have hp := e1.pos
        refine ⟨(extend step x fuel fault s).1.data.length - 1, ?_, j3, j4, Or.inr ⟨by omega, by omega, j1, ?_⟩⟩
        · rw [← e1.seq _ (by omega), ← List.getLast?_eq_getElem?]; exact j1
        · rcases j5 with j5 | j5
          · exact Or.inl j5
          · right; omega

theorem inv_after {step : Seg σ → Option (σ × Int)} (hinc : Incr step) {x0 : Int} {seg0 : Seg σ}
    (h0 : seg0.xa = x0) (h1 : x0 < seg0.xb) :
    ∀ (h : List Req) (s : State σ), Inv step x0 seg0 s → Inv step x0 seg0 (after step x0 s h) := by
  intro h
  induction h with
  | nil => intro s hs; exact hs
  | cons r rs ih =>
    intro s hs
    simp only [after]
    exact ih _ (getSeries_spec hinc h0 h1 hs r.fuel r.fault r.x).1

theorem inv_prefix {step : Seg σ → Option (σ × Int)} {x0 : Int} {seg0 : Seg σ} {s t : State σ}
    (hs : Inv step x0 seg0 s) (ht : Inv step x0 seg0 t) (hle : s.data.length ≤ t.data.length) :
    s.data = t.data.take s.data.length ∧ s.bounds = t.bounds.take s.bounds.length := by
  have hd : s.data = t.data.take s.data.length := by
    apply List.ext_getElem?
    intro k
    by_cases hk : k < s.data.length
    · rw [List.getElem?_take_of_lt hk, hs.seq k hk, ht.seq k (by omega)]
    · rw [List.getElem?_eq_none (by omega), List.getElem?_eq_none (by simp; omega)]
  refine ⟨hd, ?_⟩
  rw [hs.len_bounds, hs.bounds, ht.bounds, List.take_succ_cons, ← List.map_take, ← hd]

theorem getSeries_x0 {step : Seg σ → Option (σ × Int)} (hinc : Incr step) {x0 : Int} {seg0 : Seg σ}
    (h0 : seg0.xa = x0) (h1 : x0 < seg0.xb) {s : State σ} (h : Inv step x0 seg0 s)
    (fuel : Nat) (fault : Option Nat) :
    getSeries step x0 fuel fault s x0 = (s, .seg seg0) := by
  have hlen := h.len_bounds
  have hp := h.pos
  obtain ⟨b1, b2, b3⟩ := bisectRight_spec s.bounds x0 (h.sorted hinc h0 h1)
  obtain ⟨a, ha1, ha2⟩ := h.get (k := 0) hp
  simp only [canon, Option.some.injEq] at ha2
  subst ha2
  have hb1 : s.bounds.getD 1 0 = seg0.xb := h.bound_succ ha1
  have hn : bisectRight s.bounds x0 = 1 := by
    rcases Nat.lt_trichotomy (bisectRight s.bounds x0) 1 with hlt | heq | hgt
    · have := b3 0 (by omega) (by omega)
      rw [h.bounds] at this
      simp at this
    · exact heq
    · have := b2 1 hgt
      omega
  refine getSeries_cached (by omega) fuel fault (by omega) ?_
  rw [hn, pyGet_pred _ 1 (by omega)]; exact ha1

theorem extend_total {step : Seg σ → Option (σ × Int)} (htot : ∀ s, step s ≠ none) (x : Int) :
    ∀ fuel (s : State σ), s.data ≠ [] →
      (∃ sg, (extend step x fuel none s).2 = .seg sg) ∨ (extend step x fuel none s).2 = .outOfFuel := by
  intro fuel
  induction fuel with
  | zero => intro s _; right; simp [extend]
  | succ f ih =>
    intro s hne
    simp only [extend]
    cases hl : s.data.getLast? with
    | none => rw [List.getLast?_eq_none_iff] at hl; exact absurd hl hne
    | some last =>
      simp only []
      have hns : nextSeg step last ≠ none := by
        unfold nextSeg
        cases hs : step last with
        | none => exact absurd hs (htot last)
        | some p => simp
      cases hn : nextSeg step last with
      | none => exact absurd hn hns
      | some sg =>
        have hf : ¬ ((none : Option Nat) = some 0) := by simp
        simp only [hf, if_false]
        by_cases hx : x ≤ sg.xb
        · left; simp [hx]
        · simp only [hx, if_false, Option.map_none]
          exact ih _ (by simp)

/-- a call `f(x)`, `x ≥ x0`, that is not aborted and is given the fuel `fuelFor` returns a segment
(when `ode_taylor` never raises and strictly advances) -/
theorem getSeries_answers {step : Seg σ → Option (σ × Int)} (hinc : Incr step)
    (htot : ∀ s, step s ≠ none) {x0 : Int} {seg0 : Seg σ}
    (h0 : seg0.xa = x0) (h1 : x0 < seg0.xb) {s : State σ} (h : Inv step x0 seg0 s) {x : Int}
    (hx : x0 ≤ x) :
    ∃ sg, (getSeries step x0 (fuelFor s x) none s x).2 = .seg sg := by
  have hnx : ¬ x < x0 := by omega
  by_cases hn : bisectRight s.bounds x < s.bounds.length
  · obtain ⟨_, sg, c1, _⟩ := cached_spec hinc h0 h1 h hx hn
    exact ⟨sg, by rw [getSeries_cached hnx _ none hn c1]⟩
  · rw [getSeries_extend hnx _ none hn]
    rcases extend_total htot x (fuelFor s x) s h.ne with hsg | hof
    · exact hsg
    · exfalso
      cases hl : s.data.getLast? with
      | none => rw [List.getLast?_eq_none_iff] at hl; exact h.ne hl
      | some last =>
        refine extend_fuel_enough hinc x (fuelFor s x) none s last hl ?_ hof
        simp only [fuelFor, hl]
        omega

theorem canon_unique {step : Seg σ → Option (σ × Int)} (hinc : Incr step) {seg0 : Seg σ}
    {j k : Nat} {a b : Seg σ} {x : Int}
    (ha : canon step seg0 j = some a) (hb : canon step seg0 k = some b)
    (ha1 : a.xa ≤ x) (ha2 : x ≤ a.xb) (hb1 : b.xa ≤ x) (hb2 : x ≤ b.xb) :
    a = b ∨ (a.xb = x ∧ b.xa = x) ∨ (b.xb = x ∧ a.xa = x) := by
  rcases Nat.lt_trichotomy j k with hlt | heq | hgt
  · have := canon_mono hinc k j a b hlt ha hb
    right; left; omega
  · subst heq; rw [ha] at hb; cases hb; left; rfl
  · have := canon_mono hinc j k b a hgt hb ha
    right; right; omega

end OdeSeg
end Mp

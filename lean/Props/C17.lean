/-
  Props/C17.lean — "Mathematical constants are accurate at every precision and history":
  the cache / rounding-LOGIC half (constant_memo + def_mpf_constant).  The accuracy of the
  fixed-point algorithms themselves (pi_fixed, …) is a hypothesis here (`ShiftStable`, resp. the
  enclosure `c·2^wp − 1 < v ≤ c·2^wp`) and is discharged elsewhere per constant.
-/
import MpProofs.Cache
import MpProofs.CacheNormalize

namespace Mp
open Mp.Cache

/-- floors compose: `F P = ⌊c·2^P⌋` is shift-stable for every rational `c`. -/
theorem floor_is_shiftStable (c : ℚ) : ShiftStable (fun P => ⌊c * (2 : ℚ) ^ P⌋) :=
  floor_shiftStable c

/-- If the fixed-point function is shift-stable (`F P >> (P-Q) = F Q`, e.g. an exact floor), then
`g(prec)` returns `F prec` after EVERY history of requests — ascending, descending, repeated,
aborted — i.e. the memo cache is invisible. -/
theorem memo_history_independent (F : Nat → Int) (hF : ShiftStable F) (np : Nat → Nat)
    (hnp : ∀ p, p ≤ np p) (h : List (Nat × Bool)) (prec : Nat) :
    (memoReq F np (memoAfter F np memoInit h) prec false).2 = .ok (F prec) := by
  obtain ⟨P, hle, _, e⟩ := memoReq_answer F np hnp h _ prec (memoAfter_invH F np h)
  rw [e, hF P prec hle]

/-- the instance for a true floor of a rational (or, by density, real) constant -/
theorem memo_history_independent_floor (c : ℚ) (np : Nat → Nat) (hnp : ∀ p, p ≤ np p)
    (h : List (Nat × Bool)) (prec : Nat) :
    (memoReq (fun P => ⌊c * (2 : ℚ) ^ P⌋) np (memoAfter (fun P => ⌊c * (2 : ℚ) ^ P⌋) np memoInit h)
      prec false).2 = .ok ⌊c * (2 : ℚ) ^ prec⌋ :=
  memo_history_independent _ (floor_shiftStable c) np hnp h prec

/-- non-vacuity: a concrete run (c = 22/7, request 200 bits then 30 bits: served from the 220-bit
cache entry, equal to the direct floor) -/
example :
    (memoReq (fun P => (22 * 2 ^ P : Int) / 7) newprec
      (memoAfter (fun P => (22 * 2 ^ P : Int) / 7) newprec memoInit [(200, false)]) 30 false).2
      = .ok ((22 * 2 ^ 30 : Int) / 7) := by decide +kernel

/-- The mpf constant `mpf_c(prec, rnd)` (= `def_mpf_constant` around a `constant_memo`) does not
depend on the history when the fixed-point function is shift-stable and non-negative. -/
theorem mpfConstant_history_independent (F : Nat → Int) (hF : ShiftStable F) (h0 : ∀ P, 0 ≤ F P)
    (np : Nat → Nat) (hnp : ∀ p, p ≤ np p) (h : List (Nat × Bool)) (prec : Nat) (rnd : Rnd) :
    (mpfConstant F np (memoAfter F np memoInit h) prec rnd false).2 =
      .ok (constFinal (F (prec + 20)).toNat prec rnd) := by
  have e := memo_history_independent F hF np hnp h (prec + 20)
  unfold mpfConstant
  rcases hx : memoReq F np (memoAfter F np memoInit h) (prec + 20) false with ⟨s', r⟩
  rw [hx] at e
  subst e
  simp [Int.not_lt.mpr (h0 (prec + 20))]

/-- Directed rounding of a constant is on the correct side.  If the working-precision value `v`
satisfies `c·2^wp − 1 < v ≤ c·2^wp` (`wp = prec + 20`; i.e. `v` is the floor, which is what the
`+1` in `def_mpf_constant` assumes), then the floor-mode result is `≤ c` and the ceiling-mode result
is `≥ c`.

The two one-sided rounding facts about `normalize` with a positive mantissa that this needs,
`val (normalize 0 m e (bitcount m) p .f) ≤ m·2^e ≤ val (normalize 0 m e (bitcount m) p .c)`, are
proved in MpProofs/CacheNormalize.lean (`normalize_floor_le`, `normalize_ceil_ge`). -/
theorem constant_directed (c : ℚ) (v prec : Nat)
    (hp : 0 < prec) (h1 : c * (2 : ℚ) ^ (prec + 20) - 1 < (v : ℚ))
    (h2 : (v : ℚ) ≤ c * (2 : ℚ) ^ (prec + 20)) :
    val (constFinal v prec .f) ≤ c ∧ c ≤ val (constFinal v prec .c) :=
  ⟨constFinal_floor_le normalize_floor_le c v prec hp h2, constFinal_ceil_ge normalize_ceil_ge c v prec hp h1⟩

/-- the same for `round_down` / `round_up` (the constant is positive) -/
theorem constant_directed_du (c : ℚ) (v prec : Nat)
    (hp : 0 < prec) (h1 : c * (2 : ℚ) ^ (prec + 20) - 1 < (v : ℚ))
    (h2 : (v : ℚ) ≤ c * (2 : ℚ) ^ (prec + 20)) :
    val (constFinal v prec .d) ≤ c ∧ c ≤ val (constFinal v prec .u) := by
  rw [constFinal_d_eq_f, constFinal_u_eq_c]
  exact constant_directed c v prec hp h1 h2

/-- non-vacuity of the enclosure hypothesis: c = 22/7, prec = 10, v = ⌊c·2^30⌋ = 3374617161 -/
example : (22 / 7 : ℚ) * (2 : ℚ) ^ (10 + 20) - 1 < ((3374617161 : Nat) : ℚ) ∧
    ((3374617161 : Nat) : ℚ) ≤ (22 / 7 : ℚ) * (2 : ℚ) ^ (10 + 20) := by norm_num

/-- … and the two results on that input: 3216/1024 ≤ 22/7 ≤ 3220/1024 -/
example : constFinal 3374617161 10 .f = ⟨0, 201, -6, 8⟩ ∧ constFinal 3374617161 10 .c = ⟨0, 805, -8, 10⟩ := by
  decide +kernel

/-- the constant is positive, so `round_down` behaves as `round_floor` and `round_up` as
`round_ceiling` (the `v += 1` test `rnd in (round_up, round_ceiling)` treats them alike). -/
theorem constant_down_eq_floor (v prec : Nat) : constFinal v prec .d = constFinal v prec .f :=
  constFinal_d_eq_f v prec

theorem constant_up_eq_ceiling (v prec : Nat) : constFinal v prec .u = constFinal v prec .c :=
  constFinal_u_eq_c v prec

end Mp

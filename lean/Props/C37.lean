/-
  Props/C37.lean — "Pure-Python and GMP backends give identical core results": what CAN be decided
  without a gmpy2 installation.

  The claim of the property (bit-identical results in two processes) is NOT decided here: the GMP side
  is trusted to its documentation.  What is proved: at every place where `BACKEND == 'gmpy'`
  substitutes a GMP routine (the `ast` table harness/backend_sites.json, regenerated and compared on
  every run), the pure-Python implementation computes the function that the GMP routine is documented
  to compute — so the backends can differ there only if GMP violates its documentation:

    site (libintmath.py / libmpf.py)           gmpy side (documented)            pure-Python side
    bitcount  = gmpy.bit_length / numdigits(2)  bit length                        python_bitcount_eq
    trailing  = mpz.bit_scan1 / scan1           index of lowest set bit           python_trailing_eq
    isqrt_small = isqrt = gmpy.isqrt            ⌊√x⌋                              isqrt_small_python_eq
    sqrtrem   = gmpy.isqrt_rem                  (⌊√x⌋, x − ⌊√x⌋²)                 sqrtrem_python_eq
    ifac      = gmpy.fac                        n!                                ifac_python_eq
    mpf_mul   = gmpy_mpf_mul (plain Python)     —                                 mpf_mul_variants_eq
    mpf_mul_int = gmpy_mpf_mul_int              —                                 mpf_mul_int_variants_eq
    _normalize = gmpy._mpmath_normalize         correctly rounded canonical mpf   normalize_python_spec
    _normalize1 = gmpy._mpmath_normalize        (same C function for both)        normalize1_python_eq
    from_man_exp = gmpy._mpmath_create          correctly rounded canonical mpf   from_man_exp_python_spec
    numeral   = gmpy.digits                     decimal digits                    T1 only (numeral_digits: digits)
  NOT covered (listed as such in the table): `isqrt_fast` (Python: approximate Newton iteration, may be
  1 below ⌊√x⌋; gmpy: exact) and the cut-offs `EXP_COSH_CUTOFF`, `COS_SIN_CACHE_PREC` (different algorithm
  choice between 400/200 and 600/400 bits) — both only reach results that are not documented as correctly
  rounded; and the `MPZ` integer type itself (gmpy.mpz arithmetic is trusted).
-/
import MpProofs.Backend
import MpProofs.Arith
import MpProofs.Div
import MpProofs.Normalize
import Props.C25

namespace Mp
open Mp.Backend

/-- `python_bitcount(n)` is the bit length of `n` for every `n < 2^299` (no float involved), and for
larger `n` whenever the float step `est = int(math.log(n, 2))` satisfies `L − 6 ≤ est ≤ L + 4`
(`L` the true bit length; the exact value would be `L − 1`) — the `bctable` correction absorbs an
error of −5 … +5.  HYPOTHESIS about the float, not proved: validated by the harness against CPython
(2^k, 2^k±1, random mantissas up to 10^5 bits, the 299/300/301-bit boundary). -/
theorem python_bitcount_eq (n : Nat) (est : Int)
    (h : bitcount n < 300 ∨ (4 ≤ est ∧ est - 4 ≤ bitcount n ∧ (bitcount n : Int) ≤ est + 6)) :
    pythonBitcount n est = .ok (bitcount n) := by
  rcases h with h | ⟨h4, hlo, hhi⟩
  · exact pythonBitcount_small n est h
  · exact pythonBitcount_large n est h4 hlo (by omega)

/-- the hypothesis is satisfiable, and needed: an estimate 7 too small makes the real code fail
(`bctable` index out of range), one 6 too large silently returns a wrong count -/
example : pythonBitcount (2 ^ 400 + 12345) 400 = .ok 401 ∧ pythonBitcount (2 ^ 400) 396 = .ok 401 ∧
    pythonBitcount (2 ^ 400) 404 = .ok 401 ∧ pythonBitcount (2 ^ 400) 393 = .error .value ∧
    pythonBitcount (2 ^ 400) 406 = .ok 402 ∧ pythonBitcount 1023 0 = .ok 10 ∧
    pythonBitcount (2 ^ 299 - 1) 0 = .ok 299 := by decide +kernel

/-- `python_trailing(n)` is the number of trailing zero bits of `n` (0 for `n = 0`) for EVERY `n ≥ 0`:
byte table `small_trailing` (all 256 entries checked by evaluation) and the byte-skipping loop. -/
theorem python_trailing_eq (n : Nat) : pythonTrailing n = trailing n := by
  unfold pythonTrailing
  split
  · rename_i h; simp [h, trailing]
  rename_i h0
  simp only
  split
  · rename_i hz
    rw [smallTrailing_eq _ (Nat.mod_lt _ (by norm_num)), trailing_byte_nonzero hz]
  · rename_i hz
    have hz : n % 256 = 0 := by omega
    have hq : n / 256 ≠ 0 := by omega
    have hsh : n >>> 8 = n / 256 := by rw [Nat.shiftRight_eq_div_pow]
    have hb : bitcount (n / 256) ≤ bitcount n := bitcount_mono (Nat.div_le_self _ _)
    rw [hsh, trailingLoop_eq _ _ 8 hq hb, trailing_byte_zero h0 hz]
    omega

/-- …and `trailing` is the 2-adic valuation: `2^trailing n ∣ n` with an odd cofactor. -/
theorem python_trailing_spec (n : Nat) (hn : n ≠ 0) :
    2 ^ pythonTrailing n ∣ n ∧ (n / 2 ^ pythonTrailing n) % 2 = 1 := by
  rw [python_trailing_eq]; exact ⟨trailing_dvd n, trailing_odd hn⟩

example : pythonTrailing 0 = 0 ∧ pythonTrailing 0x300 = 8 ∧ pythonTrailing (5 * 2 ^ 67) = 67 := by
  decide +kernel

/-- `isqrt_small_python`: the division loop returns `⌊√x⌋` from any starting estimate `r0 ≥ ⌊√x⌋`
(the float estimate is a parameter; T1 checks that CPython's estimates are `≥ ⌊√x⌋`). -/
theorem isqrt_small_python_eq (x r0 : Nat) (hx : 0 < x) (hr : Nat.sqrt x ≤ r0) :
    isqrt_small x r0 = Nat.sqrt x :=
  isqrt_small_exact x r0 hx hr

/-- `sqrtrem_python` (large branch): `(⌊√x⌋, x − ⌊√x⌋²)` whenever `isqrt_fast_python(x) ≥ ⌊√x⌋ − 1`
(T1 checks this reach of `isqrt_fast_python` on structured inputs). -/
theorem sqrtrem_python_eq (x : Nat) (y0 : Int) (h : (Nat.sqrt x : Int) ≤ y0 + 1) :
    sqrtremLarge x y0 = ((Nat.sqrt x : Int), (x : Int) - (Nat.sqrt x : Int) * Nat.sqrt x) :=
  sqrtrem_exact x y0 h

/-- `ifac(n) = n!` after any call history (`gmpy.fac` is documented to return `n!`). -/
theorem ifac_python_eq (memo : IDict) (h : FacReach memo) (n : Int) (hn : 0 ≤ n) :
    ∃ memo', ifac n memo = .ok ((Nat.factorial n.toNat : Int), memo') ∧ FacReach memo' :=
  ifac_spec memo h n hn

/-- `python_mpf_mul` (fast bit-count update) and `gmpy_mpf_mul` (`bitcount(man)`) are the same
function on canonical finite operands: both are plain Python, both are modelled. -/
theorem mpf_mul_variants_eq {s t : Mpf} (hs : CanonFin s) (ht : CanonFin t) (prec : ℤ) (rnd : Rnd) :
    gmpy_mpf_mul s t prec rnd = mpf_mul s t prec rnd :=
  gmpy_mpf_mul_eq hs ht prec rnd

theorem mpf_mul_int_variants_eq {s : Mpf} (hs : CanonFin s) (n : ℤ) (prec : ℤ) (rnd : Rnd) :
    gmpy_mpf_mul_int s n prec rnd = mpf_mul_int s n prec rnd :=
  gmpy_mpf_mul_int_eq hs n prec rnd

/-- `_normalize` meets the contract of `gmpy._mpmath_normalize`: for sign ∈ {0,1}, any mantissa and
exponent, `prec ≥ 1`, any rounding mode and the exact bit count, the result is canonical, has at most
`prec` bits and is the correctly rounded value of `(-1)^sign · man · 2^exp`. -/
theorem normalize_python_spec {sign : Nat} (hs : sign ≤ 1) (man : Nat) (exp : Int) {prec : Int}
    (hp : 0 < prec) (rnd : Rnd) :
    RoundOK prec rnd ((-1 : ℚ) ^ sign * ((man : ℚ) * 2 ^ exp))
      (normalize sign man exp (bitcount man) prec rnd) :=
  normalize_spec hs man exp hp rnd

/-- under gmpy both `_normalize` and `_normalize1` are the one C function; in Python they agree on the
inputs `_normalize1` is specified for (odd mantissa) -/
theorem normalize1_python_eq (sign : Nat) {man : Nat} (hodd : man % 2 = 1) (exp : Int) (prec : Int)
    (rnd : Rnd) :
    normalize1 sign man exp (bitcount man) prec rnd = normalize sign man exp (bitcount man) prec rnd :=
  normalize1_eq_normalize sign hodd exp prec rnd

/-- `from_man_exp` meets the contract of `gmpy._mpmath_create` (`prec = 0`: exact). -/
theorem from_man_exp_python_spec (Z e : ℤ) {prec : ℤ} (hp : 0 ≤ prec) (rnd : Rnd) :
    RoundOK prec rnd ((Z : ℚ) * 2 ^ e) (from_man_exp Z e prec rnd) :=
  from_man_exp_spec Z e hp rnd

end Mp

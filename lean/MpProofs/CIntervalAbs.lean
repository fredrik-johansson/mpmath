/-
  MpProofs/CIntervalAbs.lean — `mpci_abs`: the modulus of a complex rectangle.
-/
import MpProofs.IntervalMore
import MpProofs.IntervalDiv

namespace Mp

theorem mpi_square_lower_nonneg {s : Mpi} (hs : FinIv s) : 0 ≤ val (mpi_square s).1 := by
  obtain ⟨ha, hb, _⟩ := hs
  unfold mpi_square
  simp only
  split
  · have r1 := mpf_mul_spec ha ha (le_refl 0) .f
    show 0 ≤ val (mpf_mul s.1 s.1 0 .f)
    rw [r1.exact]; exact mul_self_nonneg _
  · split
    · have r1 := mpf_mul_spec hb hb (le_refl 0) .f
      show 0 ≤ val (mpf_mul s.2 s.2 0 .f)
      rw [r1.exact]; exact mul_self_nonneg _
    · show 0 ≤ val fzero
      rw [val_fzero]

/-- **modulus of a rectangle, general branch**: `sqrt(x² + y²)` lies between the endpoints of
`mpi_sqrt(mpi_square a + mpi_square b)` for every `x + iy` of the rectangle -/
theorem mpci_abs_general_sound {Z : Mpci} (h1 : FinIv Z.1) (h2 : FinIv Z.2) (hne1 : Z.1 ≠ mpi_zero) (hne2 : Z.2 ≠ mpi_zero)
    {prec : ℤ} (hp : 0 < prec) {x y : ℚ} (hx : MemIv x Z.1) (hy : MemIv y Z.2) :
    ∃ r, mpci_abs Z prec = .ok r ∧ CanonFin r.1 ∧ CanonFin r.2 ∧
      valR r.1 ≤ Real.sqrt ((x * x + y * y : ℚ) : ℝ) ∧ Real.sqrt ((x * x + y * y : ℚ) : ℝ) ≤ valR r.2 := by
  have hp20 : (0 : ℤ) ≤ prec + 20 := by omega
  obtain ⟨fs1, ms1⟩ := mpi_square_sound h1 (le_refl 0) hx
  obtain ⟨fs2, ms2⟩ := mpi_square_sound h2 (le_refl 0) hy
  obtain ⟨ft, mt⟩ := mpi_add_sound fs1 fs2 hp20 ms1 ms2
  have hlow : 0 ≤ val (mpi_add (mpi_square Z.1) (mpi_square Z.2) (prec + 20)).1 := by
    have ha := mpf_add_spec fs1.1 fs2.1 hp20 .f false
    simp only [Bool.false_eq_true, if_false] at ha
    have := roundOK_f_nonneg hp20 ha (add_nonneg (mpi_square_lower_nonneg h1) (mpi_square_lower_nonneg h2))
    have hnn : mpf_add (mpi_square Z.1).1 (mpi_square Z.2).1 (prec + 20) Rnd.f ≠ fnan := roundOK_ne_nan ha
    simpa [mpi_add, hnn] using this
  obtain ⟨r, hr, c1, c2, l, u⟩ := mpi_sqrt_sound ft hlow hp mt
  refine ⟨r, ?_, c1, c2, l, u⟩
  unfold mpci_abs
  simp only [hne1, hne2, if_false]
  exact hr

end Mp

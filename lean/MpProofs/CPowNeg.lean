/-
  MpProofs/CPowNeg.lean — negative integer powers of complex numbers: `z**(-m) = mpc_reciprocal(z**m at prec+4, rounded down)`.
  In the exact regime of `z**m` each component `w` of the inner power is the correct rounding of the exact component `P`
  at `prec+4` bits (relative error η ≤ 2^(-3-prec)); the reciprocal then carries two more perturbations (|w|² truncated at
  prec+10, one rounded division).  The file proves the reciprocal of a componentwise approximated argument
  (`mpc_reciprocal_of_approx`); `Props/C04powneg.lean` draws the bound `6·2^(-prec)` for `prec ≥ 3` from it.
-/
import MpProofs.CDiv
import MpProofs.CPow

namespace Mp

theorem rel_perturb {T M t m q ε₁ ε₂ δ K : ℚ} (hM : 0 < M) (hm : 0 < m)
    (h1 : 0 ≤ ε₁) (h1' : ε₁ ≤ 1) (h2 : 0 ≤ ε₂) (h2' : ε₂ < 1) (hδ0 : 0 ≤ δ) (hδ1 : δ ≤ 1)
    (kup : (1 + ε₁) * (1 + δ) ≤ (1 + K) * (1 - ε₂)) (klo : (1 - K) * (1 + ε₂) ≤ (1 - ε₁) * (1 - δ))
    (ht : |t - T| ≤ |T| * ε₁) (hmM : |m - M| ≤ M * ε₂) (hq : |q - t / m| ≤ |t / m| * δ) :
    |q - T / M| ≤ |T / M| * K :=
  div_perturb hM h1 h1' h2 h2' hδ0 hδ1 kup klo ht hmM hq

theorem sq_perturb {a A η : ℚ} (hη0 : 0 ≤ η) (hη1 : η ≤ 1) (h : |a - A| ≤ |A| * η) :
    |a * a - A * A| ≤ (A * A) * (3 * η) := by
  obtain ⟨e, he, rfl⟩ := exists_rel_factor hη0 h
  have h3 : |2 + e| ≤ 3 := by
    obtain ⟨h1, h2⟩ := abs_le.1 he
    exact abs_le.2 ⟨by linarith, by linarith⟩
  rw [show A * (1 + e) * (A * (1 + e)) - A * A = A * A * ((2 + e) * e) by ring, abs_mul, abs_mul_self, abs_mul]
  exact mul_le_mul_of_nonneg_left (mul_le_mul h3 he (abs_nonneg _) (by norm_num)) (mul_self_nonneg A)

theorem normsq_perturb {P Q p q η : ℚ} (hη0 : 0 ≤ η) (hη1 : η ≤ 1)
    (hp : |p - P| ≤ |P| * η) (hq : |q - Q| ≤ |Q| * η) :
    |(p * p + q * q) - (P * P + Q * Q)| ≤ (P * P + Q * Q) * (3 * η) := by
  rw [add_sub_add_comm, add_mul]
  exact (abs_add_le _ _).trans (add_le_add (sq_perturb hη0 hη1 hp) (sq_perturb hη0 hη1 hq))

theorem pos_of_rel {s S ε : ℚ} (hS : 0 < S) (hε : ε < 1) (h : |s - S| ≤ S * ε) : 0 < s :=
  lt_of_lt_of_le (mul_pos hS (sub_pos.2 hε)) (by linarith [(abs_le.1 h).1])

/-- one component of `z**(-m)`, `d = 2^(-prec)`: inner power within `d/8`, its squared modulus within `3d/8`, reciprocal
within `4d`; together within `6d` when `d ≤ 1/8` -/
theorem neg_pow_component {P S p s r d : ℚ} (hd0 : 0 ≤ d) (hd1 : d ≤ 1 / 8) (hS : 0 < S) (hs0 : 0 < s)
    (hp : |p - P| ≤ |P| * (d / 8)) (hs : |s - S| ≤ S * (3 * (d / 8))) (hr : |r - p / s| ≤ |p / s| * (4 * d)) :
    |r - P / S| ≤ |P / S| * (6 * d) := by
  have h0 : 0 ≤ d * d := mul_self_nonneg d
  have h1 : d * d ≤ d * (1 / 8) := mul_le_mul_of_nonneg_left hd1 hd0
  exact rel_perturb hS hs0 (by positivity) (by linarith only [hd1]) (by positivity) (by linarith only [hd1])
    (by positivity) (by linarith only [hd1]) (by linarith only [h1, hd0]) (by linarith only [h0, hd0]) hp hs hr

/-- the reciprocal of an approximation `w` of `P + Q i`, each component within `2^(-prec)/8` (one rounding at `prec + 4`
bits): each component within `6·2^(-prec)` of the component of `1/(P + Q i)` -/
theorem mpc_reciprocal_of_approx {w : Mpc} (hw1 : CanonFin w.1) (hw2 : CanonFin w.2) {P Q : ℚ}
    (hS : 0 < P * P + Q * Q) {prec : ℤ} (hp : 3 ≤ prec) (rnd : Rnd)
    (rr : |val w.1 - P| ≤ |P| * (2 ^ (-prec) / 8)) (ri : |val w.2 - Q| ≤ |Q| * (2 ^ (-prec) / 8)) :
    ∃ re im, mpc_reciprocal w prec rnd = .ok (re, im) ∧ CanonFin re ∧ CanonFin im ∧ re.bc ≤ prec ∧ im.bc ≤ prec ∧
      |val re - P / (P * P + Q * Q)| ≤ |P / (P * P + Q * Q)| * (6 * 2 ^ (-prec)) ∧
      |val im - -(Q / (P * P + Q * Q))| ≤ |Q / (P * P + Q * Q)| * (6 * 2 ^ (-prec)) := by
  have hd0 : (0 : ℚ) ≤ 2 ^ (-prec) := by positivity
  have hd1 : (2 : ℚ) ^ (-prec) ≤ 1 / 8 := by
    rw [show (1 / 8 : ℚ) = 2 ^ (-3 : ℤ) by norm_num]
    exact zpow_le_zpow_right₀ (by norm_num) (by omega)
  -- `|w|²` is within `3·2^(-prec)/8` of `P² + Q²`, and positive
  have hs := normsq_perturb (by positivity) (by linarith only [hd1]) rr ri
  have hs0 := pos_of_rel hS (by linarith only [hd1]) hs
  have hw0 : ¬ (w.1 = fzero ∧ w.2 = fzero) := by
    rintro ⟨h1, h2⟩
    simp [h1, h2, val_fzero] at hs0
  obtain ⟨re, im, hrec, c1, c2, b1, b2, e1, e2⟩ := mpc_reciprocal_spec hw1 hw2 hw0 (by omega : 0 < prec) rnd
  rw [show (2 : ℤ) - prec = 2 + -prec by ring, zpow_add₀ two_ne_zero, show (2 : ℚ) ^ (2 : ℤ) = 4 by norm_num] at e1 e2
  rw [abs_sub_neg_eq] at e2
  exact ⟨re, im, hrec, c1, c2, b1, b2, neg_pow_component hd0 hd1 hS hs0 rr hs e1,
    (abs_sub_neg_eq _ _).trans_le (neg_pow_component hd0 hd1 hS hs0 ri hs e2)⟩

end Mp

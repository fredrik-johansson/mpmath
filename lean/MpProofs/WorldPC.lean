/-
  MpProofs/WorldPC.lean — the context world with private caches (C38): worlds that agree outside one context keep
  agreeing and give the same outcomes; a step leaves the other contexts alone.
-/
import MpModel.WorldPC

namespace Mp.WorldPC
open Mp.World

variable {C P F X V : Type}

/-- what a statement executed on context `k` can read is the same in both worlds: the number of
context objects, the object `k` itself (settings and private caches) and the shared caches -/
structure Agree (k : Nat) (w w' : WorldP C P) : Prop where
  len : w.ctxs.length = w'.ctxs.length
  ctx : w.ctxs[k]? = w'.ctxs[k]?
  caches : w.caches = w'.caches

theorem agree_set (k : Nat) (w w' : WorldP C P) (h : Agree k w w') (a : Ctx P) (c c' : C) (hc : c = c') :
    Agree k ⟨w.ctxs.set k a, c⟩ ⟨w'.ctxs.set k a, c'⟩ where
  len := by simp [h.len]
  ctx := by simp [List.getElem?_set, h.len]
  caches := hc

set_option hygiene false in
/-- one constructor of `step_agree`: split on whether context `i` exists, unfold, close -/
local macro "agree_case" i:ident : tactic => `(tactic| (
    rcases Option.eq_none_or_eq_some (w.ctxs[$i]?) with hci | ⟨c, hci⟩
    · have hci' := hci
      rw [hc] at hci'
      simp only [step, setCell, hci, hci']
      first
        | exact ⟨rfl, h⟩
        | exact ⟨by simp, h⟩
    · have hci' := hci
      rw [hc] at hci'
      have hlt : $i < w.ctxs.length := by
        rcases Nat.lt_or_ge $i w.ctxs.length with h1 | h1
        · exact h1
        · rw [List.getElem?_eq_none h1] at hci; cases hci
      simp only [step, setCell, hci, hci']
      first
        | exact ⟨by simp, agree_set _ w w' h _ _ _ hs⟩
        | (rw [hs]; exact ⟨rfl, agree_set _ w w' h _ _ _ rfl⟩)
        | (cases hk : c.cell.kind <;> first
            | exact ⟨rfl, h⟩
            | exact ⟨rfl, agree_set _ w w' h _ _ _ hs⟩
            | exact ⟨by simp [hl],
                { len := by simp [hl]
                  ctx := by
                    simp only [List.getElem?_append_left hlt, List.getElem?_append_left (hl ▸ hlt)]
                    exact hc
                  caches := hs }⟩)))

/-- a statement executed on `k` has the same outcome in two worlds that agree on `k`, and they
agree on `k` afterwards -/
theorem step_agree (S : SemP C P F X V) (k : Nat) (w w' : WorldP C P) (h : Agree k w w')
    (op : Op F X) (ht : op.target = k) :
    (step S w op).2 = (step S w' op).2 ∧ Agree k (step S w op).1 (step S w' op).1 := by
  have hl := h.len
  have hc := h.ctx
  have hs := h.caches
  cases op <;> simp only [Op.target] at ht <;> subst ht
  case setPrec i n => agree_case i
  case setDps i n => agree_case i
  case setRounding i r => agree_case i
  case setTrap i b => agree_case i
  case setPretty i b => agree_case i
  case default i => agree_case i
  case clone i => agree_case i
  case eval i f x => agree_case i

theorem outcomes_agree (S : SemP C P F X V) (k : Nat) (ops : List (Op F X)) :
    ∀ (w w' : WorldP C P), Agree k w w' → (∀ op ∈ ops, op.target = k) →
      outcomes S w ops = outcomes S w' ops := by
  induction ops with
  | nil => intros; rfl
  | cons op ops ih =>
    intro w w' h ht
    obtain ⟨e, h'⟩ := step_agree S k w w' h op (ht op List.mem_cons_self)
    simp only [outcomes, e]
    rw [ih _ _ h' (fun o ho => ht o (List.mem_cons_of_mem _ ho))]

theorem list_set_self {α : Type} (l : List α) (i : Nat) (a : α) (h : l[i]? = some a) : l.set i a = l := by
  apply List.ext_getElem?
  intro j
  rw [List.getElem?_set]
  split
  · next hij =>
    subst hij
    have hlt : i < l.length := (List.getElem?_eq_some_iff.1 h).elim fun h _ => h
    rw [if_pos hlt, h]
  · rfl

end Mp.WorldPC

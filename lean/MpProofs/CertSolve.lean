/-
  MpProofs/CertSolve.lean — soundness of the C30 solve / inverse / least-squares / det certificates
  of MpModel/Cert.lean (`solveCert lsqCert condModerate invCert detCert`): an elementary Neumann
  argument over ℂ with the ∞-operator norm, pure real arithmetic for the cross-multiplied tests,
  and the `ok` / `violates` verdicts of `solveCert`; the statements about the other checkers are in Props/C30.
-/
import MpProofs.Cert
import Mathlib.LinearAlgebra.Matrix.NonsingularInverse

namespace Mp.Cert

open scoped Matrix.Norms.Operator

theorem norm_sub_bounds {V : Type*} [SeminormedAddCommGroup V] {x y w : V} {α : ℝ}
    (h : x - y = w) (hy : ‖y‖ ≤ α * ‖x‖) : (1 - α) * ‖x‖ ≤ ‖w‖ ∧ ‖w‖ ≤ (1 + α) * ‖x‖ := by
  subst h
  have h1 := norm_sub_norm_le x y
  have h2 := norm_sub_le x y
  constructor <;> linarith

/-- `‖E‖ < 1` makes `1 - E` invertible (injectivity of `mulVec`, no completeness needed) -/
theorem isUnit_one_sub {n : ℕ} (E : Matrix (Fin n) (Fin n) ℂ) (α : ℝ) (hE : ‖E‖ ≤ α)
    (hα1 : α < 1) : IsUnit (1 - E) := by
  rw [← Matrix.mulVec_injective_iff_isUnit]
  intro v w hvw
  have h0 : (1 - E).mulVec (v - w) = 0 := by rw [Matrix.mulVec_sub, hvw, sub_self]
  rw [Matrix.sub_mulVec, Matrix.one_mulVec] at h0
  have hb := (norm_sub_bounds h0 ((Matrix.linfty_opNorm_mulVec E (v - w)).trans
    (mul_le_mul_of_nonneg_right hE (norm_nonneg _)))).1
  rw [norm_zero] at hb
  exact sub_eq_zero.1 (norm_le_zero_iff.1 (nonpos_of_mul_nonpos_right hb (sub_pos.2 hα1)))

theorem cert_isUnit {n : ℕ} (A R : Matrix (Fin n) (Fin n) ℂ) (α : ℝ)
    (hα : ‖1 - R * A‖ ≤ α) (hα1 : α < 1) : IsUnit A.det := by
  have h := isUnit_one_sub (1 - R * A) α hα hα1
  rw [sub_sub_cancel, Matrix.isUnit_iff_isUnit_det, Matrix.det_mul] at h
  exact isUnit_of_mul_isUnit_right h

/-- an approximate left inverse `R` of `A` (`‖1 - R * A‖ ≤ α`) recovers the size of any `D` from `R * (A * D)` -/
theorem cert_bounds {n k : ℕ} (A R : Matrix (Fin n) (Fin n) ℂ) (D : Matrix (Fin n) (Fin k) ℂ)
    (α : ℝ) (hα : ‖1 - R * A‖ ≤ α) :
    (1 - α) * ‖D‖ ≤ ‖R * (A * D)‖ ∧ ‖R * (A * D)‖ ≤ (1 + α) * ‖D‖ :=
  norm_sub_bounds (y := (1 - R * A) * D)
    (by rw [Matrix.sub_mul, Matrix.one_mul, sub_sub_cancel, Matrix.mul_assoc])
    ((Matrix.linfty_opNorm_mul _ D).trans (mul_le_mul_of_nonneg_right hα (norm_nonneg D)))

theorem cert_inv_bounds {n : ℕ} (A R : Matrix (Fin n) (Fin n) ℂ) (α : ℝ)
    (hα : ‖1 - R * A‖ ≤ α) (hU : IsUnit A.det) :
    (1 - α) * ‖A⁻¹‖ ≤ ‖R‖ ∧ ‖R‖ ≤ (1 + α) * ‖A⁻¹‖ := by
  have h := cert_bounds A R A⁻¹ α hα
  rwa [Matrix.mul_nonsing_inv A hU, Matrix.mul_one] at h

theorem cert_err_bounds {n k : ℕ} (A R : Matrix (Fin n) (Fin n) ℂ) (B X : Matrix (Fin n) (Fin k) ℂ)
    (α : ℝ) (hα : ‖1 - R * A‖ ≤ α) (hU : IsUnit A.det) :
    (1 - α) * ‖A⁻¹ * B - X‖ ≤ ‖R * (B - A * X)‖ ∧
    ‖R * (B - A * X)‖ ≤ (1 + α) * ‖A⁻¹ * B - X‖ := by
  have h := cert_bounds A R (A⁻¹ * B - X) α hα
  rwa [Matrix.mul_sub, ← Matrix.mul_assoc A, Matrix.mul_nonsing_inv A hU, Matrix.one_mul] at h

/-! Real arithmetic behind the cross-multiplied tests.
`κ` stands for the condition product `‖A‖·‖A⁻¹‖·2^(10-p)`, `c` for the product of the computed row-sum
bounds that brackets it (`cond_bounds`), `e` for the forward error, `ρL ≤ ‖R(B - AX)‖ ≤ ρ`. -/

theorem ok_arith {α ρ c κ mxL e nX nXs : ℝ} (hα0 : 0 ≤ α) (hα1 : α < 1) (hc0 : 0 ≤ c)
    (hXs0 : 0 ≤ nXs) (he : (1 - α) * e ≤ ρ) (hc : c ≤ (1 + α) * κ)
    (hX : mxL ≤ nX) (hXs : nX - e ≤ nXs)
    (htest : ρ * (1 + α) ≤ c * (mxL * (1 - α) - ρ)) :
    e ≤ κ * nXs := by
  have h1m : 0 < 1 - α := sub_pos.2 hα1
  have h1p : 0 < 1 + α := by linarith
  have hq : mxL * (1 - α) - ρ ≤ (1 - α) * nXs := by
    have := mul_le_mul_of_nonneg_left (hX.trans (sub_le_iff_le_add.1 hXs)) h1m.le
    linarith
  have h : (1 + α) * (1 - α) * e ≤ (1 + α) * (1 - α) * (κ * nXs) :=
    calc (1 + α) * (1 - α) * e = (1 + α) * ((1 - α) * e) := mul_assoc _ _ _
      _ ≤ (1 + α) * ρ := mul_le_mul_of_nonneg_left he h1p.le
      _ = ρ * (1 + α) := mul_comm _ _
      _ ≤ c * (mxL * (1 - α) - ρ) := htest
      _ ≤ (1 + α) * κ * ((1 - α) * nXs) :=
          mul_le_mul_of_nonneg hc hq hc0 (mul_nonneg h1m.le hXs0)
      _ = (1 + α) * (1 - α) * (κ * nXs) := by ring
  exact le_of_mul_le_mul_left h (mul_pos h1p h1m)

theorem viol_arith {α ρ ρL c κ mxU e nX nXs : ℝ} (hα0 : 0 ≤ α) (hα1 : α < 1) (hκ0 : 0 ≤ κ)
    (hXs0 : 0 ≤ nXs) (hρL : ρL ≤ (1 + α) * e) (he : (1 - α) * e ≤ ρ) (hc : (1 - α) * κ ≤ c)
    (hX : nX ≤ mxU) (hXs : nXs ≤ nX + e)
    (htest : (1 + α) * c * (mxU * (1 - α) + ρ) < ρL * (1 - α) * (1 - α)) :
    ¬ e ≤ κ * nXs := by
  intro hle
  have h1m : 0 < 1 - α := sub_pos.2 hα1
  have h1p : 0 < 1 + α := by linarith
  have hq : (1 - α) * nXs ≤ mxU * (1 - α) + ρ := by
    have := mul_le_mul_of_nonneg_left (hXs.trans (add_le_add_left hX e)) h1m.le
    linarith
  have h : ρL * (1 - α) * (1 - α) ≤ (1 + α) * c * (mxU * (1 - α) + ρ) :=
    calc ρL * (1 - α) * (1 - α) = ρL * ((1 - α) * (1 - α)) := mul_assoc _ _ _
      _ ≤ (1 + α) * (κ * nXs) * ((1 - α) * (1 - α)) :=
          mul_le_mul_of_nonneg_right (hρL.trans (mul_le_mul_of_nonneg_left hle h1p.le))
            (mul_nonneg h1m.le h1m.le)
      _ = (1 + α) * ((1 - α) * κ * ((1 - α) * nXs)) := by ring
      _ ≤ (1 + α) * (c * (mxU * (1 - α) + ρ)) :=
          mul_le_mul_of_nonneg_left
            (mul_le_mul hc hq (mul_nonneg h1m.le hXs0) ((mul_nonneg h1m.le hκ0).trans hc)) h1p.le
      _ = (1 + α) * c * (mxU * (1 - α) + ρ) := (mul_assoc _ _ _).symm
  exact absurd htest (not_lt.2 h)

theorem toMat_residE (n : ℕ) (A R : Mat) :
    toMat n n (residE n A R) = 1 - toMat n n R * toMat n n A := by
  rw [residE, toMat_msub, toMat_ident, toMat_mmul]

theorem toMat_residW (n k : ℕ) (A B X R : Mat) :
    toMat n k (residW n k A B X R)
      = toMat n n R * (toMat n k B - toMat n n A * toMat n k X) := by
  rw [residW, toMat_mmul, toMat_msub, toMat_mmul]

theorem alpha_bound (n : ℕ) (A R : Mat) :
    ‖1 - toMat n n R * toMat n n A‖ ≤ (rowSumU n n (residE n A R)).toReal := by
  rw [← toMat_residE]; exact linf_le_rowSumU _ _ _

theorem rowSumU_nonneg (r c : ℕ) (M : Mat) : 0 ≤ (rowSumU r c M).toReal := maxD_nonneg _ _
theorem rowSumL_nonneg (r c : ℕ) (M : Mat) : 0 ≤ (rowSumL r c M).toReal := maxD_nonneg _ _

/-- what `α = rowSumU (residE n A R) < 1` gives: `A` is nonsingular and the products of the computed row
sums bracket the condition product `‖A‖·‖A⁻¹‖·t` up to the factors `1 ± α` -/
theorem cond_bounds {n : ℕ} {A R : Mat} {t : ℝ} (ht : 0 ≤ t)
    (h1 : (rowSumU n n (residE n A R)).toReal < 1) :
    IsUnit (toMat n n A).det ∧
    (rowSumL n n A).toReal * (rowSumL n n R).toReal * t
      ≤ (1 + (rowSumU n n (residE n A R)).toReal) * (‖toMat n n A‖ * ‖(toMat n n A)⁻¹‖ * t) ∧
    (1 - (rowSumU n n (residE n A R)).toReal) * (‖toMat n n A‖ * ‖(toMat n n A)⁻¹‖ * t)
      ≤ (rowSumU n n A).toReal * (rowSumU n n R).toReal * t := by
  have hU := cert_isUnit _ _ _ (alpha_bound n A R) h1
  obtain ⟨hlo, hhi⟩ := cert_inv_bounds _ _ _ (alpha_bound n A R) hU
  have hi0 := mul_nonneg (sub_pos.2 h1).le (norm_nonneg (toMat n n A)⁻¹)
  refine ⟨hU, ?_, ?_⟩
  · refine (mul_le_mul_of_nonneg_right (mul_le_mul (rowSumL_le_linf n n A)
      ((rowSumL_le_linf n n R).trans hhi) (rowSumL_nonneg _ _ _) (norm_nonneg _)) ht).trans_eq ?_
    ring
  · refine Eq.trans_le ?_ (mul_le_mul_of_nonneg_right (mul_le_mul (linf_le_rowSumU n n A)
      (hlo.trans (linf_le_rowSumU n n R)) hi0 (rowSumU_nonneg _ _ _)) ht)
    ring

theorem err_bounds {n k : ℕ} (A B X R : Mat) (hU : IsUnit (toMat n n A).det) :
    (1 - (rowSumU n n (residE n A R)).toReal) * ‖(toMat n n A)⁻¹ * toMat n k B - toMat n k X‖
      ≤ (rowSumU n k (residW n k A B X R)).toReal ∧
    (rowSumL n k (residW n k A B X R)).toReal
      ≤ (1 + (rowSumU n n (residE n A R)).toReal) * ‖(toMat n n A)⁻¹ * toMat n k B - toMat n k X‖ := by
  obtain ⟨h1, h2⟩ := cert_err_bounds _ _ (toMat n k B) (toMat n k X) _ (alpha_bound n A R) hU
  rw [← toMat_residW] at h1 h2
  exact ⟨h1.trans (linf_le_rowSumU _ _ _), (rowSumL_le_linf _ _ _).trans h2⟩

/-- the property instance decided by `solveCert` (∞-operator norms) -/
def SolveAccurate {n k : ℕ} (p : ℤ) (A : Matrix (Fin n) (Fin n) ℂ)
    (B X : Matrix (Fin n) (Fin k) ℂ) : Prop :=
  ‖A⁻¹ * B - X‖ ≤ ‖A‖ * ‖A⁻¹‖ * (2:ℝ) ^ (10 - p) * ‖A⁻¹ * B‖

theorem verdict_ok_of {a b c : Bool}
    (h : (if (!a) = true then Verdict.undecided else
      if b = true then Verdict.ok else
      if c = true then Verdict.violates else Verdict.undecided) = Verdict.ok) :
    a = true ∧ b = true := by
  revert h; cases a <;> cases b <;> cases c <;> decide

theorem verdict_violates_of {a b c : Bool}
    (h : (if (!a) = true then Verdict.undecided else
      if b = true then Verdict.ok else
      if c = true then Verdict.violates else Verdict.undecided) = Verdict.violates) :
    a = true ∧ c = true := by
  revert h; cases a <;> cases b <;> cases c <;> decide

theorem solveCert_ok {n k : ℕ} {p : ℤ} {A B X R : Mat} (h : solveCert n k p A B X R = .ok) :
    IsUnit (toMat n n A).det ∧ SolveAccurate p (toMat n n A) (toMat n k B) (toMat n k X) := by
  simp only [solveCert, solveData] at h
  obtain ⟨h1, h2⟩ := verdict_ok_of h
  simp only [Dy.lt_iff, Dy.le_iff, Dy.toReal_mul, Dy.toReal_add, Dy.toReal_sub, Dy.toReal_one,
    toReal_tol1] at h1 h2
  have ht : (0:ℝ) ≤ 2 ^ (10 - p) := by positivity
  obtain ⟨hU, hc, -⟩ := cond_bounds ht h1
  refine ⟨hU, ok_arith (nX := ‖toMat n k X‖) (rowSumU_nonneg _ _ _) h1
    (mul_nonneg (mul_nonneg (rowSumL_nonneg _ _ _) (rowSumL_nonneg _ _ _)) ht) (norm_nonneg _)
    (err_bounds A B X R hU).1 hc (rowSumL_le_linf n k X) ?_ h2⟩
  rw [sub_le_iff_le_add]
  have := norm_sub_le ((toMat n n A)⁻¹ * toMat n k B)
    ((toMat n n A)⁻¹ * toMat n k B - toMat n k X)
  rwa [sub_sub_cancel] at this

theorem solveCert_violates {n k : ℕ} {p : ℤ} {A B X R : Mat}
    (h : solveCert n k p A B X R = .violates) :
    IsUnit (toMat n n A).det ∧ ¬ SolveAccurate p (toMat n n A) (toMat n k B) (toMat n k X) := by
  simp only [solveCert, solveData] at h
  obtain ⟨h1, h2⟩ := verdict_violates_of h
  simp only [Dy.lt_iff, Dy.toReal_mul, Dy.toReal_add, Dy.toReal_sub, Dy.toReal_one,
    toReal_tol1] at h1 h2
  have ht : (0:ℝ) ≤ 2 ^ (10 - p) := by positivity
  obtain ⟨hU, -, hc⟩ := cond_bounds ht h1
  obtain ⟨he, hρL⟩ := err_bounds A B X R hU
  refine ⟨hU, viol_arith (nX := ‖toMat n k X‖) (rowSumU_nonneg _ _ _) h1
    (mul_nonneg (mul_nonneg (norm_nonneg _) (norm_nonneg _)) ht) (norm_nonneg _) hρL he hc
    (linf_le_rowSumU n k X) ?_ (by simpa only [mul_assoc] using h2)⟩
  have := norm_add_le (toMat n k X) ((toMat n n A)⁻¹ * toMat n k B - toMat n k X)
  rwa [add_sub_cancel] at this

theorem sq_test_iff {x s c y : ℝ} (hx : 0 ≤ x) (hs : 0 ≤ s) (hc : 0 ≤ c) (hy : 0 ≤ y) :
    x ^ 2 * s * s ≤ c * c * y ^ 2 ↔ x * s ≤ c * y := by
  have e1 : x ^ 2 * s * s = x * s * (x * s) := by ring
  have e2 : c * c * y ^ 2 = c * y * (c * y) := by ring
  rw [e1, e2, ← mul_self_le_mul_self_iff (mul_nonneg hx hs) (mul_nonneg hc hy)]

theorem det_ok_arith {α c κ x y : ℝ} (hα0 : 0 ≤ α) (hc0 : 0 ≤ c) (hx : 0 ≤ x) (hy : 0 ≤ y)
    (hc : c ≤ (1 + α) * κ) (htest : x ^ 2 * (1 + α) * (1 + α) ≤ c * c * y ^ 2) :
    x ≤ κ * y := by
  have h1p : 0 < 1 + α := by linarith
  have h := ((sq_test_iff hx h1p.le hc0 hy).1 htest).trans (mul_le_mul_of_nonneg_right hc hy)
  rw [mul_comm x, mul_assoc] at h
  exact le_of_mul_le_mul_left h h1p

theorem det_viol_arith {α c κ x y : ℝ} (hα1 : α < 1) (hκ0 : 0 ≤ κ) (hx : 0 ≤ x) (hy : 0 ≤ y)
    (hc : (1 - α) * κ ≤ c) (htest : c * c * y ^ 2 < x ^ 2 * (1 - α) * (1 - α)) :
    ¬ x ≤ κ * y := by
  intro hle
  have h1m : 0 < 1 - α := sub_pos.2 hα1
  have hc0 : 0 ≤ c := (mul_nonneg h1m.le hκ0).trans hc
  refine not_le.2 htest ((sq_test_iff hx h1m.le hc0 hy).2 ?_)
  calc x * (1 - α) ≤ κ * y * (1 - α) := mul_le_mul_of_nonneg_right hle h1m.le
    _ = (1 - α) * κ * y := by ring
    _ ≤ c * y := mul_le_mul_of_nonneg_right hc hy

theorem of_ite_singular {z : Bool} {v r : Verdict} (hr : r ≠ .singular)
    (h : (if z = true then Verdict.singular else v) = r) : z = false ∧ v = r := by
  cases z
  · exact ⟨rfl, h⟩
  · exact absurd h.symm hr

theorem verdict_det_singular_iff {z a b c : Bool} :
    (if z = true then Verdict.singular else
      if (!a) = true then Verdict.undecided else
      if b = true then Verdict.ok else
      if c = true then Verdict.violates else Verdict.undecided) = Verdict.singular ↔ z = true := by
  cases z <;> cases a <;> cases b <;> cases c <;> decide

theorem detN_isZero_iff (n : ℕ) (A : Mat) : (detN n A).isZero = true ↔ (toMat n n A).det = 0 := by
  rw [G.isZero_iff, toC_detN]

end Mp.Cert

/-
  MpProofs/Add.lean — `mpf_add` / `mpf_sub` are correctly rounded (all branches, including the
  far-apart-exponent perturbation shortcut, which is where defect D1 lived).
-/
import MpProofs.Arith

namespace Mp

theorem shl_cast (m k : ℕ) : ((m <<< k : ℕ) : ℚ) = (m : ℚ) * 2 ^ k := by
  rw [Nat.shiftLeft_eq]; push_cast; ring

theorem two_zpow_split (a : ℤ) (k : ℕ) : (2 : ℚ) ^ (a + k) = 2 ^ a * 2 ^ k := by
  rw [zpow_add₀ (by norm_num), zpow_natCast]

theorem neg_one_pow_of_ne {a b : ℕ} (ha : a ≤ 1) (hb : b ≤ 1) (h : a ≠ b) : (-1 : ℚ) ^ b = -(-1) ^ a := by
  have : a = 0 ∧ b = 1 ∨ a = 1 ∧ b = 0 := by omega
  rcases this with ⟨rfl, rfl⟩ | ⟨rfl, rfl⟩ <;> norm_num

/-- magnitudes of opposite sign: the signed integer difference that `mpf_add` forms -/
theorem signed_diff {ssign tsign : ℕ} (hss : ssign ≤ 1) (hts : tsign ≤ 1) (hne : ssign ≠ tsign)
    (A T : ℕ) (w : ℚ) :
    (-1 : ℚ) ^ ssign * ((A : ℚ) * w) + (-1 : ℚ) ^ tsign * ((T : ℚ) * w)
      = ((if ssign ≠ 0 then (T : ℤ) - (A : ℤ) else (A : ℤ) - (T : ℤ) : ℤ) : ℚ) * w := by
  rw [neg_one_pow_of_ne hss hts hne]
  rcases Nat.le_one_iff_eq_zero_or_eq_one.1 hss with rfl | rfl
  · rw [if_neg (not_not.2 rfl)]; push_cast; ring
  · rw [if_pos one_ne_zero]; push_cast; ring

/-- the two far branches without the shortcut: exact integer sum at the smaller exponent -/
theorem addFar_general {ssign tsign sman tman : ℕ} {sexp texp : ℤ} (hss : ssign ≤ 1) (hts : tsign ≤ 1)
    (hto : tman % 2 = 1) (hoff : sexp - texp > 0) {prec : ℤ} (hp : 0 ≤ prec) (rnd : Rnd) :
    RoundOK prec rnd ((-1 : ℚ) ^ ssign * ((sman : ℚ) * 2 ^ sexp) + (-1 : ℚ) ^ tsign * ((tman : ℚ) * 2 ^ texp))
      (if ssign = tsign then
        normalize1 ssign (tman + (sman <<< (sexp - texp).toNat)) texp
          (bitcount (tman + (sman <<< (sexp - texp).toNat)))
          (if prec ≠ 0 then prec else (bitcount (tman + (sman <<< (sexp - texp).toNat)) : ℤ)) rnd
      else
        normalize1
          (if (if ssign ≠ 0 then (tman : ℤ) - ((sman <<< (sexp - texp).toNat : ℕ) : ℤ)
                else ((sman <<< (sexp - texp).toNat : ℕ) : ℤ) - (tman : ℤ)) ≥ 0 then 0 else 1)
          (if ssign ≠ 0 then (tman : ℤ) - ((sman <<< (sexp - texp).toNat : ℕ) : ℤ)
                else ((sman <<< (sexp - texp).toNat : ℕ) : ℤ) - (tman : ℤ)).natAbs texp
          (bitcount (if ssign ≠ 0 then (tman : ℤ) - ((sman <<< (sexp - texp).toNat : ℕ) : ℤ)
                else ((sman <<< (sexp - texp).toNat : ℕ) : ℤ) - (tman : ℤ)).natAbs)
          (if prec ≠ 0 then prec
            else (bitcount (if ssign ≠ 0 then (tman : ℤ) - ((sman <<< (sexp - texp).toNat : ℕ) : ℤ)
                else ((sman <<< (sexp - texp).toNat : ℕ) : ℤ) - (tman : ℤ)).natAbs : ℤ)) rnd) := by
  obtain ⟨k, hk⟩ : ∃ k : ℕ, sexp - texp = k := ⟨(sexp - texp).toNat, by omega⟩
  have hkpos : 0 < k := by omega
  rw [hk, Int.toNat_natCast]
  have hsexp : sexp = texp + k := by omega
  have hshift : (sman : ℚ) * 2 ^ sexp = ((sman <<< k : ℕ) : ℚ) * 2 ^ texp := by
    rw [hsexp, two_zpow_split, shl_cast]; ring
  have heven : (sman <<< k) % 2 = 0 := by
    obtain ⟨j, rfl⟩ : ∃ j, k = j + 1 := ⟨k - 1, by omega⟩
    rw [Nat.shiftLeft_eq, pow_succ, ← mul_assoc]; exact Nat.mul_mod_left _ _
  generalize sman <<< k = A at hshift heven ⊢
  by_cases heq : ssign = tsign
  · rw [if_pos heq, ← heq, hshift, ← mul_add, ← add_mul, add_comm (A : ℚ), ← Nat.cast_add]
    exact normalize1_nat hss (Or.inl (by omega)) texp hp rnd
  · rw [if_neg heq, hshift, signed_diff hss hts heq, normalize1_eq_normalize _ (by split <;> omega)]
    exact normalize_int _ texp hp rnd

/-- The perturbation argument on magnitudes.  With `g ≤ p+3` chosen so that `S = sman·2^g` has more
than `p` bits, `s = sman·2^sexp` is the point `S·2^w` of the grid of width `2^w`, `w = sexp - g`.
Both the true summand `τ` and the stand-in `2^(sexp-p-4)` lie strictly between `0` and `2^w`, so
`s ± τ` and the stand-in `s ± 2^(sexp-p-4)` share a cell of that grid. -/
theorem addFar_perturb {sign : ℕ} (hs : sign ≤ 1) {sman : ℕ} (hsm : sman ≠ 0) (sexp : ℤ) {p : ℕ} (hp : 0 < p)
    (rnd : Rnd) {g : ℕ} (hg : g ≤ p + 3) (hbits : p + 4 ≤ bitcount sman + g) {τ : ℚ} (h0 : 0 < τ)
    (hτ : τ < 2 ^ (sexp - g)) :
    RoundOK p rnd ((-1 : ℚ) ^ sign * ((sman : ℚ) * 2 ^ sexp + τ))
      (normalize1 sign (sman <<< (p + 4) + 1) (sexp - (p + 4)) (bitcount (sman <<< (p + 4) + 1)) p rnd) ∧
    RoundOK p rnd ((-1 : ℚ) ^ sign * ((sman : ℚ) * 2 ^ sexp - τ))
      (normalize1 sign (sman <<< (p + 4) - 1) (sexp - (p + 4)) (bitcount (sman <<< (p + 4) - 1)) p rnd) := by
  have hA : sman <<< (p + 4) = sman * 2 ^ (p + 3) * 2 := by rw [Nat.shiftLeft_eq, pow_succ, mul_assoc]
  have hBbig : 2 ^ (p + 3) ≤ sman * 2 ^ (p + 3) := Nat.le_mul_of_pos_left _ (Nat.pos_of_ne_zero hsm)
  have hpp : 2 ^ (p + 3) = 2 ^ p * 8 := by rw [pow_add]; norm_num
  have hSbig : 2 ^ (p + 3) ≤ sman * 2 ^ g :=
    calc 2 ^ (p + 3) ≤ 2 ^ (bitcount sman - 1 + g) := Nat.pow_le_pow_right (by norm_num) (by omega)
      _ = 2 ^ (bitcount sman - 1) * 2 ^ g := pow_add _ _ _
      _ ≤ sman * 2 ^ g := Nat.mul_le_mul_right _ (bitcount_le hsm)
  have hpw := Nat.two_pow_pos p
  have hε := two_zpow_pos (K := ℚ) (sexp - (p + 4))
  have hεW : (2 : ℚ) ^ (sexp - (p + 4)) < 2 ^ (sexp - g) := zpow_lt_zpow_right₀ (by norm_num) (by omega)
  have hAs : ((sman <<< (p + 4) : ℕ) : ℚ) * 2 ^ (sexp - (p + 4)) = (sman : ℚ) * 2 ^ sexp := by
    rw [shl_cast, mul_assoc, ← zpow_natCast, ← zpow_add₀ two_ne_zero]; congr 2; push_cast; ring
  have hSs : ((sman * 2 ^ g : ℕ) : ℚ) * 2 ^ (sexp - g) = (sman : ℚ) * 2 ^ sexp := by
    push_cast; rw [mul_assoc, ← zpow_natCast, ← zpow_add₀ two_ne_zero]; congr 2; ring
  rw [hA] at hAs ⊢
  generalize sman * 2 ^ (p + 3) = B at *
  generalize sman * 2 ^ g = S at *
  constructor
  · rw [normalize1_eq_normalize _ (by omega)]
    have hM : ((B * 2 + 1 : ℕ) : ℚ) * 2 ^ (sexp - (p + 4)) = (sman : ℚ) * 2 ^ sexp + 2 ^ (sexp - (p + 4)) := by
      rw [Nat.cast_succ, add_one_mul, hAs]
    refine normalize_sticky hs _ _ hp rnd (lt_bitcount_of_le (by omega)) (S := S) (w := sexp - g) (by omega) ?_ ?_ ?_ ?_
    · rw [hSs, hM]; linarith only [hε, hεW]
    · rw [add_one_mul, hSs, hM]; linarith only [hε, hεW]
    · rw [hSs]; linarith only [h0, hτ]
    · rw [add_one_mul, hSs]; linarith only [h0, hτ]
  · rw [normalize1_eq_normalize _ (by omega)]
    have hM : ((B * 2 - 1 : ℕ) : ℚ) * 2 ^ (sexp - (p + 4)) = (sman : ℚ) * 2 ^ sexp - 2 ^ (sexp - (p + 4)) := by
      rw [Nat.cast_pred (by omega), sub_one_mul, hAs]
    have hS1 : ((S - 1 : ℕ) : ℚ) = S - 1 := Nat.cast_pred (by omega)
    refine normalize_sticky hs _ _ hp rnd (lt_bitcount_of_le (by omega)) (S := S - 1) (w := sexp - g) (by omega) ?_ ?_ ?_ ?_
    · rw [hS1, sub_one_mul, hSs, hM]; linarith only [hε, hεW]
    · rw [hS1, sub_add_cancel, hSs, hM]; linarith only [hε, hεW]
    · rw [hS1, sub_one_mul, hSs]; linarith only [h0, hτ]
    · rw [hS1, sub_add_cancel, hSs]; linarith only [h0, hτ]

/-- the perturbation shortcut: `t` lies entirely below the last bit of `s` and more than `prec+4`
bits below its leading bit, so `s ± 2^(sexp-prec-4)` rounds like `s + t`. -/
theorem addFar_shortcut {ssign tsign sman tman : ℕ} {sexp texp : ℤ} (hss : ssign ≤ 1) (hts : tsign ≤ 1)
    (hso : sman % 2 = 1) (hto : tman % 2 = 1) {prec : ℤ} (hp : 0 < prec) (rnd : Rnd)
    (hdelta : (bitcount sman : ℤ) + sexp - bitcount tman - texp > prec + 4)
    (hbelow : sexp - texp ≥ bitcount tman) :
    RoundOK prec rnd ((-1 : ℚ) ^ ssign * ((sman : ℚ) * 2 ^ sexp) + (-1 : ℚ) ^ tsign * ((tman : ℚ) * 2 ^ texp))
      (normalize1 ssign
        (if tsign = ssign then (sman <<< (prec + 4).toNat) + 1 else (sman <<< (prec + 4).toNat) - 1)
        (sexp - (prec + 4))
        (bitcount (if tsign = ssign then (sman <<< (prec + 4).toNat) + 1 else (sman <<< (prec + 4).toNat) - 1))
        prec rnd) := by
  obtain ⟨p, rfl⟩ : ∃ p : ℕ, prec = p := ⟨prec.toNat, by omega⟩
  rw [show ((p : ℤ) + 4).toNat = p + 4 by omega]
  have hsb := bitcount_pos (n := sman) (by omega)
  -- the gap between the top of t and the bottom of s, cut off at p + 3
  obtain ⟨g, hg1, hg2, hg3⟩ : ∃ g : ℕ, (g : ℤ) ≤ sexp - texp - bitcount tman ∧ g ≤ p + 3 ∧
      p + 4 ≤ bitcount sman + g := ⟨min (sexp - texp - bitcount tman).toNat (p + 3), by omega, by omega, by omega⟩
  have htpos : (0 : ℚ) < (tman : ℚ) * 2 ^ texp :=
    mul_pos (Nat.cast_pos.2 (by omega)) (two_zpow_pos texp)
  have htval : (tman : ℚ) * 2 ^ texp < 2 ^ (sexp - (g : ℤ)) :=
    calc (tman : ℚ) * 2 ^ texp < 2 ^ bitcount tman * 2 ^ texp :=
          mul_lt_mul_of_pos_right (by exact_mod_cast bitcount_lt tman) (two_zpow_pos texp)
      _ = 2 ^ ((bitcount tman : ℤ) + texp) := by rw [zpow_add₀ (by norm_num), zpow_natCast]
      _ ≤ 2 ^ (sexp - (g : ℤ)) := zpow_le_zpow_right₀ (by norm_num) (by omega)
  obtain ⟨hadd, hsub⟩ := addFar_perturb hss (by omega : sman ≠ 0) sexp (by omega : 0 < p) rnd hg2 hg3 htpos htval
  by_cases hsame : tsign = ssign
  · rw [if_pos hsame, hsame, ← mul_add]; exact hadd
  · rw [if_neg hsame, neg_one_pow_of_ne hss hts (Ne.symm hsame), neg_mul, ← sub_eq_add_neg, ← mul_sub]
    exact hsub

theorem addFar_spec {ssign tsign sman tman : ℕ} {sexp texp : ℤ} (hss : ssign ≤ 1) (hts : tsign ≤ 1)
    (hso : sman % 2 = 1) (hto : tman % 2 = 1) (hoff : sexp - texp > 0) {prec : ℤ} (hp : 0 ≤ prec) (rnd : Rnd) :
    RoundOK prec rnd ((-1 : ℚ) ^ ssign * ((sman : ℚ) * 2 ^ sexp) + (-1 : ℚ) ^ tsign * ((tman : ℚ) * 2 ^ texp))
      (addFar ssign sman sexp (bitcount sman) tsign tman texp (bitcount tman) prec rnd) := by
  unfold addFar
  dsimp only
  split
  · rename_i hc
    obtain ⟨_, hp0, hdelta, hbelow⟩ := hc
    exact addFar_shortcut hss hts hso hto (by omega) rnd hdelta hbelow
  · exact addFar_general hss hts hto hoff hp rnd

/-- equal exponents: plain integer addition of the signed mantissas -/
theorem addEq_spec {ssign tsign sman tman : ℕ} {e : ℤ} (hss : ssign ≤ 1) (hts : tsign ≤ 1)
    {prec : ℤ} (hp : 0 ≤ prec) (rnd : Rnd) :
    RoundOK prec rnd ((-1 : ℚ) ^ ssign * ((sman : ℚ) * 2 ^ e) + (-1 : ℚ) ^ tsign * ((tman : ℚ) * 2 ^ e))
      (normalize
        (if ssign = tsign then ssign
          else if (if ssign = tsign then (tman : ℤ) + sman
                    else if ssign ≠ 0 then (tman : ℤ) - sman else (sman : ℤ) - tman) ≥ 0 then 0 else 1)
        (if ssign = tsign then (tman : ℤ) + sman
          else if ssign ≠ 0 then (tman : ℤ) - sman else (sman : ℤ) - tman).natAbs e
        (bitcount (if ssign = tsign then (tman : ℤ) + sman
          else if ssign ≠ 0 then (tman : ℤ) - sman else (sman : ℤ) - tman).natAbs)
        (if prec ≠ 0 then prec
          else (bitcount (if ssign = tsign then (tman : ℤ) + sman
            else if ssign ≠ 0 then (tman : ℤ) - sman else (sman : ℤ) - tman).natAbs : ℤ)) rnd) := by
  by_cases heq : ssign = tsign
  · subst heq
    simp only [if_true]
    rw [show ((tman : ℤ) + sman).natAbs = tman + sman by omega, ← mul_add, ← add_mul, add_comm (sman : ℚ),
      ← Nat.cast_add]
    exact normalize_nat hss _ e hp rnd
  · simp only [if_neg heq]
    rw [signed_diff hss hts heq]
    exact normalize_int _ e hp rnd

theorem val_canon {s : Mpf} (hsg : s.sign ≤ 1) : val s = (-1 : ℚ) ^ s.sign * ((s.man : ℚ) * 2 ^ s.exp) :=
  val_def s

theorem tsign_val (t : Mpf) (hts : t.sign ≤ 1) (sub : Bool) :
    (-1 : ℚ) ^ (if sub then (if t.sign = 0 then 1 else 0) else t.sign) * ((t.man : ℚ) * 2 ^ t.exp)
      = if sub then -val t else val t := by
  rw [val_def t]
  have h : t.sign = 0 ∨ t.sign = 1 := by omega
  cases sub <;> rcases h with h | h <;> simp [h]

/-- **addition and subtraction are correctly rounded** for all finite canonical operands, every
precision (`0` = exact) and all five rounding modes. -/
theorem mpf_add_spec {s t : Mpf} (hs : CanonFin s) (ht : CanonFin t) {prec : ℤ} (hp : 0 ≤ prec)
    (rnd : Rnd) (sub : Bool) :
    RoundOK prec rnd (if sub then val s - val t else val s + val t) (mpf_add s t prec rnd sub) := by
  unfold mpf_add
  dsimp only
  set tsign := (if sub then (if t.sign = 0 then 1 else 0) else t.sign) with htsign
  rcases hs.cases with rfl | ⟨hsm, hss, hso, hsb⟩
  · rcases ht.cases with rfl | ⟨htm, hts, hto, htb⟩
    · have : (if sub then mpf_neg fzero else fzero) = fzero := by cases sub <;> simp [mpf_neg, fzero]
      simp only [fzero, ne_eq, not_true_eq_false, false_and, if_false, if_true] at this ⊢
      simp only [this]
      have hv : val (⟨0, 0, 0, 0⟩ : Mpf) = 0 := val_fzero
      rw [hv]; simp only [sub_self, add_zero, ite_self]
      exact roundOK_fzero hp rnd
    · have h0 : fzero.man = 0 := rfl
      have h1 : fzero.exp = 0 := rfl
      simp only [h0, h1, ne_eq, not_true_eq_false, false_and, if_false, if_true, htm, not_false_eq_true]
      have htsle : tsign ≤ 1 := by
        rw [htsign]; cases sub
        · simpa using hts
        · simp only [if_true]; split <;> omega
      have hn := normalize1_nat htsle (Or.inl hto) t.exp hp rnd
      rw [htb]
      convert hn using 1
      rw [val_fzero, htsign, tsign_val t hts sub]
      cases sub <;> simp
  · rcases ht.cases with rfl | ⟨htm, hts, hto, htb⟩
    · have h0 : fzero.man = 0 := rfl
      have hneg : (if sub then mpf_neg fzero else fzero) = fzero := by cases sub <;> simp [mpf_neg, fzero]
      simp only [h0, ne_eq, not_true_eq_false, and_false, if_false, hsm, hneg]
      have h1 : fzero.exp = 0 := rfl
      simp only [h1, not_true_eq_false, if_false]
      have := normalize1_nat hss (Or.inl hso) s.exp hp rnd
      rw [hsb]
      convert this using 1
      rw [val_fzero, val_def s]; cases sub <;> simp
    · have htsle : tsign ≤ 1 := by
        rw [htsign]; cases sub
        · simpa using hts
        · simp only [if_true]; split <;> omega
      have hval : (if sub then val s - val t else val s + val t)
          = (-1 : ℚ) ^ s.sign * ((s.man : ℚ) * 2 ^ s.exp) + (-1 : ℚ) ^ tsign * ((t.man : ℚ) * 2 ^ t.exp) := by
        rw [htsign, tsign_val t hts sub, val_def s]
        cases sub <;> simp <;> ring
      rw [hval, if_pos ⟨hsm, htm⟩, hsb, htb]
      by_cases hoff : s.exp - t.exp > 0
      · rw [if_pos hoff]
        exact addFar_spec hss htsle hso hto hoff hp rnd
      · rw [if_neg hoff]
        by_cases hoff' : s.exp - t.exp < 0
        · rw [if_pos hoff', add_comm]
          exact addFar_spec htsle hss hto hso (sexp := t.exp) (texp := s.exp) (by omega) hp rnd
        · rw [if_neg hoff', show s.exp = t.exp by omega]
          exact addEq_spec hss htsle hp rnd

theorem mpf_sub_spec {s t : Mpf} (hs : CanonFin s) (ht : CanonFin t) {prec : ℤ} (hp : 0 ≤ prec) (rnd : Rnd) :
    RoundOK prec rnd (val s - val t) (mpf_sub s t prec rnd) := by
  have := mpf_add_spec hs ht hp rnd true
  simpa [mpf_sub] using this

/-- an infinite first operand of `mpf_add` / `mpf_sub` is returned unchanged, unless the second operand (negated for
`sub`) is the opposite infinity or nan -/
theorem mpf_add_inf_left {s : Mpf} (hs : s = finf ∨ s = fninf) (t : Mpf) (prec : ℤ) (rnd : Rnd) (sub : Bool) :
    mpf_add s t prec rnd sub =
      if s = (if sub then mpf_neg t else t) ∨ t.man ≠ 0 ∨ t.exp = 0 then s else fnan := by
  have hm : s.man = 0 := by rcases hs with rfl | rfl <;> rfl
  have he : s.exp ≠ 0 := by rcases hs with rfl | rfl <;> decide
  unfold mpf_add
  rw [if_neg (fun h => h.1 hm)]
  dsimp only
  rw [if_pos hm, if_pos he]

theorem mpf_add_inf_right {s t : Mpf} (hs : CanonFin s) (ht : t = finf ∨ t = fninf) (prec : ℤ) (rnd : Rnd) (sub : Bool) :
    mpf_add s t prec rnd sub = if sub then mpf_neg t else t := by
  have hm : t.man = 0 := by rcases ht with rfl | rfl <;> rfl
  have he : t.exp ≠ 0 := by rcases ht with rfl | rfl <;> decide
  unfold mpf_add
  rw [if_neg (fun h => h.2 hm)]
  dsimp only
  rcases hs.cases with rfl | ⟨h0, _⟩
  · have z1 : fzero.man = 0 := rfl
    have z2 : ¬ fzero.exp ≠ 0 := by decide
    rw [if_pos z1, if_neg z2, if_neg (fun h => h hm)]
  · rw [if_neg h0, if_pos he]

end Mp

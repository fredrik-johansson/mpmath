/-
  MpProofs/Bits.lean — bit length and trailing-zero lemmas for the model's `bitcount` / `trailing`.
-/
import MpProofs.Spec
import Mathlib.Algebra.Order.Ring.Nat

namespace Mp

@[simp] theorem bitcount_zero : bitcount 0 = 0 := by simp [bitcount]

theorem bitcount_pos {n : Nat} (h : n ≠ 0) : 0 < bitcount n := by
  simp [bitcount, h]

theorem bitcount_lt (n : Nat) : n < 2 ^ bitcount n := by
  unfold bitcount; split
  · subst_vars; simp
  · exact Nat.lt_log2_self

theorem bitcount_le {n : Nat} (h : n ≠ 0) : 2 ^ (bitcount n - 1) ≤ n := by
  simp [bitcount, h]; exact Nat.log2_self_le h

theorem bitcount_eq {n k : Nat} (h1 : 2 ^ k ≤ n) (h2 : n < 2 ^ (k+1)) : bitcount n = k + 1 := by
  have hn : n ≠ 0 := by have := Nat.two_pow_pos k; omega
  simp only [bitcount, hn, if_false]
  congr 1
  apply Nat.le_antisymm
  · have := (Nat.log2_lt hn (k := k+1)).2 h2; omega
  · exact (Nat.le_log2 hn).2 h1

theorem bitcount_le_of_lt {n k : Nat} (h : n < 2 ^ k) : bitcount n ≤ k := by
  by_cases hn : n = 0
  · simp [hn]
  · have h1 := bitcount_le hn
    have : 2 ^ (bitcount n - 1) < 2 ^ k := lt_of_le_of_lt h1 h
    have := (Nat.pow_lt_pow_iff_right (a := 2) (by norm_num)).1 this
    omega

theorem lt_bitcount_of_le {n k : Nat} (h : 2 ^ k ≤ n) : k < bitcount n := by
  have h2 := bitcount_lt n
  have : 2 ^ k < 2 ^ bitcount n := lt_of_le_of_lt h h2
  exact (Nat.pow_lt_pow_iff_right (a := 2) (by norm_num)).1 this

theorem bitcount_one : bitcount 1 = 1 := by decide

theorem bitcount_two_pow (k : Nat) : bitcount (2 ^ k) = k + 1 :=
  bitcount_eq (le_refl _) (by rw [pow_succ]; have := Nat.two_pow_pos k; omega)

theorem bitcount_div {n k : Nat} (hk : k < bitcount n) : bitcount (n / 2^k) = bitcount n - k := by
  have hn : n ≠ 0 := by intro h; simp [h] at hk
  have h1 := bitcount_le hn
  have h2 := bitcount_lt n
  have : bitcount n - k = (bitcount n - k - 1) + 1 := by omega
  rw [this]
  apply bitcount_eq
  · rw [Nat.le_div_iff_mul_le (Nat.two_pow_pos k), ← Nat.pow_add]
    have : bitcount n - k - 1 + k = bitcount n - 1 := by omega
    rw [this]; exact h1
  · rw [Nat.div_lt_iff_lt_mul (Nat.two_pow_pos k), ← Nat.pow_add]
    have : bitcount n - k - 1 + 1 + k = bitcount n := by omega
    rw [this]; exact h2

theorem bitcount_mul_two_pow {n : Nat} (hn : n ≠ 0) (k : Nat) : bitcount (n * 2^k) = bitcount n + k := by
  have h1 := bitcount_le hn
  have h2 := bitcount_lt n
  have hb := bitcount_pos hn
  have : bitcount n + k = (bitcount n - 1 + k) + 1 := by omega
  rw [this]
  apply bitcount_eq
  · rw [Nat.pow_add]; exact Nat.mul_le_mul_right _ h1
  · have : bitcount n - 1 + k + 1 = bitcount n + k := by omega
    rw [this, Nat.pow_add]; exact Nat.mul_lt_mul_of_pos_right h2 (Nat.two_pow_pos k)

theorem bitcount_mono {a b : Nat} (h : a ≤ b) : bitcount a ≤ bitcount b :=
  bitcount_le_of_lt (lt_of_le_of_lt h (bitcount_lt b))

theorem bitcount_mul_bounds {a b : Nat} (ha : a ≠ 0) (hb : b ≠ 0) :
    bitcount a + bitcount b - 1 ≤ bitcount (a * b) ∧ bitcount (a * b) ≤ bitcount a + bitcount b := by
  have a1 := bitcount_le ha; have a2 := bitcount_lt a
  have b1 := bitcount_le hb; have b2 := bitcount_lt b
  have pa := bitcount_pos ha; have pb := bitcount_pos hb
  constructor
  · have : 2 ^ (bitcount a - 1 + (bitcount b - 1)) ≤ a * b := by
      rw [Nat.pow_add]; exact Nat.mul_le_mul a1 b1
    have := lt_bitcount_of_le this
    omega
  · apply bitcount_le_of_lt
    rw [Nat.pow_add]
    exact Nat.mul_lt_mul'' a2 b2

theorem trailingAux_spec : ∀ (fuel n : Nat), n ≠ 0 → n < 2 ^ fuel →
    2 ^ trailingAux fuel n ∣ n ∧ (n / 2 ^ trailingAux fuel n) % 2 = 1
  | 0, n, h0, hlt => by simp at hlt; omega
  | fuel+1, n, h0, hlt => by
    unfold trailingAux
    split
    · rename_i h1; simp [h1]
    · rename_i h1
      have hne : n / 2 ≠ 0 := by omega
      have hlt' : n / 2 < 2 ^ fuel := by rw [pow_succ] at hlt; omega
      obtain ⟨ih1, ih2⟩ := trailingAux_spec fuel (n/2) hne hlt'
      constructor
      · rw [pow_succ]
        have h2 : n = n / 2 * 2 := by omega
        conv_rhs => rw [h2]
        exact Nat.mul_dvd_mul_right ih1 2
      · rw [pow_succ, mul_comm, ← Nat.div_div_eq_div_mul]
        exact ih2

theorem trailing_dvd (n : Nat) : 2 ^ trailing n ∣ n := by
  unfold trailing; split
  · simp
  · rename_i h; exact (trailingAux_spec _ n h (bitcount_lt n)).1

theorem trailing_odd {n : Nat} (h : n ≠ 0) : (n / 2 ^ trailing n) % 2 = 1 := by
  unfold trailing; simp only [h, if_false]
  exact (trailingAux_spec _ n h (bitcount_lt n)).2

theorem trailing_of_odd {n : Nat} (h : n % 2 = 1) : trailing n = 0 := by
  have hn : n ≠ 0 := by omega
  unfold trailing; simp only [hn, if_false]
  have hb := bitcount_pos hn
  obtain ⟨k, hk⟩ : ∃ k, bitcount n = k + 1 := ⟨bitcount n - 1, by omega⟩
  rw [hk]; unfold trailingAux; simp [h]

theorem trailing_eq_one {n : Nat} (h0 : n % 2 = 0) (h1 : (n / 2) % 2 = 1) : trailing n = 1 := by
  have hn : n ≠ 0 := by omega
  obtain ⟨k, hk⟩ : ∃ k, bitcount n = k + 2 :=
    ⟨bitcount n - 2, by have := lt_bitcount_of_le (n := n) (k := 1) (by omega); omega⟩
  simp only [trailing, hn, if_false, hk, trailingAux, h1, if_true, if_neg (show ¬ n % 2 = 1 by omega)]

theorem trailing_pow_two (j : Nat) : trailing (2 ^ j) = j := by
  have hle : trailing (2 ^ j) ≤ j := (Nat.pow_dvd_pow_iff_le_right (by norm_num)).1 (trailing_dvd _)
  have ho := trailing_odd (Nat.two_pow_pos j).ne'
  rw [Nat.pow_div hle (by norm_num)] at ho
  by_contra hne
  obtain ⟨k, hk⟩ : ∃ k, j - trailing (2 ^ j) = k + 1 := ⟨j - trailing (2 ^ j) - 1, by omega⟩
  rw [hk, pow_succ, Nat.mul_mod_left] at ho
  exact absurd ho (by decide)

theorem shiftRight_trailing_ne_zero {n : Nat} (h : n ≠ 0) : n >>> trailing n ≠ 0 := by
  rw [Nat.shiftRight_eq_div_pow]
  have := trailing_odd h
  omega

theorem trailing_lt_bitcount {n : Nat} (h : n ≠ 0) : trailing n < bitcount n := by
  by_contra hc
  have hc : bitcount n ≤ trailing n := by omega
  have h1 : 2 ^ trailing n ≤ n := Nat.le_of_dvd (Nat.pos_of_ne_zero h) (trailing_dvd n)
  have h2 := bitcount_lt n
  have : 2 ^ bitcount n ≤ 2 ^ trailing n := Nat.pow_le_pow_right (by norm_num) hc
  omega

theorem bitcount_shiftRight_trailing {n : Nat} (h : n ≠ 0) :
    bitcount (n >>> trailing n) = bitcount n - trailing n := by
  rw [Nat.shiftRight_eq_div_pow]
  exact bitcount_div (trailing_lt_bitcount h)

theorem shiftRight_trailing_mul (n : Nat) : (n >>> trailing n) * 2 ^ trailing n = n := by
  rw [Nat.shiftRight_eq_div_pow]
  exact Nat.div_mul_cancel (trailing_dvd n)

/-- the binade of a nonzero `m·2^e`, read off the bit length -/
theorem mag_bounds (m : ℕ) (hm : m ≠ 0) (e : ℤ) :
    (2 : ℚ) ^ (e + bitcount m - 1) ≤ (m : ℚ) * 2 ^ e ∧ (m : ℚ) * 2 ^ e < 2 ^ (e + bitcount m) := by
  have h1 := bitcount_le hm
  have h2 := bitcount_lt m
  have hb := bitcount_pos hm
  have he : (0 : ℚ) < 2 ^ e := zpow_pos (by norm_num) e
  constructor
  · have : (2 : ℚ) ^ (e + bitcount m - 1) = 2 ^ (bitcount m - 1) * 2 ^ e := by
      rw [← zpow_natCast, ← zpow_add₀ (by norm_num)]; congr 1
      have : ((bitcount m - 1 : ℕ) : ℤ) = (bitcount m : ℤ) - 1 := by omega
      rw [this]; ring
    rw [this]
    have : ((2 : ℚ) ^ (bitcount m - 1)) ≤ m := by exact_mod_cast h1
    exact mul_le_mul_of_nonneg_right this he.le
  · have : (2 : ℚ) ^ (e + bitcount m) = 2 ^ (bitcount m) * 2 ^ e := by
      rw [← zpow_natCast, ← zpow_add₀ (by norm_num)]; congr 1; ring
    rw [this]
    have : (m : ℚ) < (2 : ℚ) ^ (bitcount m) := by exact_mod_cast h2
    exact mul_lt_mul_of_pos_right this he

/-- equal dyadic numbers: the mantissa at the smaller exponent is the other one shifted -/
theorem dyadic_cancel {m1 m2 : Nat} {e1 e2 : Int} (hle : e2 ≤ e1)
    (h : (m1 : ℚ) * (2:ℚ) ^ e1 = (m2 : ℚ) * (2:ℚ) ^ e2) : m2 = m1 * 2 ^ (e1 - e2).toNat := by
  obtain ⟨u, rfl⟩ : ∃ u : ℕ, e1 = e2 + u := ⟨(e1 - e2).toNat, by omega⟩
  rw [zpow_add₀ (by norm_num : (2:ℚ) ≠ 0), zpow_natCast, mul_comm ((2:ℚ) ^ e2), ← mul_assoc] at h
  rw [show (e2 + (u : ℤ) - e2).toNat = u by omega]
  exact_mod_cast (mul_right_cancel₀ (zpow_pos (by norm_num : (0:ℚ) < 2) e2).ne' h).symm

/-- sign and magnitude of an integer -/
theorem neg_one_pow_mul_natAbs (Z : ℤ) :
    (-1 : ℚ) ^ (if Z ≥ 0 then 0 else 1 : ℕ) * ((Z.natAbs : ℚ)) = (Z : ℚ) := by
  split
  · rename_i h
    rw [pow_zero, one_mul, Nat.cast_natAbs, abs_of_nonneg h]
  · rename_i h
    rw [pow_one, Nat.cast_natAbs, abs_of_neg (not_le.1 h)]; push_cast; ring

end Mp

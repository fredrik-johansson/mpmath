/-
  Props/C04pow.lean — C04, the clause on `z**n`:
  "each of the real and imaginary parts … of z**n (n ≥ 0, exact result of at most about 10^4 bits) is the correctly
  rounded value of the exact component".

  `mpc_pow_int` for a complex `z` with both components nonzero and `n ≥ 3` takes the exact route when
  `n·(|e_a − e_b| + max(bc_a, bc_b)) < 10000`: it computes `(A + B i)^n` in ℤ[i] by binary exponentiation and rounds each
  component once.  The theorem is for every such input, every precision and rounding mode.  `cpowQ x y n` is the pair
  (Re, Im) of `(x + y i)^n` (`cpowQ_complex` relates it to Mathlib's complex power).  `n = 0, 1, 2` go to
  `mpc_one`, `mpc_pos`, `mpc_square` (C04_pow_small).  Pure-axis arguments go through `mpf_pow_int` (C03), which is
  not correctly rounded in general — recorded finding F1.
-/
import MpProofs.CPow
import Props.C04
import Mathlib.Data.Complex.Basic

namespace Mp

theorem cpowQ_complex (x y : ℚ) (n : ℕ) :
    ((x : ℂ) + (y : ℂ) * Complex.I) ^ n = ((cpowQ x y n).1 : ℂ) + ((cpowQ x y n).2 : ℂ) * Complex.I := by
  induction n with
  | zero => simp [cpowQ]
  | succ n ih =>
    rw [pow_succ, ih]
    simp only [cpowQ]
    push_cast
    linear_combination ((cpowQ x y n).2 * y : ℂ) * Complex.I_sq

/-- **z**n, exact regime**: both components are correctly rounded, in every rounding mode, at every precision -/
theorem C04_pow_int_exact (fallback : Mpc → Int → Int → Rnd → Except Err Mpc)
    {z : Mpc} (hz : CanonFinC z) (ha : z.1 ≠ fzero) (hb : z.2 ≠ fzero) {n : ℤ} (hn : 3 ≤ n)
    (hsize : n * (((z.1.exp - z.2.exp).natAbs : ℤ) + max z.1.bc z.2.bc) < 10000)
    {prec : ℤ} (hp : 0 ≤ prec) (rnd : Rnd) :
    ∃ re im, mpc_pow_int fallback z n prec rnd = .ok (re, im) ∧
      RoundOK prec rnd (cpowQ (val z.1) (val z.2) n.toNat).1 re ∧
      RoundOK prec rnd (cpowQ (val z.1) (val z.2) n.toNat).2 im := by
  have hsa : z.1.sign ≤ 1 := (hz.1.resolve_left ha).1
  have hsb : z.2.sign ≤ 1 := (hz.2.resolve_left hb).1
  exact ⟨_, _, mpc_pow_int_exact_eq fallback ha hb hn hsize prec rnd,
    mpcPowExact_spec z.1 z.2 hsa hsb n.toNat hp rnd⟩

theorem C04_pow_small (fallback : Mpc → Int → Int → Rnd → Except Err Mpc)
    {z : Mpc} (ha : z.1 ≠ fzero) (hb : z.2 ≠ fzero) (prec : ℤ) (rnd : Rnd) :
    mpc_pow_int fallback z 0 prec rnd = .ok mpc_one ∧
    mpc_pow_int fallback z 1 prec rnd = .ok (mpc_pos z prec rnd) ∧
    mpc_pow_int fallback z 2 prec rnd = .ok (mpc_square z prec rnd) := by
  refine ⟨?_, ?_, ?_⟩ <;> · unfold mpc_pow_int; simp [ha, hb]

/-! non-vacuity: (1 + 2i)^3 = -11 - 2i -/
example : mpcPowExact ⟨0, 1, 0, 1⟩ ⟨0, 1, 1, 1⟩ 3 53 .n = (⟨1, 11, 0, 4⟩, ⟨1, 1, 1, 1⟩) := by decide
example : (3 : ℤ) * ((((0 : ℤ) - 1).natAbs : ℤ) + max 1 1) < 10000 := by decide
example : cpowQ 1 2 3 = (-11, -2) := by norm_num [cpowQ]

end Mp

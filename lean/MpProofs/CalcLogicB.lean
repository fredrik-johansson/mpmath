/-
  MpProofs/CalcLogicB.lean — theorems about `MpModel/CalcLogicB.lean`:
  the `odefun` segment store (`get_series`) and the `QuadratureRule.summation` accumulation loop.

  The quadrature theorems are about the import-free model `Mp.Calc.quadSum` itself, instantiated at an
  arbitrary Mathlib `AddCommGroup V` (whose `Add`/`Zero` are the core classes the model is generic over).
-/
import MpModel.CalcLogicB
import Mathlib.Order.Monotone.Basic
import Mathlib.Order.Nat
import Mathlib.Algebra.Group.Basic
import Mathlib.Algebra.Group.Int.Defs
import Mathlib.Algebra.Order.Ring.Int
import Mathlib.Tactic.Abel

namespace Mp
namespace Calc

section Bisect
variable {X : Type} [LinearOrder X]

/-- Loop invariant of `bisect_right` on a sorted list: if everything left of `lo` is `≤ x` and everything
from `hi` on is `> x`, then the returned index `r` splits the whole list that way. -/
theorem bisectLoop_spec (a : List X)
    (hs : ∀ i j (_ : i ≤ j) (hj : j < a.length), a[i]'(by omega) ≤ a[j]) (x : X) :
    ∀ fuel lo hi, hi ≤ a.length → lo ≤ hi → hi - lo ≤ fuel →
      (∀ i (h : i < a.length), i < lo → a[i] ≤ x) →
      (∀ i (h : i < a.length), hi ≤ i → x < a[i]) →
      lo ≤ bisectLoop a x fuel lo hi ∧ bisectLoop a x fuel lo hi ≤ hi ∧
      (∀ i (h : i < a.length), i < bisectLoop a x fuel lo hi → a[i] ≤ x) ∧
      (∀ i (h : i < a.length), bisectLoop a x fuel lo hi ≤ i → x < a[i]) := by
  intro fuel
  induction fuel with
  | zero =>
    intro lo hi _ hlh hf hL hR
    have : lo = hi := by omega
    subst this
    simp only [bisectLoop]
    exact ⟨le_refl _, le_refl _, hL, hR⟩
  | succ fuel ih =>
    intro lo hi hhi hlh hf hL hR
    unfold bisectLoop
    by_cases hlt : lo < hi
    · have hmid1 : lo ≤ (lo + hi) / 2 := by omega
      have hmid2 : (lo + hi) / 2 < hi := by omega
      have hmidlen : (lo + hi) / 2 < a.length := by omega
      simp only [hlt, if_true, List.getElem?_eq_getElem hmidlen]
      by_cases hxv : x < a[(lo + hi) / 2]
      · simp only [hxv, if_true]
        have := ih lo ((lo + hi) / 2) (by omega) hmid1 (by omega) hL
          (fun i h hi' => lt_of_lt_of_le hxv (hs _ _ hi' h))
        exact ⟨this.1, by omega, this.2.2.1, this.2.2.2⟩
      · simp only [hxv, if_false]
        have := ih ((lo + hi) / 2 + 1) hi hhi (by omega) (by omega)
          (fun i h hi' => le_trans (hs i _ (by omega) hmidlen) (not_lt.mp hxv)) hR
        exact ⟨by omega, this.2.1, this.2.2.1, this.2.2.2⟩
    · have : lo = hi := by omega
      subst this
      simp only [hlt, if_false]
      exact ⟨le_refl _, le_refl _, hL, hR⟩

/-- `bisect(a, x)` on a sorted list is the split index `r`: `a[i] ≤ x` for `i < r`, `x < a[i]` for `i ≥ r`
(hence `r` = number of elements `≤ x`). -/
theorem bisectRight_spec (a : List X)
    (hs : ∀ i j (_ : i ≤ j) (hj : j < a.length), a[i]'(by omega) ≤ a[j]) (x : X) :
    bisectRight a x ≤ a.length ∧
    (∀ i (h : i < a.length), i < bisectRight a x → a[i] ≤ x) ∧
    (∀ i (h : i < a.length), bisectRight a x ≤ i → x < a[i]) := by
  have := bisectLoop_spec a hs x a.length 0 a.length (le_refl _) (Nat.zero_le _) (by omega)
    (fun i _ hi => absurd hi (Nat.not_lt_zero _)) (fun i h hi => absurd h (by omega))
  exact ⟨this.2.1, this.2.2.1, this.2.2.2⟩

end Bisect

section Store
variable {S X Y : Type} (step : X → Y → S × X) (endval : S → X → X → Y) (x0 : X) (y0 : Y)

/-- The canonical infinite segment sequence determined by `(step, endval, x0, y0)` alone:
`seg 0 = (ser₀, x0, xb₀)` with `(ser₀, xb₀) = step x0 y0`, and `seg (k+1)` is the segment computed from
`seg k` by one pass of the `while` body (`xa_{k+1} = xb_k`, started at `endval ser_k xa_k xb_k`). -/
def seg : Nat → Seg S X
  | 0 => ((step x0 y0).1, x0, (step x0 y0).2)
  | k + 1 => nextSeg step endval (seg k)

/-- The canonical boundary sequence `x0, xb₀, xb₁, …`. -/
def bd : Nat → X
  | 0 => x0
  | k + 1 => (seg step endval x0 y0 k).2.2

/-- The store holding exactly the first `m` canonical segments:
`data = [seg 0, …, seg (m-1)]`, `boundaries = [x0, xb₀, …, xb_{m-1}]`. -/
def prefixStore (m : Nat) : Store S X :=
  { boundaries := (List.range (m + 1)).map (bd step endval x0 y0),
    data := (List.range m).map (seg step endval x0 y0) }

/-- Progress hypothesis: every canonical segment has `xa_k < xb_k`. -/
def Progress [LT X] : Prop := ∀ k, (seg step endval x0 y0 k).2.1 < (seg step endval x0 y0 k).2.2

theorem seg_xa (k : Nat) : (seg step endval x0 y0 k).2.1 = bd step endval x0 y0 k := by
  cases k <;> rfl

theorem seg_xb (k : Nat) : (seg step endval x0 y0 k).2.2 = bd step endval x0 y0 (k + 1) := rfl

theorem init_eq_prefixStore : init step x0 y0 = prefixStore step endval x0 y0 1 := by
  simp [init, prefixStore, List.range_succ, seg, bd]

theorem prefixStore_succ (m : Nat) :
    ({ boundaries := (prefixStore step endval x0 y0 m).boundaries ++ [bd step endval x0 y0 (m + 1)],
       data := (prefixStore step endval x0 y0 m).data ++ [seg step endval x0 y0 m] } : Store S X)
      = prefixStore step endval x0 y0 (m + 1) := by
  simp [prefixStore, List.range_succ]

theorem prefixStore_data_getLast (n : Nat) :
    (prefixStore step endval x0 y0 (n + 1)).data.getLast? = some (seg step endval x0 y0 n) := by
  simp [prefixStore, List.range_succ]

theorem prefixStore_boundaries_getLast (m : Nat) :
    (prefixStore step endval x0 y0 m).boundaries.getLast? = some (bd step endval x0 y0 m) := by
  simp [prefixStore, List.range_succ]

theorem prefixStore_injective {m m' : Nat}
    (h : prefixStore step endval x0 y0 m = prefixStore step endval x0 y0 m') : m = m' := by
  have := congrArg (fun s => s.data.length) h
  simpa [prefixStore] using this

variable [LinearOrder X]

theorem extend_prefix_step (fuel n : Nat) (x : X) :
    extend step endval (fuel + 1) (prefixStore step endval x0 y0 (n + 1)) x =
      if x ≤ bd step endval x0 y0 (n + 2) then
        .ok (prefixStore step endval x0 y0 (n + 2), seg step endval x0 y0 (n + 1))
      else extend step endval fuel (prefixStore step endval x0 y0 (n + 2)) x := by
  rw [extend, prefixStore_data_getLast]
  have h1 : nextSeg step endval (seg step endval x0 y0 n) = seg step endval x0 y0 (n + 1) := rfl
  simp only [h1, seg_xb]
  rw [prefixStore_succ]

/-- The `while` loop on the `m`-prefix with `fuel` iterations: either it stops at the LEAST
`m' ∈ (m, m + fuel]` with `x ≤ xb_{m'-1}`, leaving the `m'`-prefix and answering `seg (m'-1)`, or there is no such
`m'` and the model reports `outOfFuel` (never a wrong answer). -/
theorem extend_prefix_cases : ∀ (fuel m : Nat) (x : X), 1 ≤ m →
    (∃ m', m < m' ∧ m' ≤ m + fuel ∧ x ≤ bd step endval x0 y0 m' ∧
        (∀ j, m < j → j < m' → bd step endval x0 y0 j < x) ∧
        extend step endval fuel (prefixStore step endval x0 y0 m) x =
          .ok (prefixStore step endval x0 y0 m', seg step endval x0 y0 (m' - 1))) ∨
      ((∀ j, m < j → j ≤ m + fuel → bd step endval x0 y0 j < x) ∧
        extend step endval fuel (prefixStore step endval x0 y0 m) x = .error .outOfFuel) := by
  intro fuel
  induction fuel with
  | zero => intro m x _; exact Or.inr ⟨fun j h1 h2 => by omega, rfl⟩
  | succ fuel ih =>
    intro m x hm
    obtain ⟨n, rfl⟩ : ∃ n, m = n + 1 := ⟨m - 1, by omega⟩
    rw [extend_prefix_step]
    by_cases hx : x ≤ bd step endval x0 y0 (n + 2)
    · rw [if_pos hx]
      exact Or.inl ⟨n + 2, by omega, by omega, hx, fun j h1 h2 => by omega, rfl⟩
    · rw [if_neg hx]
      have hlt := not_le.mp hx
      rcases ih (n + 2) x (by omega) with ⟨m', h1, h2, h3, h4, h5⟩ | ⟨h4, h5⟩
      · exact Or.inl ⟨m', by omega, by omega, h3,
          fun j a b => if hj : j = n + 2 then hj ▸ hlt else h4 j (by omega) b, h5⟩
      · exact Or.inr ⟨fun j a b => if hj : j = n + 2 then hj ▸ hlt else h4 j (by omega) (by omega), h5⟩

theorem extend_prefix_inv (fuel m : Nat) (x : X) (r : Store S X × Seg S X) (hm : 1 ≤ m)
    (h : extend step endval fuel (prefixStore step endval x0 y0 m) x = .ok r) :
    ∃ m', m < m' ∧ m' ≤ m + fuel ∧
      r = (prefixStore step endval x0 y0 m', seg step endval x0 y0 (m' - 1)) ∧
      x ≤ bd step endval x0 y0 m' ∧ ∀ j, m < j → j < m' → bd step endval x0 y0 j < x := by
  rcases extend_prefix_cases step endval x0 y0 fuel m x hm with ⟨m', h1, h2, h3, h4, h5⟩ | ⟨_, h5⟩
  · rw [h5] at h
    injection h with h
    exact ⟨m', h1, h2, h.symm, h3, h4⟩
  · rw [h5] at h
    cases h

theorem extend_prefix_ok (fuel m m' : Nat) (x : X) (hm : 1 ≤ m) (h1 : m < m') (h2 : m' - m ≤ fuel)
    (hx : x ≤ bd step endval x0 y0 m') (hj : ∀ j, m < j → j < m' → bd step endval x0 y0 j < x) :
    extend step endval fuel (prefixStore step endval x0 y0 m) x =
      .ok (prefixStore step endval x0 y0 m', seg step endval x0 y0 (m' - 1)) := by
  rcases extend_prefix_cases step endval x0 y0 fuel m x hm with ⟨m'', a, _, c, d, e⟩ | ⟨d, _⟩
  · obtain rfl : m'' = m' := by
      rcases lt_trichotomy m'' m' with h | h | h
      · exact absurd (hj m'' a h) (not_lt.mpr c)
      · exact h
      · exact absurd (d m' h1 h) (not_lt.mpr hx)
    exact e
  · exact absurd (d m' h1 (by omega)) (not_lt.mpr hx)

theorem extend_prefix_outOfFuel (fuel m m' : Nat) (x : X) (hm : 1 ≤ m) (_ : m < m') (h2 : fuel < m' - m)
    (hj : ∀ j, m < j → j < m' → bd step endval x0 y0 j < x) :
    extend step endval fuel (prefixStore step endval x0 y0 m) x = .error .outOfFuel := by
  rcases extend_prefix_cases step endval x0 y0 fuel m x hm with ⟨m'', a, _, c, _, _⟩ | ⟨_, e⟩
  · exact absurd (hj m'' a (by omega)) (not_lt.mpr c)
  · exact e

variable {step endval x0 y0}

theorem Progress.strictMono (hprog : Progress step endval x0 y0) : StrictMono (bd step endval x0 y0) :=
  strictMono_nat_of_lt_succ fun k => by
    have := hprog k
    rwa [seg_xa, seg_xb] at this

/-- Under progress, at most one canonical segment contains `x` in the left-closed sense. -/
theorem seg_index_unique (hprog : Progress step endval x0 y0) {x : X} {k k' : Nat}
    (h1 : bd step endval x0 y0 k ≤ x) (h2 : x < bd step endval x0 y0 (k + 1))
    (h1' : bd step endval x0 y0 k' ≤ x) (h2' : x < bd step endval x0 y0 (k' + 1)) : k = k' := by
  have hm := hprog.strictMono
  by_contra hne
  rcases Nat.lt_or_gt_of_ne hne with h | h
  · exact absurd (lt_of_lt_of_le h2 (le_trans (hm.monotone (by omega : k + 1 ≤ k')) h1')) (lt_irrefl _)
  · exact absurd (lt_of_lt_of_le h2' (le_trans (hm.monotone (by omega : k' + 1 ≤ k)) h1)) (lt_irrefl _)

/-- Every `x` with `x0 ≤ x < xb_{m-1}` lies in some canonical segment `k < m` (left-closed). -/
theorem seg_index_exists {x : X} : ∀ m : Nat, x0 ≤ x → x < bd step endval x0 y0 m →
    ∃ k, k < m ∧ bd step endval x0 y0 k ≤ x ∧ x < bd step endval x0 y0 (k + 1) := by
  intro m
  induction m with
  | zero => intro h1 h2; exact absurd (lt_of_le_of_lt h1 h2) (lt_irrefl _)
  | succ m ih =>
    intro h1 h2
    by_cases h : x < bd step endval x0 y0 m
    · obtain ⟨k, hk, h3⟩ := ih h1 h
      exact ⟨k, by omega, h3⟩
    · exact ⟨m, by omega, not_lt.mp h, h2⟩

omit [LinearOrder X] in
theorem prefixStore_boundaries_length (m : Nat) :
    (prefixStore step endval x0 y0 m).boundaries.length = m + 1 := by simp [prefixStore]

omit [LinearOrder X] in
theorem prefixStore_boundaries_getElem (m i : Nat) (h : i < (prefixStore step endval x0 y0 m).boundaries.length) :
    (prefixStore step endval x0 y0 m).boundaries[i] = bd step endval x0 y0 i := by simp [prefixStore]

theorem prefixStore_boundaries_sorted (hprog : Progress step endval x0 y0) (m : Nat) :
    ∀ i j (_ : i ≤ j) (hj : j < (prefixStore step endval x0 y0 m).boundaries.length),
      (prefixStore step endval x0 y0 m).boundaries[i]'(by omega) ≤
        (prefixStore step endval x0 y0 m).boundaries[j] := by
  intro i j hij hj
  rw [prefixStore_boundaries_getElem, prefixStore_boundaries_getElem]
  exact hprog.strictMono.monotone hij

/-- `bisect` on the boundaries of the `m`-prefix returns `k + 1` for a query with `xa_k ≤ x`, and `x < xb_k` unless
`k = m` (a query at or beyond the last boundary). -/
theorem bisect_prefix (hprog : Progress step endval x0 y0) {m k : Nat} {x : X} (hk : k ≤ m)
    (h1 : bd step endval x0 y0 k ≤ x) (h2 : k < m → x < bd step endval x0 y0 (k + 1)) :
    bisectRight (prefixStore step endval x0 y0 m).boundaries x = k + 1 := by
  obtain ⟨hle, hL, hR⟩ := bisectRight_spec _ (prefixStore_boundaries_sorted hprog m) x
  have hlen : (prefixStore step endval x0 y0 m).boundaries.length = m + 1 := prefixStore_boundaries_length m
  by_contra hne
  rcases Nat.lt_or_gt_of_ne hne with h | h
  · have := hR k (by omega) (by omega)
    rw [prefixStore_boundaries_getElem] at this
    exact absurd (lt_of_lt_of_le this h1) (lt_irrefl _)
  · have := hL (k + 1) (by omega) h
    rw [prefixStore_boundaries_getElem] at this
    exact absurd (lt_of_lt_of_le (h2 (by omega)) this) (lt_irrefl _)

omit [LinearOrder X] in
theorem pyIndex_prefix_data {m k : Nat} (hk : k < m) :
    pyIndex (prefixStore step endval x0 y0 m).data (((k + 1 : Nat) : Int) - 1) =
      some (seg step endval x0 y0 k) := by
  have : ((k + 1 : Nat) : Int) - 1 = (k : Int) := by omega
  rw [this]
  simp [pyIndex, prefixStore, hk]

/-- Query inside the stored range: answered without touching the store (any fuel, even 0), by the
segment `k` with `xa_k ≤ x < xb_k`. -/
theorem getSeries_stored (hprog : Progress step endval x0 y0) {m k : Nat} {x : X} (fuel : Nat) (hk : k < m)
    (h1 : bd step endval x0 y0 k ≤ x) (h2 : x < bd step endval x0 y0 (k + 1)) :
    getSeries step endval x0 fuel (prefixStore step endval x0 y0 m) x =
      .ok (prefixStore step endval x0 y0 m, seg step endval x0 y0 k) := by
  have hx0 : ¬ x < x0 := not_lt.mpr (le_trans (hprog.strictMono.monotone (Nat.zero_le k)) h1)
  unfold getSeries
  simp only [if_neg hx0, bisect_prefix hprog hk.le h1 fun _ => h2, prefixStore_boundaries_length]
  rw [if_pos (by omega), pyIndex_prefix_data hk]

/-- Query at or beyond the last stored boundary: the `while` loop runs. -/
theorem getSeries_beyond (hprog : Progress step endval x0 y0) {m : Nat} {x : X} (fuel : Nat)
    (h1 : bd step endval x0 y0 m ≤ x) :
    getSeries step endval x0 fuel (prefixStore step endval x0 y0 m) x =
      extend step endval fuel (prefixStore step endval x0 y0 m) x := by
  have hx0 : ¬ x < x0 := not_lt.mpr (le_trans (hprog.strictMono.monotone (Nat.zero_le m)) h1)
  unfold getSeries
  simp only [if_neg hx0, bisect_prefix hprog le_rfl h1 fun h => absurd h (lt_irrefl _),
    prefixStore_boundaries_length]
  rw [if_neg (by omega)]

variable (step endval x0)

/-- `Reach st st'`: `st'` is obtained from `st` by a finite sequence of successful `get_series` calls
(arbitrary query points, arbitrary fuel). -/
inductive Reach : Store S X → Store S X → Prop
  | refl (st : Store S X) : Reach st st
  | query {st st' st'' : Store S X} (fuel : Nat) (x : X) (sg : Seg S X) :
      Reach st st' → getSeries step endval x0 fuel st' x = .ok (st'', sg) → Reach st st''

variable (y0)

/-- Stores reachable from the initial store of `odefun(F, x0, y0)` by any query history. -/
def Reachable (st : Store S X) : Prop := Reach step endval x0 (init step x0 y0) st

variable {step endval x0 y0}

theorem Reach.trans {a b c : Store S X} (h1 : Reach step endval x0 a b) (h2 : Reach step endval x0 b c) :
    Reach step endval x0 a c := by
  induction h2 with
  | refl => exact h1
  | query fuel x sg _ hq ih => exact Reach.query fuel x sg ih hq

theorem reach_of_runQueries : ∀ (qs : List (Nat × X)) (st st' : Store S X) (sgs : List (Seg S X)),
    runQueries step endval x0 st qs = .ok (st', sgs) → Reach step endval x0 st st' := by
  intro qs
  induction qs with
  | nil =>
    intro st st' sgs h
    simp only [runQueries] at h
    injection h with h
    injection h with h1 _
    subst h1
    exact Reach.refl _
  | cons q qs ih =>
    intro st st' sgs h
    obtain ⟨fuel, x⟩ := q
    simp only [runQueries] at h
    split at h
    · cases h
    · rename_i st1 sg hq
      split at h
      · cases h
      · rename_i st2 sgs2 hr
        injection h with h
        injection h with h1 _
        subst h1
        exact Reach.trans (Reach.query fuel x sg (Reach.refl _) hq) (ih _ _ _ hr)

/-- A successful `get_series` on the `m`-prefix leaves an `m'`-prefix with `m' ≥ m`
(no order hypotheses needed: this is pure list bookkeeping). -/
theorem getSeries_prefix_store {m fuel : Nat} {x : X} {st' : Store S X} {sg : Seg S X} (hm : 1 ≤ m)
    (h : getSeries step endval x0 fuel (prefixStore step endval x0 y0 m) x = .ok (st', sg)) :
    ∃ m', m ≤ m' ∧ st' = prefixStore step endval x0 y0 m' := by
  unfold getSeries at h
  split at h
  · cases h
  · dsimp only at h
    split at h
    · split at h
      · injection h with h
        injection h with h1 _
        exact ⟨m, le_refl _, h1.symm⟩
      · cases h
    · obtain ⟨m', h1, _, h3, _⟩ := extend_prefix_inv step endval x0 y0 fuel m x _ hm h
      injection h3 with h3 _
      exact ⟨m', by omega, h3⟩

theorem reach_prefix {m : Nat} {st : Store S X} (hm : 1 ≤ m)
    (h : Reach step endval x0 (prefixStore step endval x0 y0 m) st) :
    ∃ m', m ≤ m' ∧ st = prefixStore step endval x0 y0 m' := by
  induction h with
  | refl => exact ⟨m, le_refl _, rfl⟩
  | query fuel x sg _ hq ih =>
    obtain ⟨m1, h1, rfl⟩ := ih
    obtain ⟨m2, h2, h3⟩ := getSeries_prefix_store (by omega) hq
    exact ⟨m2, by omega, h3⟩

/-- After ANY finite sequence of successful `get_series` queries, the store is a
prefix of the one canonical sequence: `data = [seg 0, …, seg (m-1)]` and
`boundaries = [x0, xb₀, …, xb_{m-1}]` for some `m ≥ 1`.  The query history influences only `m`. -/
theorem segments_prefix {st : Store S X} (h : Reachable step endval x0 y0 st) :
    ∃ m, 1 ≤ m ∧ st.data = (List.range m).map (seg step endval x0 y0) ∧
      st.boundaries = (List.range (m + 1)).map (bd step endval x0 y0) := by
  unfold Reachable at h
  rw [init_eq_prefixStore step endval x0 y0] at h
  obtain ⟨m, hm, rfl⟩ := reach_prefix (le_refl 1) h
  exact ⟨m, hm, rfl, rfl⟩

theorem segments_prefix' {st : Store S X} (h : Reachable step endval x0 y0 st) :
    ∃ m, 1 ≤ m ∧ st = prefixStore step endval x0 y0 m := by
  obtain ⟨m, hm, h1, h2⟩ := segments_prefix h
  exact ⟨m, hm, by cases st; simp_all [prefixStore]⟩

/-- The initial store is the 1-prefix, and it is reachable (empty history). -/
theorem reachable_init : Reachable step endval x0 y0 (prefixStore step endval x0 y0 1) := by
  unfold Reachable
  rw [init_eq_prefixStore step endval x0 y0]
  exact Reach.refl _

/-- Which segment answers a query `x ≥ x0` on the `m`-prefix store (`m ≥ 1`), under
progress `xa_k < xb_k`:

* (stored range, `x < xb_{m-1}`)  the store is unchanged and the answer is `seg k` for the UNIQUE `k` with
  `xa_k ≤ x < xb_k` — left-closed, so a stored interior boundary point is answered by the segment on its
  RIGHT; no fuel is used;
* (beyond, `xb_{m-1} ≤ x`)  for the least `m' > m` with `x ≤ xb_{m'-1}` the store becomes the `m'`-prefix and
  the answer is `seg (m'-1)` — right-closed, so a query that hits the NEW last boundary `xb_{m'-1}` exactly
  is answered by the segment on its LEFT (and so is `x = xb_{m-1}` itself: it is sent to the new segment
  `seg m` only because `m' = m+1` is forced).  Exactly `m' - m` units of fuel are needed. -/
theorem getSeries_spec (hprog : Progress step endval x0 y0) {m : Nat} (hm : 1 ≤ m) {x : X} (hx : x0 ≤ x) :
    (x < bd step endval x0 y0 m →
      ∃ k, k < m ∧ bd step endval x0 y0 k ≤ x ∧ x < bd step endval x0 y0 (k + 1) ∧
        (∀ k', bd step endval x0 y0 k' ≤ x → x < bd step endval x0 y0 (k' + 1) → k' = k) ∧
        ∀ fuel, getSeries step endval x0 fuel (prefixStore step endval x0 y0 m) x =
          .ok (prefixStore step endval x0 y0 m, seg step endval x0 y0 k)) ∧
    (bd step endval x0 y0 m ≤ x →
      ∀ m', m < m' → x ≤ bd step endval x0 y0 m' → (∀ j, m < j → j < m' → bd step endval x0 y0 j < x) →
        ∀ fuel,
          (m' - m ≤ fuel → getSeries step endval x0 fuel (prefixStore step endval x0 y0 m) x =
            .ok (prefixStore step endval x0 y0 m', seg step endval x0 y0 (m' - 1))) ∧
          (fuel < m' - m → getSeries step endval x0 fuel (prefixStore step endval x0 y0 m) x =
            .error .outOfFuel)) := by
  constructor
  · intro hlt
    obtain ⟨k, hk, h1, h2⟩ := seg_index_exists (y0 := y0) (step := step) (endval := endval) m hx hlt
    exact ⟨k, hk, h1, h2, fun k' a b => seg_index_unique hprog a b h1 h2,
      fun fuel => getSeries_stored hprog fuel hk h1 h2⟩
  · intro hge m' hmm' hxm' hj fuel
    rw [getSeries_beyond hprog fuel hge]
    exact ⟨fun hf => extend_prefix_ok step endval x0 y0 fuel m m' x hm hmm' hf hxm' hj,
      fun hf => extend_prefix_outOfFuel step endval x0 y0 fuel m m' x hm hmm' hf hj⟩

/-- Inversion form of `getSeries_spec`: whenever `get_series` succeeds on the `m`-prefix, the answer is
`seg k` for a `k` with `xa_k ≤ x ≤ xb_k`, and `x = xb_k` is only possible when segment `k` was appended by
this very call. -/
theorem getSeries_ok_inv (hprog : Progress step endval x0 y0) {m fuel : Nat} (hm : 1 ≤ m) {x : X}
    {st' : Store S X} {sg : Seg S X}
    (h : getSeries step endval x0 fuel (prefixStore step endval x0 y0 m) x = .ok (st', sg)) :
    x0 ≤ x ∧ ∃ k m', sg = seg step endval x0 y0 k ∧ st' = prefixStore step endval x0 y0 m' ∧ m ≤ m' ∧
      k < m' ∧ bd step endval x0 y0 k ≤ x ∧
      ((x < bd step endval x0 y0 (k + 1) ∧ m' = m) ∨
       (x ≤ bd step endval x0 y0 (k + 1) ∧ m < m' ∧ k + 1 = m')) := by
  have hx : x0 ≤ x := by
    by_contra hlt
    unfold getSeries at h
    rw [if_pos (not_le.mp hlt)] at h
    cases h
  refine ⟨hx, ?_⟩
  by_cases hlt : x < bd step endval x0 y0 m
  · obtain ⟨k, hk, h1, h2, _, h4⟩ := (getSeries_spec hprog hm hx).1 hlt
    rw [h4 fuel] at h
    injection h with h
    injection h with h5 h6
    exact ⟨k, m, h6.symm, h5.symm, le_refl _, hk, h1, Or.inl ⟨h2, rfl⟩⟩
  · have hge := not_lt.mp hlt
    rw [getSeries_beyond hprog fuel hge] at h
    obtain ⟨m', h1, _, h3, h4, h5⟩ := extend_prefix_inv step endval x0 y0 fuel m x _ hm h
    injection h3 with h6 h7
    refine ⟨m' - 1, m', h7, h6, by omega, by omega, ?_, Or.inr ⟨?_, h1, by omega⟩⟩
    · by_cases hmm : m' - 1 = m
      · rw [hmm]; exact hge
      · exact le_of_lt (h5 (m' - 1) (by omega) (by omega))
    · rw [show m' - 1 + 1 = m' by omega]; exact h4

/-- If `x ≥ x0` is not one of the boundary points `xb_k`, the
segment returned for `x` by ANY reachable store (any query history, any fuel that suffices) is `seg k`
for the unique `k` with `xa_k ≤ x < xb_k` — a function of `x` alone. -/
theorem order_independent_off_boundaries (hprog : Progress step endval x0 y0) {st st' : Store S X}
    (hr : Reachable step endval x0 y0 st) {x : X} (hoff : ∀ k, x ≠ bd step endval x0 y0 (k + 1))
    {fuel : Nat} {sg : Seg S X} (h : getSeries step endval x0 fuel st x = .ok (st', sg)) :
    ∃ k, bd step endval x0 y0 k ≤ x ∧ x < bd step endval x0 y0 (k + 1) ∧ sg = seg step endval x0 y0 k ∧
      ∀ k', bd step endval x0 y0 k' ≤ x → x < bd step endval x0 y0 (k' + 1) → k' = k := by
  obtain ⟨m, hm, rfl⟩ := segments_prefix' hr
  obtain ⟨_, k, m', h1, _, _, _, h2, h3⟩ := getSeries_ok_inv hprog hm h
  have hlt : x < bd step endval x0 y0 (k + 1) := by
    rcases h3 with h3 | h3
    · exact h3.1
    · exact lt_of_le_of_ne h3.1 (hoff k)
  exact ⟨k, h2, hlt, h1, fun k' a b => seg_index_unique hprog a b h2 hlt⟩

/-- Two-store form of `order_independent_off_boundaries`: off the boundary points any two reachable stores
give the same segment. -/
theorem order_independent_off_boundaries' (hprog : Progress step endval x0 y0)
    {st₁ st₂ st₁' st₂' : Store S X} (hr₁ : Reachable step endval x0 y0 st₁)
    (hr₂ : Reachable step endval x0 y0 st₂) {x : X} (hoff : ∀ k, x ≠ bd step endval x0 y0 (k + 1))
    {f₁ f₂ : Nat} {sg₁ sg₂ : Seg S X} (h₁ : getSeries step endval x0 f₁ st₁ x = .ok (st₁', sg₁))
    (h₂ : getSeries step endval x0 f₂ st₂ x = .ok (st₂', sg₂)) : sg₁ = sg₂ := by
  obtain ⟨k₁, a₁, b₁, c₁, _⟩ := order_independent_off_boundaries hprog hr₁ hoff h₁
  obtain ⟨k₂, a₂, b₂, c₂, _⟩ := order_independent_off_boundaries hprog hr₂ hoff h₂
  rw [c₁, c₂, seg_index_unique hprog a₁ b₁ a₂ b₂]

/-- If `x0 ≤ x < b` where `b` is the last boundary of a reachable
store `st`, then the answer for `x` is `seg k` for the unique `k` with `xa_k ≤ x < xb_k` (so it does not
depend on how `st` was reached), the store is not modified, no fuel is needed, and every store `st'`
reached from `st` by later queries gives the same answer. -/
theorem order_independent_given_stored (hprog : Progress step endval x0 y0) {st st' : Store S X}
    (hr : Reachable step endval x0 y0 st) {x b : X} (hx : x0 ≤ x)
    (hb : st.boundaries.getLast? = some b) (hxb : x < b) (hlater : Reach step endval x0 st st') :
    ∃ k, bd step endval x0 y0 k ≤ x ∧ x < bd step endval x0 y0 (k + 1) ∧
      (∀ k', bd step endval x0 y0 k' ≤ x → x < bd step endval x0 y0 (k' + 1) → k' = k) ∧
      (∀ fuel, getSeries step endval x0 fuel st x = .ok (st, seg step endval x0 y0 k)) ∧
      (∀ fuel, getSeries step endval x0 fuel st' x = .ok (st', seg step endval x0 y0 k)) := by
  obtain ⟨m, hm, rfl⟩ := segments_prefix' hr
  obtain ⟨m', hmm', rfl⟩ := reach_prefix hm hlater
  rw [prefixStore_boundaries_getLast] at hb
  injection hb with hb
  subst hb
  obtain ⟨k, hk, h1, h2, h3, h4⟩ := (getSeries_spec hprog hm hx).1 hxb
  exact ⟨k, h1, h2, h3, h4, fun fuel => getSeries_stored hprog fuel (by omega) h1 h2⟩

/-- Quantitative form of termination: if `x0 ≤ x ≤ xb_k` then fuel `k + 1` suffices for the query `x`
in every reachable store. -/
theorem getSeries_fuel_suffices (hprog : Progress step endval x0 y0) {st : Store S X}
    (hr : Reachable step endval x0 y0 st) {x : X} (hx : x0 ≤ x) {k : Nat}
    (hk : x ≤ bd step endval x0 y0 (k + 1)) {fuel : Nat} (hf : k + 1 ≤ fuel) :
    ∃ r, getSeries step endval x0 fuel st x = .ok r := by
  obtain ⟨m, hm, rfl⟩ := segments_prefix' hr
  by_cases hlt : x < bd step endval x0 y0 m
  · obtain ⟨k', _, _, _, _, h⟩ := (getSeries_spec hprog hm hx).1 hlt
    exact ⟨_, h fuel⟩
  · rw [getSeries_beyond hprog fuel (not_lt.mp hlt)]
    rcases extend_prefix_cases step endval x0 y0 fuel m x hm with ⟨m', _, _, _, _, e⟩ | ⟨d, _⟩
    · exact ⟨_, e⟩
    · -- out of fuel would put `x` beyond `xb_j` for `j = max (k+1) (m+1) ≤ m + fuel`, but `x ≤ xb_k ≤ xb_j`
      have := d (max (k + 1) (m + 1)) (by omega) (by omega)
      exact absurd (lt_of_lt_of_le this (hk.trans (hprog.strictMono.monotone (le_max_left _ _)))) (lt_irrefl _)

/-- Under progress and unboundedness of the boundaries, every query `x ≥ x0` on
every reachable store succeeds with enough fuel, i.e. the Python `while 1` loop terminates. -/
theorem getSeries_terminates (hprog : Progress step endval x0 y0)
    (hunb : ∀ x, ∃ k, x ≤ bd step endval x0 y0 (k + 1)) {st : Store S X}
    (hr : Reachable step endval x0 y0 st) {x : X} (hx : x0 ≤ x) :
    ∃ fuel r, getSeries step endval x0 fuel st x = .ok r := by
  obtain ⟨k, hk⟩ := hunb x
  exact ⟨k + 1, getSeries_fuel_suffices hprog hr hx hk (le_refl _)⟩

end Store

namespace Example

/-- `ode_taylor` stand-in on `X = Int`: the series is just the left endpoint, every segment has length 2,
so the canonical segments are `[0,2], [2,4], [4,6], …`. -/
def cstep : Int → Unit → Int × Int := fun x _ => (x, x + 2)
/-- `mpolyval` stand-in (the state is trivial). -/
def cend : Int → Int → Int → Unit := fun _ _ _ => ()

theorem cseg (k : Nat) : seg cstep cend 0 () k = ((2 * k : Int), (2 * k : Int), (2 * k + 2 : Int)) := by
  induction k with
  | zero => rfl
  | succ k ih =>
    rw [seg, ih]
    simp only [nextSeg, cstep]
    refine Prod.ext ?_ (Prod.ext ?_ ?_) <;> simp <;> omega

theorem cbd (k : Nat) : bd cstep cend 0 () k = (2 * k : Int) := by
  cases k with
  | zero => rfl
  | succ k => rw [bd, cseg]; simp; omega

theorem cprog : Progress cstep cend 0 () := by
  intro k; rw [cseg]; simp

theorem cunb : ∀ x : Int, ∃ k, x ≤ bd cstep cend 0 () (k + 1) := by
  intro x; refine ⟨x.toNat, ?_⟩; rw [cbd]; omega

/-- Segments `[0,2],[2,4],[4,6],…`; the answer to the query `x = 4`
depends on the history:
* on the fresh store it is segment `[2,4]` (the loop stops at `x <= xb`, answer from the LEFT);
* asked a second time it is segment `[4,6]` (by then `4` is a stored boundary, `bisect` sends it to the RIGHT,
  and because it is the last boundary a new segment is even computed for it);
* asked after the query `x = 5` it is segment `[4,6]` as well. -/
theorem order_dependent_counterexample :
    getSeries cstep cend 0 5 (init cstep 0 ()) 4
      = .ok (⟨[0, 2, 4], [(0, 0, 2), (2, 2, 4)]⟩, (2, 2, 4)) ∧
    getSeries cstep cend 0 5 ⟨[0, 2, 4], [(0, 0, 2), (2, 2, 4)]⟩ 4
      = .ok (⟨[0, 2, 4, 6], [(0, 0, 2), (2, 2, 4), (4, 4, 6)]⟩, (4, 4, 6)) ∧
    (runQueries cstep cend 0 (init cstep 0 ()) [(5, 4), (5, 4)]).map Prod.snd
      = .ok [(2, 2, 4), (4, 4, 6)] ∧
    (runQueries cstep cend 0 (init cstep 0 ()) [(5, 5), (5, 4)]).map Prod.snd
      = .ok [(4, 4, 6), (4, 4, 6)] ∧
    (runQueries cstep cend 0 (init cstep 0 ()) [(5, 4), (5, 5)]).map Prod.snd
      = .ok [(2, 2, 4), (4, 4, 6)] := by
  decide

/-- Full history independence of `get_series` is FALSE (even under progress): two reachable stores answer
the same query with different segments. -/
theorem history_independence_counterexample :
    ¬ ∀ (st₁ st₂ : Store Int Int), Reachable cstep cend 0 () st₁ → Reachable cstep cend 0 () st₂ →
        ∀ (x : Int) (f₁ f₂ : Nat) (r₁ r₂ : Store Int Int × Seg Int Int),
          getSeries cstep cend 0 f₁ st₁ x = .ok r₁ → getSeries cstep cend 0 f₂ st₂ x = .ok r₂ →
          r₁.2 = r₂.2 := by
  intro h
  have h1 := order_dependent_counterexample.1
  have h2 := order_dependent_counterexample.2.1
  have := h _ _ (Reach.refl _) (Reach.query 5 4 _ (Reach.refl _) h1) 4 5 5 _ _ h1 h2
  exact absurd this (by decide)

/-- a reachable store with a non-trivial history (queries 4, 1, 9 in this order) -/
theorem reachable_419 : Reachable cstep cend 0 ()
    ⟨[0, 2, 4, 6, 8, 10], [(0, 0, 2), (2, 2, 4), (4, 4, 6), (6, 6, 8), (8, 8, 10)]⟩ :=
  reach_of_runQueries (sgs := [(2, 2, 4), (0, 0, 2), (8, 8, 10)]) [(9, 4), (0, 1), (7, 9)] _ _ (by decide)

/-- `segments_prefix` on a reachable store with a non-trivial history. -/
example : ∃ m, 1 ≤ m ∧
    ([(0, 0, 2), (2, 2, 4), (4, 4, 6), (6, 6, 8), (8, 8, 10)] : List (Seg Int Int))
      = (List.range m).map (seg cstep cend 0 ()) ∧
    ([0, 2, 4, 6, 8, 10] : List Int) = (List.range (m + 1)).map (bd cstep cend 0 ()) :=
  segments_prefix reachable_419

/-- `getSeries_spec`, stored branch, on the 3-prefix `[0,2],[2,4],[4,6]`: the stored boundary `x = 2` is
answered by the segment on its right, `seg 1 = [2,4]`. -/
example : ∀ fuel, getSeries cstep cend 0 fuel (prefixStore cstep cend 0 () 3) 2 =
    .ok (prefixStore cstep cend 0 () 3, seg cstep cend 0 () 1) := by
  obtain ⟨k, _, h1, h2, h3, h4⟩ := (getSeries_spec cprog (m := 3) (by omega) (x := 2) (by omega)).1
    (by rw [cbd]; omega)
  have : (1 : Nat) = k := h3 1 (by rw [cbd]; omega) (by rw [cbd]; omega)
  subst this
  exact h4

/-- `getSeries_spec`, extension branch, on the 1-prefix `[0,2]`: the query `x = 6` extends the store to the
3-prefix and is answered by the segment on its left, `seg 2 = [4,6]`; 2 units of fuel are needed. -/
example : getSeries cstep cend 0 2 (prefixStore cstep cend 0 () 1) 6 =
      .ok (prefixStore cstep cend 0 () 3, seg cstep cend 0 () 2) ∧
    getSeries cstep cend 0 1 (prefixStore cstep cend 0 () 1) 6 = .error .outOfFuel := by
  have h := (getSeries_spec cprog (m := 1) (by omega) (x := 6) (by omega)).2 (by rw [cbd]; omega) 3
    (by omega) (by rw [cbd]; omega) (fun j h1 h2 => by rw [cbd]; omega)
  exact ⟨(h 2).1 (by omega), (h 1).2 (by omega)⟩

/-- `order_independent_off_boundaries`: `x = 7` is not a boundary; whatever reachable store answers it,
the answer is `seg 3 = [6,8]`. -/
example {st st' : Store Int Int} (hr : Reachable cstep cend 0 () st) {fuel : Nat} {sg : Seg Int Int}
    (h : getSeries cstep cend 0 fuel st 7 = .ok (st', sg)) : sg = (6, 6, 8) := by
  obtain ⟨k, h1, h2, h3, _⟩ := order_independent_off_boundaries cprog hr
    (fun k => by rw [cbd]; omega) h
  rw [cbd] at h1 h2
  have : k = 3 := by omega
  subst this
  rw [h3, cseg]; rfl

/-- `order_independent_given_stored`: in the store reached by the queries 4, 1, 9 the point `x = 4 < 10` is
answered by `seg 2 = [4,6]`, now and after any later queries. -/
example {st' : Store Int Int}
    (hlater : Reach cstep cend 0
      ⟨[0, 2, 4, 6, 8, 10], [(0, 0, 2), (2, 2, 4), (4, 4, 6), (6, 6, 8), (8, 8, 10)]⟩ st') :
    ∀ fuel, getSeries cstep cend 0 fuel st' 4 = .ok (st', (4, 4, 6)) := by
  obtain ⟨k, h1, h2, _, _, h5⟩ := order_independent_given_stored cprog reachable_419 (x := 4) (b := 10)
    (by omega) (by decide) (by omega) hlater
  rw [cbd] at h1 h2
  have : k = 2 := by omega
  subst this
  intro fuel; rw [h5 fuel, cseg]; rfl

/-- `getSeries_terminates` / `getSeries_fuel_suffices` are not vacuous: the instance has progress and
unbounded boundaries, and e.g. `x = 9 ≤ xb_4 = 10` needs at most 5 units of fuel from any reachable store. -/
example {st : Store Int Int} (hr : Reachable cstep cend 0 () st) :
    (∃ fuel r, getSeries cstep cend 0 fuel st 9 = .ok r) ∧ ∃ r, getSeries cstep cend 0 5 st 9 = .ok r :=
  ⟨getSeries_terminates cprog cunb hr (by omega),
   getSeries_fuel_suffices cprog hr (by omega) (k := 4) (by rw [cbd]; omega) (le_refl _)⟩

end Example

/-! ## `QuadratureRule.summation`: the accumulation loop over an additive rule

These theorems are about the import-free model `quadSum` itself, instantiated at a Mathlib `AddCommGroup V`.
Additivity `rule a b + rule b c = rule a c` is what an EXACT integral satisfies; the floating-point rule
satisfies it only up to the error estimate, so the theorems describe the loop logic, not the numerics. -/

section Quad
variable {X V : Type} [DecidableEq X] [AddCommGroup V] (rule : X → X → V)

def AdditiveRule : Prop := ∀ a b c, rule a b + rule b c = rule a c

variable {rule}

omit [DecidableEq X] in
/-- An additive rule vanishes on degenerate intervals (so the `if a == b: continue` is harmless). -/
theorem AdditiveRule.self (h : AdditiveRule rule) (a : X) : rule a a = 0 := by
  simpa using h a a a

omit [DecidableEq X] in
theorem AdditiveRule.antisymm (h : AdditiveRule rule) (a b : X) : rule b a = - rule a b :=
  eq_neg_of_add_eq_zero_left (by rw [h b a b, h.self])

theorem quadSumAux_additive (h : AdditiveRule rule) : ∀ (l : List X) (a : X) (acc : V),
    quadSumAux rule acc (a :: l) = acc + rule a ((a :: l).getLast (List.cons_ne_nil _ _)) := by
  intro l
  induction l with
  | nil => intro a acc; simp [quadSumAux, h.self]
  | cons b l ih =>
    intro a acc
    rw [quadSumAux, ih, List.getLast_cons (List.cons_ne_nil _ _)]
    by_cases hab : a = b
    · subst hab; rw [if_pos rfl]
    · rw [if_neg hab, add_assoc, h]

/-- For an additive rule the driver returns `rule a z` where `a` is the first and `z`
the last point: interior split points (and repeated points) do not change the result. -/
theorem split_additive (h : AdditiveRule rule) (a : X) (l : List X) :
    quadSum rule (a :: l) = rule a ((a :: l).getLast (List.cons_ne_nil _ _)) := by
  rw [quadSum, quadSumAux_additive h, zero_add]

theorem quadSum_eq_head_last (h : AdditiveRule rule) (points : List X) (hne : points ≠ []) :
    quadSum rule points = rule (points.head hne) (points.getLast hne) := by
  cases points with
  | nil => exact absurd rfl hne
  | cons a l => exact split_additive h a l

/-- Inserting any interior points `mid` between `a` and `b` gives the same result as `[a, b]`. -/
theorem split_invariant (h : AdditiveRule rule) (a b : X) (mid : List X) :
    quadSum rule (a :: mid ++ [b]) = quadSum rule [a, b] := by
  rw [List.cons_append, split_additive h, split_additive h]
  simp [List.getLast_cons]

/-- Reversing the list of points negates the result. -/
theorem reverse_limits_neg (h : AdditiveRule rule) (points : List X) :
    quadSum rule points.reverse = - quadSum rule points := by
  by_cases hne : points = []
  · subst hne; simp [quadSum, quadSumAux]
  · have hr : points.reverse ≠ [] := by simpa using hne
    rw [quadSum_eq_head_last h _ hr, quadSum_eq_head_last h _ hne, List.head_reverse,
      List.getLast_reverse, h.antisymm]

/-- `∫_a^b 2x dx = b² - a²` as an additive rule on `Int`. -/
example : AdditiveRule (fun a b : Int => b * b - a * a) := fun a b c => by
  show (b * b - a * a) + (c * c - b * b) = c * c - a * a
  abel

/-- `split_additive` / `reverse_limits_neg` on the points `[0, 3, 3, 7, 2]` (one repeated point, one
backward step): `I = 2² - 0² = 4`, reversed `-4`. -/
example : quadSum (fun a b : Int => b * b - a * a) [0, 3, 3, 7, 2] = 4 ∧
    quadSum (fun a b : Int => b * b - a * a) [2, 7, 3, 3, 0] = -4 ∧
    quadSum (fun a b : Int => b * b - a * a) [0, 2] = 4 := by decide

/-- Without additivity the split points matter (so the hypothesis is not redundant):
midpoint-free "rule" `a*b`. -/
example : quadSum (fun a b : Int => a * b) [1, 2, 3] ≠ quadSum (fun a b : Int => a * b) [1, 3] := by decide

end Quad

end Calc
end Mp

section Audit
open Mp.Calc
#print axioms bisectRight_spec
#print axioms segments_prefix
#print axioms getSeries_spec
#print axioms getSeries_ok_inv
#print axioms Example.order_dependent_counterexample
#print axioms Example.history_independence_counterexample
#print axioms order_independent_off_boundaries
#print axioms order_independent_off_boundaries'
#print axioms order_independent_given_stored
#print axioms getSeries_fuel_suffices
#print axioms getSeries_terminates
#print axioms reach_of_runQueries
#print axioms AdditiveRule.self
#print axioms AdditiveRule.antisymm
#print axioms split_additive
#print axioms split_invariant
#print axioms reverse_limits_neg
end Audit

/-! ## The interpolant VALUE is history independent

Although the SEGMENT answering a boundary query depends on the history
(`Example.order_dependent_counterexample`), the VALUE does not, provided the two `mpolyval` calls of the
code are the same function (`endval ser xa xb = evalSeg ser xa xb`: both are `mpolyval(ser, xb - xa)` at the
same working precision) and a fresh segment evaluated at its own left end returns its initial value
(`hstart`; in `ode_taylor` the coefficient `ser[d][0]` is `y0[d]` exactly). -/

namespace Mp
namespace Calc

section Values
variable {S X Y : Type} [LinearOrder X] {step : X → Y → S × X} {endval : S → X → X → Y}
  {evalSeg : S → X → X → Y} {x0 : X} {y0 : Y}

omit [LinearOrder X] in
/-- exact continuity at the knots: evaluating segment `k+1` at its left end `xb_k` gives the same value as
evaluating segment `k` at its right end `xb_k` -/
def KnotContinuous (step : X → Y → S × X) (endval : S → X → X → Y) (evalAt : S → X → X → Y) (x0 : X) (y0 : Y) :
    Prop :=
  ∀ k, evalAt (seg step endval x0 y0 (k + 1)).1 (bd step endval x0 y0 (k + 1)) (bd step endval x0 y0 (k + 1)) =
    evalAt (seg step endval x0 y0 k).1 (bd step endval x0 y0 k) (bd step endval x0 y0 (k + 1))

omit [LinearOrder X] in
/-- At the boundary `xb_k` the segment on the right (`seg (k+1)`, evaluated at its left end) and the
segment on the left (`seg k`, evaluated at its right end) give the same value. -/
theorem seg_boundary_value (hend : ∀ ser xa xb, endval ser xa xb = evalSeg ser xa xb)
    (hstart : ∀ x y, evalSeg (step x y).1 x x = y) : KnotContinuous step endval evalSeg x0 y0 := by
  intro k
  rw [← seg_xa step endval x0 y0 k, ← seg_xb step endval x0 y0 k]
  show evalSeg (nextSeg step endval (seg step endval x0 y0 k)).1 _ _ = _
  simp only [nextSeg]
  rw [hstart, hend]

/-- Under knot continuity, whatever segment `get_series` returns from a reachable store, evaluating it at `x`
gives the canonical value `evalSeg ser_k xa_k x` for the unique `k` with `xa_k ≤ x < xb_k`: a boundary point `xb_k`
answered from the left by `seg k` gets the value that `seg (k+1)` gives it. -/
theorem getSeries_value_of_knot (hprog : Progress step endval x0 y0)
    (hknot : KnotContinuous step endval evalSeg x0 y0) {st st' : Store S X}
    (hr : Reachable step endval x0 y0 st) {x : X} {fuel : Nat} {sg : Seg S X}
    (h : getSeries step endval x0 fuel st x = .ok (st', sg)) :
    ∃ k, bd step endval x0 y0 k ≤ x ∧ x < bd step endval x0 y0 (k + 1) ∧
      (∀ k', bd step endval x0 y0 k' ≤ x → x < bd step endval x0 y0 (k' + 1) → k' = k) ∧
      evalSeg sg.1 sg.2.1 x = evalSeg (seg step endval x0 y0 k).1 (bd step endval x0 y0 k) x := by
  obtain ⟨m, hm, rfl⟩ := segments_prefix' hr
  obtain ⟨_, k, m', h1, _, _, _, h2, h3⟩ := getSeries_ok_inv hprog hm h
  subst h1
  by_cases hlt : x < bd step endval x0 y0 (k + 1)
  · exact ⟨k, h2, hlt, fun k' a b => seg_index_unique hprog a b h2 hlt, by rw [seg_xa]⟩
  · have hxe : x = bd step endval x0 y0 (k + 1) :=
      le_antisymm (h3.elim (fun h => absurd h.1 hlt) fun h => h.1) (not_lt.mp hlt)
    have hlt' : x < bd step endval x0 y0 (k + 1 + 1) := by
      rw [hxe]; exact hprog.strictMono (Nat.lt_succ_self _)
    refine ⟨k + 1, le_of_eq hxe.symm, hlt',
      fun k' a b => seg_index_unique hprog a b (le_of_eq hxe.symm) hlt', ?_⟩
    rw [seg_xa, hxe]
    exact (hknot k).symm

/-- Segment-level form of `values_order_independent`. -/
theorem getSeries_value (hprog : Progress step endval x0 y0)
    (hend : ∀ ser xa xb, endval ser xa xb = evalSeg ser xa xb)
    (hstart : ∀ x y, evalSeg (step x y).1 x x = y) {st st' : Store S X}
    (hr : Reachable step endval x0 y0 st) {x : X} {fuel : Nat} {sg : Seg S X}
    (h : getSeries step endval x0 fuel st x = .ok (st', sg)) :
    ∃ k, bd step endval x0 y0 k ≤ x ∧ x < bd step endval x0 y0 (k + 1) ∧
      (∀ k', bd step endval x0 y0 k' ≤ x → x < bd step endval x0 y0 (k' + 1) → k' = k) ∧
      evalSeg sg.1 sg.2.1 x = evalSeg (seg step endval x0 y0 k).1 (bd step endval x0 y0 k) x :=
  getSeries_value_of_knot hprog (seg_boundary_value hend hstart) hr h

/-- For every query `x` and every reachable store (any history, any fuel for
which the call succeeds — success already forces `x0 ≤ x`), the VALUE computed by `interpolant(x)` is
`evalSeg ser_k xa_k x` for the unique `k` with `xa_k ≤ x < xb_k`: a function of `x` alone, INCLUDING when `x` is
a boundary point (where the answering segment is history dependent). -/
theorem values_order_independent (hprog : Progress step endval x0 y0)
    (hend : ∀ ser xa xb, endval ser xa xb = evalSeg ser xa xb)
    (hstart : ∀ x y, evalSeg (step x y).1 x x = y) {st : Store S X}
    (hr : Reachable step endval x0 y0 st) {x : X} {fuel : Nat} {v : Y}
    (h : interpValue step endval evalSeg x0 fuel st x = .ok v) :
    ∃ k, bd step endval x0 y0 k ≤ x ∧ x < bd step endval x0 y0 (k + 1) ∧
      (∀ k', bd step endval x0 y0 k' ≤ x → x < bd step endval x0 y0 (k' + 1) → k' = k) ∧
      v = evalSeg (seg step endval x0 y0 k).1 (bd step endval x0 y0 k) x := by
  unfold interpValue at h
  split at h
  · cases h
  · rename_i st' sg hq
    injection h with h
    obtain ⟨k, h1, h2, h3, h4⟩ := getSeries_value hprog hend hstart hr hq
    exact ⟨k, h1, h2, h3, by rw [← h, h4]⟩

/-- Two-store form: any two reachable stores (any histories, any sufficient fuels) give the same
interpolant value at the same `x`. -/
theorem values_order_independent' (hprog : Progress step endval x0 y0)
    (hend : ∀ ser xa xb, endval ser xa xb = evalSeg ser xa xb)
    (hstart : ∀ x y, evalSeg (step x y).1 x x = y) {st₁ st₂ : Store S X}
    (hr₁ : Reachable step endval x0 y0 st₁) (hr₂ : Reachable step endval x0 y0 st₂)
    {x : X} {f₁ f₂ : Nat} {v₁ v₂ : Y}
    (h₁ : interpValue step endval evalSeg x0 f₁ st₁ x = .ok v₁)
    (h₂ : interpValue step endval evalSeg x0 f₂ st₂ x = .ok v₂) : v₁ = v₂ := by
  obtain ⟨k₁, a₁, b₁, _, c₁⟩ := values_order_independent hprog hend hstart hr₁ h₁
  obtain ⟨k₂, a₂, b₂, _, c₂⟩ := values_order_independent hprog hend hstart hr₂ h₂
  rw [c₁, c₂, seg_index_unique hprog a₁ b₁ a₂ b₂]

theorem interpValue_eq_interpolant (fuel : Nat) (st : Store S X) (x : X) :
    interpValue step endval evalSeg x0 fuel st x =
      (interpolant step endval evalSeg x0 fuel st x).map Prod.snd := by
  unfold interpValue interpolant
  cases getSeries step endval x0 fuel st x <;> rfl

end Values

namespace Example2

/-- Series = `(left endpoint, initial value)`; every segment has length 2. -/
def dstep : Int → Int → (Int × Int) × Int := fun x y => ((x, y), x + 2)
/-- `mpolyval(ser, x - xa)` stand-in: `y + (x - xa)²`; `deval (step x y).1 x x = y`. -/
def deval : Int × Int → Int → Int → Int := fun ser xa x => ser.2 + (x - xa) * (x - xa)

theorem dseg_x (k : Nat) : (seg dstep deval 0 1 k).2.1 = (2 * k : Int) ∧
    (seg dstep deval 0 1 k).2.2 = (2 * k + 2 : Int) := by
  induction k with
  | zero => exact ⟨rfl, rfl⟩
  | succ k ih =>
    rw [seg]
    simp only [nextSeg, dstep, ih.2]
    constructor <;> push_cast <;> omega

theorem dbd (k : Nat) : bd dstep deval 0 1 k = (2 * k : Int) := by
  rw [← seg_xa]; exact (dseg_x k).1

theorem dprog : Progress dstep deval 0 1 := by
  intro k; rw [(dseg_x k).1, (dseg_x k).2]; omega

theorem dstart : ∀ x y, deval (dstep x y).1 x x = y := by
  intro x y; simp [deval, dstep]

/-- The counterexample of `Example` on this instance, with values: the query `x = 4` is answered by segment `[2,4]`
on the fresh store and by segment `[4,6]` when repeated (or after the query `5`) — but the VALUE is `9`
every time. -/
theorem segment_differs_value_equal :
    (getSeries dstep deval 0 5 (init dstep 0 1) 4).map Prod.snd = .ok ((2, 5), 2, 4) ∧
    (runQueries dstep deval 0 (init dstep 0 1) [(5, 4), (5, 4)]).map Prod.snd
      = .ok [((2, 5), 2, 4), ((4, 9), 4, 6)] ∧
    (runQueries dstep deval 0 (init dstep 0 1) [(5, 5), (5, 4)]).map Prod.snd
      = .ok [((4, 9), 4, 6), ((4, 9), 4, 6)] ∧
    interpValue dstep deval deval 0 5 (init dstep 0 1) 4 = .ok 9 ∧
    interpValue dstep deval deval 0 5
      ⟨[0, 2, 4], [((0, 1), 0, 2), ((2, 5), 2, 4)]⟩ 4 = .ok 9 ∧
    interpValue dstep deval deval 0 5
      ⟨[0, 2, 4, 6], [((0, 1), 0, 2), ((2, 5), 2, 4), ((4, 9), 4, 6)]⟩ 4 = .ok 9 := by
  decide

/-- `values_order_independent` on the toy instance at the boundary point `x = 4`: EVERY reachable store
that answers gives the value `9`. -/
example {st : Store (Int × Int) Int} (hr : Reachable dstep deval 0 1 st) {fuel : Nat} {v : Int}
    (h : interpValue dstep deval deval 0 fuel st 4 = .ok v) : v = 9 := by
  obtain ⟨k, h1, h2, _, h4⟩ := values_order_independent dprog (fun _ _ _ => rfl) dstart hr h
  rw [dbd] at h1 h2
  have : k = 2 := by omega
  subst this
  rw [h4]; decide

end Example2

end Calc
end Mp

section Audit2
open Mp.Calc
#print axioms seg_boundary_value
#print axioms getSeries_value
#print axioms values_order_independent
#print axioms values_order_independent'
#print axioms Example2.segment_differs_value_equal
end Audit2

/-
  Props/C39.lean — magnitude, nearest-integer and classification helpers.
  Model: MpModel/Helpers.lean (`magF/magC/magInt/magQ`, `nintDistF/C/Int/Q`, `isintF/C/Int/Q`, `isnpint…`,
  `isnormal…`, `isinf…`, `isnan…`, `isfinite…`, `ldexp`, `frexp`).  `val` is the rational value of a raw tuple.
  An mpq is its reduced pair `(p, q)`, `q > 0`.
-/
import MpProofs.Helpers

namespace Mp
open H

/-! ### mag -/

/-- `mag` of a nonzero mpf with exact bit count is `m = exp + bc` and `2^(m-1) ≤ |x| < 2^m`
(so `|x| ≤ 2^m`, and `m` is at most 1 above the optimal bound — equality `|x| = 2^(m-1)` for powers of two). -/
theorem mag_spec (x : Mpf) (hm : x.man ≠ 0) (hbc : x.bc = (bitcount x.man : Int)) :
    ∃ m : ℤ, magF x = .int m ∧ m = x.exp + x.bc ∧ (2:ℚ) ^ (m - 1) ≤ |val x| ∧ |val x| < (2:ℚ) ^ m :=
  ⟨x.exp + x.bc, by simp [magF, mpfMag, hm], rfl, abs_val_bounds x hm hbc⟩

example : (⟨0, 5, 1, 3⟩ : Mpf).man ≠ 0 ∧ (⟨0, 5, 1, 3⟩ : Mpf).bc = (bitcount 5 : Int) ∧ magF ften = .int 4 := by decide

/-- `mag` of a nonzero Python int is its bit length: `2^(m-1) ≤ |n| < 2^m`. -/
theorem mag_int_spec (n : Int) (hn : n ≠ 0) :
    ∃ m : ℤ, magInt n = .int m ∧ (2:ℚ) ^ (m - 1) ≤ |(n : ℚ)| ∧ |(n : ℚ)| < (2:ℚ) ^ m := by
  refine ⟨(bitcount n.natAbs : ℤ), by simp [magInt, hn], ?_⟩
  have : |(n : ℚ)| = (n.natAbs : ℚ) := by
    rw [← Int.cast_abs, Int.abs_eq_natAbs]; simp
  rw [this]
  simpa using mag_bounds n.natAbs (by omega) 0

/-- `mag` of a nonzero mpq `p/q` is `m = 1 + bc p - bc q` with the slack the code has: `2^(m-2) < |p/q| < 2^m`. -/
theorem mag_mpq_spec (p : Int) (q : Nat) (hp : p ≠ 0) (hq : 0 < q) :
    ∃ m : ℤ, magQ p q = .int m ∧ (2:ℚ) ^ (m - 2) < |(p : ℚ) / (q : ℚ)| ∧ |(p : ℚ) / (q : ℚ)| < (2:ℚ) ^ m := by
  refine ⟨1 + (bitcount p.natAbs : ℤ) - (bitcount q : ℤ), by simp [magQ, hp], ?_⟩
  rw [abs_int_div_nat]
  have := quot_bounds p.natAbs q (by omega) (by omega)
  constructor
  · convert this.1 using 2; ring
  · convert this.2 using 2; ring

example : magQ 10 3 = .int 3 ∧ magQ (-1) 3 = .int 0 := by decide

/-- `mag` of an mpc with both parts nonzero is `m = 1 + max(mag re, mag im)`, and
`2^(m-2) ≤ |z| < 2^m` (stated on squares: `|z|² = re² + im²`). -/
theorem mag_mpc_spec (r i : Mpf) (hr : r.man ≠ 0) (hi : i.man ≠ 0)
    (hrbc : r.bc = (bitcount r.man : Int)) (hibc : i.bc = (bitcount i.man : Int)) :
    ∃ m : ℤ, magC r i = .int m ∧ m = 1 + max (r.exp + r.bc) (i.exp + i.bc) ∧
      ((2:ℚ) ^ (m - 2)) ^ 2 ≤ (val r) ^ 2 + (val i) ^ 2 ∧ (val r) ^ 2 + (val i) ^ 2 < ((2:ℚ) ^ m) ^ 2 := by
  have hrz : r ≠ fzero := fun h => hr (h ▸ rfl)
  have hiz : i ≠ fzero := fun h => hi (h ▸ rfl)
  obtain ⟨hr1, hr2⟩ := abs_val_bounds r hr hrbc
  obtain ⟨hi1, hi2⟩ := abs_val_bounds i hi hibc
  refine ⟨_, ?_, rfl, ?_⟩
  · rw [magC, if_neg hrz, if_neg hiz, mpfMag, mpfMag, if_pos hr, if_pos hi, MagRes.pyMax_int]; rfl
  generalize r.exp + r.bc = mr at *
  generalize i.exp + i.bc = mi at *
  have hL : (2:ℚ) ^ (max mr mi - 1) ≤ max |val r| |val i| := by
    rcases le_total mr mi with h | h
    · rw [max_eq_right h]; exact le_max_of_le_right hi1
    · rw [max_eq_left h]; exact le_max_of_le_left hr1
  have hU : ∀ m, m ≤ max mr mi → (2:ℚ) ^ m ≤ (2:ℚ) ^ max mr mi := fun m => zpow_le_zpow_right₀ (by norm_num)
  have := sq_add_sq_bounds (abs_nonneg _) (abs_nonneg _) (zpow_pos (by norm_num) _).le hL
    (hr2.trans_le (hU _ (le_max_left _ _))) (hi2.trans_le (hU _ (le_max_right _ _)))
  rwa [sq_abs, sq_abs, show max mr mi - 1 = 1 + max mr mi - 2 by ring,
    show 2 * (2:ℚ) ^ max mr mi = (2:ℚ) ^ (1 + max mr mi) by rw [zpow_add₀ two_ne_zero, zpow_one]] at this

example : magC ften ften = .int 5 := by decide

/-- on the axes `mag` of an mpc is `mag` of the nonzero part (whatever that part is, specials included). -/
theorem mag_mpc_axes (x : Mpf) : magC x fzero = magF x ∧ magC fzero x = magF x :=
  ⟨by unfold magC magF; split <;> simp [*], by simp [magC, magF]⟩

/-- zero and the special values: `-inf` for 0, `+inf` for both infinities, nan for nan; complex with an
infinite part gives `+inf`.  The last two lines record the asymmetry of Python's `max` under nan. -/
theorem mag_specials :
    magF fzero = .ninf ∧ magF finf = .inf ∧ magF fninf = .inf ∧ magF fnan = .nan ∧
    magInt 0 = .ninf ∧ magQ 0 7 = .ninf ∧ magC fzero fzero = .ninf ∧
    magC finf fone = .inf ∧ magC fone fninf = .inf ∧ magC fnan fone = .nan ∧ magC fone fnan = .int 2 ∧
    magC fnan finf = .nan ∧ magC finf fnan = .inf := by decide

/-! ### ldexp, frexp -/

/-- `ldexp(x, n)` is exactly `x · 2^n` — no rounding, for every tuple and every `n`. -/
theorem ldexp_exact (x : Mpf) (n : Int) : val (ldexp x n) = val x * (2:ℚ) ^ n := by
  unfold ldexp mpf_shift
  split
  · rename_i h; simp [val, h]
  · simp only [val]; rw [zpow_add₀ (by norm_num : (2:ℚ) ≠ 0)]; ring

/-- zero and the special values are returned unchanged; otherwise only the exponent moves
(so the mantissa, and with it canonicity and the bit count, is untouched). -/
theorem ldexp_shape (x : Mpf) (n : Int) :
    (x.man = 0 → ldexp x n = x) ∧ (x.man ≠ 0 → ldexp x n = ⟨x.sign, x.man, x.exp + n, x.bc⟩) := by
  constructor <;> intro h <;> simp [ldexp, mpf_shift, h]

/-- `frexp(x) = (y, n)` with `x = y · 2^n` exactly and `1/2 ≤ |y| < 1`, for nonzero x with exact bit count.
(For negative `x` the code returns a negative `y`: the docstring's `y ∈ [0.5, 1)` holds for `|y|`.) -/
theorem frexp_spec (x : Mpf) (hm : x.man ≠ 0) (hbc : x.bc = (bitcount x.man : Int)) :
    ∃ y n, frexp x = .ok (y, n) ∧ val x = val y * (2:ℚ) ^ n ∧ 1 / 2 ≤ |val y| ∧ |val y| < 1 := by
  refine ⟨_, _, frexp_ok x hm, ?_, ?_⟩
  · simp only [val]
    have : (2:ℚ) ^ (-x.bc) * (2:ℚ) ^ (x.bc + x.exp) = (2:ℚ) ^ x.exp := by
      rw [← zpow_add₀ (by norm_num : (2:ℚ) ≠ 0)]; congr 1; ring
    rw [mul_assoc _ ((2:ℚ) ^ (-x.bc)), this]
  · have := abs_val_bounds ⟨x.sign, x.man, -x.bc, x.bc⟩ hm hbc
    simp only [neg_add_cancel, zero_sub, zpow_zero] at this
    constructor
    · have h12 : (2:ℚ) ^ (-1 : ℤ) = 1 / 2 := by norm_num
      rw [← h12]; exact this.1
    · exact this.2

example : frexp ⟨0, 15, -1, 4⟩ = .ok (⟨0, 15, -4, 4⟩, 3) := by decide   -- frexp(7.5) = (0.9375, 3)

/-- `frexp(0) = (0, 0)`; inf, -inf and nan raise ValueError. -/
theorem frexp_specials :
    frexp fzero = .ok (fzero, 0) ∧ frexp finf = .error .value ∧ frexp fninf = .error .value ∧
    frexp fnan = .error .value := by decide

/-! ### isint, isnpint, classification -/

/-- `isint(x)` for a canonical finite mpf: true exactly when the value is an integer. -/
theorem isint_iff (x : Mpf) (hc : CanonFin x) : isintF x = true ↔ ∃ n : ℤ, val x = n := by
  rcases hc with rfl | ⟨_, hodd, _⟩
  · exact ⟨fun _ => ⟨0, by simp [val, fzero]⟩, fun _ => by decide⟩
  · have hm : x.man ≠ 0 := by omega
    have hnz : x ≠ fzero := fun h => hm (h ▸ rfl)
    rw [val_isInt_iff x hodd]
    simp [isintF, hm, hnz]

/-- without canonicity the statement is false of the code: `(0, 4, -2, 3)` is the value 1 but `isint` says no
(such tuples are never produced by the library; recorded to show the hypothesis is needed). -/
theorem isint_noncanonical_counterexample :
    isintF ⟨0, 4, -2, 3⟩ = false ∧ val ⟨0, 4, -2, 3⟩ = ((1 : ℤ) : ℚ) := by
  refine ⟨by decide, ?_⟩
  simp [val]; norm_num

/-- `isint` of an mpc: real part an integer and imaginary part zero; with `gaussian=True` both integers. -/
theorem isint_mpc_iff (re im : Mpf) (hre : CanonFin re) (him : CanonFin im) :
    (isintC re im false = true ↔ (∃ n : ℤ, val re = n) ∧ val im = 0) ∧
    (isintC re im true = true ↔ (∃ n : ℤ, val re = n) ∧ ∃ k : ℤ, val im = k) := by
  constructor
  · simp only [isintC, Bool.false_eq_true, if_false, Bool.and_eq_true, beq_iff_eq,
      isint_iff re hre, canonFin_zero_iff im him]
  · simp only [isintC, if_true, Bool.and_eq_true, isint_iff re hre, isint_iff im him]

/-- `isint` of an int is true; of an mpq `p/q` (`q > 0`) it is true exactly when `p/q` is an integer. -/
theorem isint_int_mpq (n p : Int) (q : Nat) (hq : 0 < q) :
    isintInt n = true ∧ ∃ b, isintQ p q = .ok b ∧ (b = true ↔ ∃ k : ℤ, (p : ℚ) / (q : ℚ) = k) := by
  refine ⟨rfl, p % (q : Int) == 0, by simp [isintQ, Nat.ne_of_gt hq], ?_⟩
  simp only [beq_iff_eq, div_eq_intCast_iff _ _ _ hq]
  rw [← Int.dvd_iff_emod_eq_zero, dvd_iff_exists_eq_mul_left]

/-- `isnpint(x)` for a canonical finite mpf: true exactly when the value is an integer `≤ 0`. -/
theorem isnpint_iff (x : Mpf) (hc : CanonFin x) :
    isnpintF x = true ↔ ∃ n : ℤ, n ≤ 0 ∧ val x = n := by
  rcases hc with rfl | ⟨hs, hodd, _⟩
  · exact ⟨fun _ => ⟨0, le_refl _, by simp [val, fzero]⟩, fun _ => by decide⟩
  · have hm : x.man ≠ 0 := by omega
    have hnz : x ≠ fzero := fun h => hm (h ▸ rfl)
    have h1 : isnpintF x = true ↔ x.sign ≠ 0 ∧ 0 ≤ x.exp := by simp [isnpintF, hnz]
    rw [h1, ← val_isInt_iff x hodd, ← val_nonpos_iff x hs hm]
    constructor
    · rintro ⟨h0, n, hn⟩
      exact ⟨n, by rw [hn] at h0; exact_mod_cast h0, hn⟩
    · rintro ⟨n, hn0, hn⟩
      exact ⟨by rw [hn]; exact_mod_cast hn0, n, hn⟩

/-- `isnpint` of an mpc: imaginary part zero and real part a nonpositive integer. -/
theorem isnpint_mpc_iff (re im : Mpf) (hre : CanonFin re) (him : CanonFin im) :
    isnpintC re im = true ↔ val im = 0 ∧ ∃ n : ℤ, n ≤ 0 ∧ val re = n := by
  unfold isnpintC
  split
  · rename_i h
    injection h with h1 h2
    subst h1; subst h2
    simp [val, fzero]; exact ⟨0, le_refl _, by simp⟩
  · simp only [Bool.and_eq_true, beq_iff_eq, isnpint_iff re hre, canonFin_zero_iff im him]

/-- `isnpint` of an int, and of a reduced mpq. -/
theorem isnpint_int_mpq (n p : Int) (q : Nat) (hq : 0 < q) (hred : Int.gcd p q = 1) :
    (isnpintInt n = true ↔ n ≤ 0) ∧
    (isnpintQ p q = true ↔ ∃ k : ℤ, k ≤ 0 ∧ (p : ℚ) / (q : ℚ) = k) := by
  constructor
  · unfold isnpintInt; split
    · rename_i h; simp [h]
    · simp
  simp only [div_eq_intCast_iff _ _ _ hq]
  unfold isnpintQ
  split
  · exact ⟨fun _ => ⟨0, le_refl _, by simp [*]⟩, fun _ => rfl⟩
  · simp only [Bool.and_eq_true, beq_iff_eq, decide_eq_true_eq]
    constructor
    · rintro ⟨rfl, hp0⟩
      exact ⟨p, hp0, by simp⟩
    · rintro ⟨k, hk0, hpk⟩
      -- a denominator that divides the numerator of a reduced fraction is 1
      have h2 : q ∣ Int.gcd p q := Nat.dvd_gcd (Int.natCast_dvd.mp ⟨k, by rw [hpk, mul_comm]⟩) (dvd_refl q)
      have hq1 : q = 1 := Nat.dvd_one.mp (hred ▸ h2)
      subst hq1
      exact ⟨rfl, by simpa [hpk] using hk0⟩

/-- special values are neither integers nor nonpositive integers -/
theorem isint_isnpint_specials :
    isintF finf = false ∧ isintF fninf = false ∧ isintF fnan = false ∧
    isnpintF finf = false ∧ isnpintF fninf = false ∧ isnpintF fnan = false ∧
    isintF fzero = true ∧ isnpintF fzero = true ∧ isnpintF fnone = true ∧ isnpintF fone = false := by decide

/-- the classification predicates in terms of the tuple: normal = nonzero mantissa; inf / nan = the special
tuples; finite = neither. -/
theorem classify_iff (x : Mpf) :
    (isnormalF x = true ↔ x.man ≠ 0) ∧ (isinfF x = true ↔ x = finf ∨ x = fninf) ∧
    (isnanF x = true ↔ x = fnan) ∧ (isfiniteF x = true ↔ x ≠ finf ∧ x ≠ fninf ∧ x ≠ fnan) := by
  refine ⟨by simp [isnormalF], by simp [isinfF], by simp [isnanF], ?_⟩
  simp [isfiniteF, isinfF, isnanF, and_assoc]

/-- for canonical tuples: `isnormal` ⇔ finite and nonzero. -/
theorem isnormal_iff (x : Mpf) (hc : Canonical x) :
    isnormalF x = true ↔ (Finite x ∧ val x ≠ 0) := by
  rcases hc with rfl | rfl | rfl | rfl | ⟨_, hodd, hbc⟩
  · simp [isnormalF, fzero, val]
  · simp [isnormalF, finf, Finite]
  · simp [isnormalF, fninf, Finite]
  · simp [isnormalF, fnan, Finite]
  · have hm : x.man ≠ 0 := by omega
    have hfin : Finite x := fun h => hm h.1
    have hcf : CanonFin x := Or.inr ⟨by assumption, hodd, hbc⟩
    have : x ≠ fzero := by intro h; rw [h] at hm; simp [fzero] at hm
    simp only [isnormalF, bne_iff_ne, ne_eq, hm, not_false_eq_true, true_iff]
    exact ⟨hfin, fun h => this ((canonFin_zero_iff x hcf).mpr h)⟩

/-- the finite table of the classification helpers on 0, 1 and the three special values (mpf), and on
complex numbers with a special or zero part. -/
theorem classify_table :
    (isnormalF fzero, isinfF fzero, isnanF fzero, isfiniteF fzero) = (false, false, false, true) ∧
    (isnormalF fone, isinfF fone, isnanF fone, isfiniteF fone) = (true, false, false, true) ∧
    (isnormalF finf, isinfF finf, isnanF finf, isfiniteF finf) = (false, true, false, false) ∧
    (isnormalF fninf, isinfF fninf, isnanF fninf, isfiniteF fninf) = (false, true, false, false) ∧
    (isnormalF fnan, isinfF fnan, isnanF fnan, isfiniteF fnan) = (false, false, true, false) ∧
    (isnormalC fzero fzero, isnormalC fzero fone, isnormalC ftwo fnan, isnormalC fone finf)
      = (false, true, false, false) ∧
    (isinfC fone finf, isinfC fninf fone, isinfC fone fone, isnanC fone fnan, isnanC fnan finf, isnanC fone finf)
      = (true, true, false, true, true, false) ∧
    (isfiniteC fone fone, isfiniteC fone finf, isfiniteC fnan fone) = (true, false, false) ∧
    (isnormalInt 0, isnormalInt 3, isnormalQ 0 1, isnormalQ (-1) 2) = (false, true, false, true) := by decide

/-! ### nint_distance -/

/-- `nint_distance` on an mpc with canonical finite parts: `n` is a nearest integer to the REAL part (ties away
from zero), `d = -inf` exactly when the number is a real integer, otherwise
`2^(d-1) ≤ max(|Re x - n|, |Im x|) < 2^d`  (hence `2^(d-1) ≤ |x - n| < 2^(d+1/2)` in modulus). -/
theorem nint_distance_mpc_spec (re im : Mpf) (hre : CanonFin re) (him : CanonFin im) :
    ∃ (n : ℤ) (d : Dist), nintDistC re im = .ok (n, d) ∧
      |val re - n| ≤ 1 / 2 ∧ (|val re - n| = 1 / 2 → |val re| < |(n : ℚ)|) ∧
      (d = .ninf ↔ (∃ k : ℤ, val re = k) ∧ val im = 0) ∧
      ∀ e, d = .fin e → (2:ℚ) ^ (e - 1) ≤ max |val re - n| |val im| ∧
                        max |val re - n| |val im| < (2:ℚ) ^ e := by
  obtain ⟨Di, hDi, hDiof⟩ := imDist_spec im him
  obtain ⟨n, D, h1, h2, h3, h4⟩ := nintDistCore_spec re hre Di _ hDiof
  refine ⟨n, D, by rw [hDi]; exact h1, h2, h3, ?_, h4.2⟩
  rw [h4.1, max_eq_zero_iff_of_nonneg (abs_nonneg _) (abs_nonneg _)]
  constructor
  · rintro ⟨ha, hb⟩
    exact ⟨⟨n, sub_eq_zero.mp (abs_eq_zero.mp ha)⟩, abs_eq_zero.mp hb⟩
  · rintro ⟨⟨k, hk⟩, hb⟩
    refine ⟨?_, by rw [hb, abs_zero]⟩
    have : k = n := int_eq_of_abs_sub_le_half k n (by rw [← hk]; exact h2)
    rw [hk, this, sub_self, abs_zero]

example : nintDistC ⟨0, 5, 0, 3⟩ ⟨0, 5, 1, 3⟩ = .ok (5, .fin 4) := by decide   -- nint_distance(mpc(5,10)) = (5, 4)

/-- `nint_distance` on a nonzero canonical mpf returns `(n, d)` where
* `n` is a nearest integer: `|x - n| ≤ 1/2`; on a tie the code goes AWAY from zero (`|x| < |n|`);
* `d = -inf` exactly when `x` is an integer;
* otherwise `2^(d-1) ≤ |x - n| < 2^d` — in every branch (|x| < ½, half-integer, general). -/
theorem nint_distance_spec (x : Mpf) (hs : x.sign ≤ 1) (hodd : x.man % 2 = 1)
    (hbc : x.bc = (bitcount x.man : Int)) :
    ∃ (n : ℤ) (d : Dist), nintDistF x = .ok (n, d) ∧
      |val x - n| ≤ 1 / 2 ∧ (|val x - n| = 1 / 2 → |val x| < |(n : ℚ)|) ∧
      (d = .ninf ↔ ∃ k : ℤ, val x = k) ∧
      ∀ e, d = .fin e → (2:ℚ) ^ (e - 1) ≤ |val x - n| ∧ |val x - n| < (2:ℚ) ^ e := by
  obtain ⟨n, D, h1, h2, h3, h4, h5⟩ :=
    nint_distance_mpc_spec x fzero (Or.inr ⟨hs, hodd, hbc⟩) (Or.inl rfl)
  have hz : val fzero = 0 := by simp [val, fzero]
  rw [nintDistC_real] at h1
  rw [hz, abs_zero, max_eq_left (abs_nonneg _)] at h5
  refine ⟨n, D, h1, h2, h3, ?_, h5⟩
  rw [h4]; simp [hz]

example : nintDistF ⟨1, 5, -1, 3⟩ = .ok (-3, .fin 0) ∧ nintDistF ⟨0, 5, 0, 3⟩ = .ok (5, .ninf) ∧
    nintDistF ⟨0, 21, -2, 5⟩ = .ok (5, .fin (-1)) ∧ nintDistF ⟨0, 1, -3, 1⟩ = .ok (0, .fin (-2)) := by decide

/-- zero: `(0, -inf)`. -/
theorem nint_distance_zero : nintDistF fzero = .ok (0, .ninf) := by decide

/-- an int is its own nearest integer at distance `-inf`. -/
theorem nint_distance_int (n : Int) : nintDistInt n = (n, .ninf) := rfl

/-- `nint_distance` on an mpq `p/q`, `q > 0`: `n` is a nearest integer, but here a tie goes UP (`x < n`, toward
+∞ — unlike the mpf branch); `d = -inf` exactly when `x = n`; otherwise the slack is a factor 2 either way:
`2^(d-1) < |x - n| < 2^(d+1)`. -/
theorem nint_distance_mpq_spec (p : Int) (q : Nat) (hq : 0 < q) :
    ∃ (n : ℤ) (d : Dist), nintDistQ p q = .ok (n, d) ∧
      |(p : ℚ) / (q : ℚ) - n| ≤ 1 / 2 ∧
      (|(p : ℚ) / (q : ℚ) - n| = 1 / 2 → (p : ℚ) / (q : ℚ) < n) ∧
      (d = .ninf ↔ (p : ℚ) / (q : ℚ) = n) ∧
      ∀ e, d = .fin e → (2:ℚ) ^ (e - 1) < |(p : ℚ) / (q : ℚ) - n| ∧
                        |(p : ℚ) / (q : ℚ) - n| < (2:ℚ) ^ (e + 1) := by
  have hqZ : (0:ℤ) < (q : ℤ) := by exact_mod_cast hq
  have hdm := Int.emod_add_mul_ediv p (q : ℤ)
  have hr0 := Int.emod_nonneg p hqZ.ne'
  have hrq := Int.emod_lt_of_pos p hqZ
  rw [nintDistQ, if_neg hq.ne']
  generalize p / (q : ℤ) = n0 at *
  generalize p % (q : ℤ) = r at *
  -- the numerator `c = p - n·q` of the distance for the two candidates
  have hc0 : p - n0 * (q : ℤ) = r := by rw [← hdm]; ring
  have hc1 : p - (n0 + 1) * (q : ℤ) = r - q := by rw [← hdm]; ring
  clear hdm
  dsimp only
  split
  · -- round up: `c = r - q`, `-q ≤ 2c < 0`
    exact ⟨n0 + 1, _, rfl, nintQ_fin p (n0 + 1) q hq (by omega) (by omega) (by omega)⟩
  split
  · -- exact integer
    have hx : (p : ℚ) / (q : ℚ) = n0 := (div_eq_intCast_iff p n0 q hq).mpr (by omega)
    refine ⟨n0, _, rfl, ?_⟩
    rw [hx, sub_self, abs_zero]
    exact ⟨by norm_num, fun h => by norm_num at h, ⟨fun _ => rfl, fun _ => rfl⟩, nofun⟩
  · -- round down: `c = r`, `0 < 2c < q`
    exact ⟨n0, _, rfl, nintQ_fin p n0 q hq (by omega) (by omega) (by omega)⟩

/-- The two tie rules disagree on the same number: `-5/2` as an mpf gives `(-3, 0)`, as an mpq `(-2, -1)`.
(The docstring promises "the nearest integer" and leaves ties open; recorded as a finding.) -/
theorem nint_distance_tie_counterexample :
    nintDistF ⟨1, 5, -1, 3⟩ = .ok (-3, .fin 0) ∧ nintDistQ (-5) 2 = .ok (-2, .fin (-1)) := by decide

/-- "requires a finite number" is enforced for both parts (after the repair of the real-part check,
commit 8a0fe53: before it `nint_distance(inf)` returned `(0, -458)`): a special real OR imaginary part raises
ValueError. -/
theorem nint_distance_specials :
    nintDistF finf = .error .value ∧ nintDistF fninf = .error .value ∧ nintDistF fnan = .error .value ∧
    nintDistC finf fone = .error .value ∧ nintDistC fone finf = .error .value := by decide

/-- for all inputs: the result is an error exactly for a special (zero mantissa, not zero) real or
imaginary part. -/
theorem nint_distance_error_iff (re im : Mpf) :
    (∃ e, nintDistC re im = .error e) ↔ ((im.man = 0 ∧ im ≠ fzero) ∨ (re.man = 0 ∧ re ≠ fzero)) := by
  unfold nintDistC
  by_cases hm : im.man ≠ 0
  · rw [if_pos hm, nintDistCore_error_iff]
    exact ⟨Or.inr, fun h => h.resolve_left (fun h => hm h.1)⟩
  · rw [if_neg hm]
    by_cases hz : im = fzero
    · rw [if_pos hz, nintDistCore_error_iff]
      exact ⟨Or.inr, fun h => h.resolve_left (fun h => h.2 hz)⟩
    · rw [if_neg hz]
      exact ⟨fun _ => Or.inl ⟨not_not.mp hm, hz⟩, fun _ => ⟨_, rfl⟩⟩

end Mp

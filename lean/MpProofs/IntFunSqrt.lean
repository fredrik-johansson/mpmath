/-
  MpProofs/IntFunSqrt.lean — the integer loops of `isqrt_small_python` / `sqrtrem_python`.
-/
import MpModel.IntFun
import Mathlib.Data.Nat.Sqrt
import Mathlib.Tactic.Ring
import Mathlib.Tactic.Linarith
import Mathlib.Tactic.Zify

namespace Mp

theorem newton_step_ge (x r : Nat) (hr : 0 < r) : Nat.sqrt x ≤ (r + x / r) / 2 := by
  obtain ⟨s, hs⟩ : ∃ s, s = Nat.sqrt x := ⟨_, rfl⟩
  rw [← hs]
  have hsx : s * s ≤ x := by rw [hs]; exact Nat.sqrt_le x
  rw [Nat.le_div_iff_mul_le (by norm_num)]
  by_cases h : s * 2 ≤ r
  · exact le_trans h (Nat.le_add_right _ _)
  · have h1 : s * 2 - r ≤ x / r := by
      rw [Nat.le_div_iff_mul_le hr]
      have : (s * 2 - r) * r ≤ s * s := by
        zify [show r ≤ s * 2 by omega]
        linarith [sq_nonneg ((s : Int) - r)]
      omega
    omega

theorem newton_step_lt (x r : Nat) (hr : Nat.sqrt x < r) : (r + x / r) / 2 < r := by
  have h1 : x < r * r := Nat.sqrt_lt.mp hr
  have h2 : x / r < r := (Nat.div_lt_iff_lt_mul (by omega)).mpr h1
  omega

/-- the Newton loop returns the exact floor square root from ANY starting value `r ≥ isqrt(x)`, `r ≥ 1` -/
theorem isqrtNewton_spec (fuel x r : Nat) (hx : 0 < x) (hr0 : 0 < r) (hr : Nat.sqrt x ≤ r) (hf : r - Nat.sqrt x < fuel) :
    isqrtNewton fuel x r = Nat.sqrt x := by
  induction fuel generalizing r with
  | zero => omega
  | succ fuel ih =>
    unfold isqrtNewton
    simp only [Nat.shiftRight_one]
    by_cases hy : (r + x / r) / 2 ≥ r
    · rw [if_pos hy]
      by_contra hne
      have : Nat.sqrt x < r := by omega
      have := newton_step_lt x r this
      omega
    · rw [if_neg hy]
      have hge := newton_step_ge x r hr0
      have hs0 : 0 < Nat.sqrt x := Nat.sqrt_pos.mpr hx
      exact ih _ (by omega) hge (by omega)

/-! ## the correction loops of `sqrtrem_python` -/

theorem sqrtremDown_spec (x : Nat) (fuel : Nat) (y : Int) (hy : (Nat.sqrt x : Int) ≤ y)
    (hf : y - Nat.sqrt x < fuel) :
    sqrtremDown fuel y ((x : Int) - y * y) = ((Nat.sqrt x : Int), (x : Int) - (Nat.sqrt x : Int) * Nat.sqrt x) := by
  have h1 : ((Nat.sqrt x : Int)) * Nat.sqrt x ≤ x := by exact_mod_cast Nat.sqrt_le x
  have h2 : (x : Int) < ((Nat.sqrt x : Int) + 1) * (Nat.sqrt x + 1) := by exact_mod_cast Nat.lt_succ_sqrt x
  induction fuel generalizing y with
  | zero => omega
  | succ fuel ih =>
    unfold sqrtremDown
    by_cases hlt : (x : Int) - y * y < 0
    · rw [if_pos hlt]
      have hgt : (Nat.sqrt x : Int) < y := by
        by_contra hle
        have : y = Nat.sqrt x := by omega
        rw [this] at hlt; omega
      have := ih (y - 1) (by omega) (by omega)
      simp only
      rw [show (x : Int) - y * y + (1 + 2 * (y - 1)) = (x : Int) - (y - 1) * (y - 1) by ring]
      exact this
    · rw [if_neg hlt]
      have : y = Nat.sqrt x := by
        by_contra hne
        have hgt : (Nat.sqrt x : Int) + 1 ≤ y := by omega
        have : ((Nat.sqrt x : Int) + 1) * (Nat.sqrt x + 1) ≤ y * y :=
          mul_le_mul hgt hgt (by omega) (by omega)
        omega
      rw [this]

/-- The second correction loop tests `rem > 2*(1+y)` where exactness needs `rem > 2*y`: if the estimate were
2 (or more) below the root the function would return a wrong root.  Witness at the loop level (`x = 16`,
estimate 2): result `(3, 7)` instead of `(4, 0)`.  (No input with `isqrt_fast(x) ≤ isqrt(x) - 2` is known.) -/
theorem sqrtremLarge_underestimate_witness : sqrtremLarge 16 2 = (3, 7) := by decide

end Mp

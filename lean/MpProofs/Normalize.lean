/-
  MpProofs/Normalize.lean — the rounding step of `_normalize`, the sticky principle, and `_normalize` / `_normalize1` meet `RoundOK`.
-/
import MpProofs.Format

namespace Mp

variable {K : Type*} [Field K] [LinearOrder K] [IsStrictOrderedRing K]

theorem roundShift_down {rnd : Rnd} {sign : Nat} (hr : rnd ≠ .n) (hd : shiftsDown rnd sign = true)
    (man n : Nat) : roundShift rnd sign man n = man / 2 ^ n := by
  cases rnd <;> simp_all [roundShift, Nat.shiftRight_eq_div_pow]

theorem roundShift_up {rnd : Rnd} {sign : Nat} (hd : shiftsDown rnd sign = false)
    (man n : Nat) : roundShift rnd sign man n = (man + 2 ^ n - 1) / 2 ^ n := by
  cases rnd <;> simp_all [roundShift, Nat.shiftRight_eq_div_pow, shiftsDown]

theorem ceil_div_eq (man n : Nat) :
    (man + 2 ^ n - 1) / 2 ^ n = if man % 2 ^ n = 0 then man / 2 ^ n else man / 2 ^ n + 1 := by
  have hpos : 0 < 2 ^ n := Nat.two_pow_pos n
  generalize 2 ^ n = d at *
  have h1 := Nat.div_add_mod man d
  have h2 := Nat.mod_lt man hpos
  split
  · rename_i h0
    have : man + d - 1 = d * (man / d) + (d - 1) := by rw [h0] at h1; omega
    rw [this, Nat.mul_add_div hpos]
    have : (d - 1) / d = 0 := Nat.div_eq_of_lt (by omega)
    omega
  · rename_i h0
    have : man + d - 1 = d * (man / d + 1) + (man % d - 1) := by
      have : d * (man / d + 1) = d * (man / d) + d := by ring
      omega
    rw [this, Nat.mul_add_div hpos]
    have : (man % d - 1) / d = 0 := Nat.div_eq_of_lt (by omega)
    omega

theorem roundShift_near (sign man : Nat) {n : Nat} (hn : 0 < n) :
    roundShift .n sign man n =
      if 2 ^ n < 2 * (man % 2 ^ n) ∨ (2 * (man % 2 ^ n) = 2 ^ n ∧ (man / 2 ^ n) % 2 = 1)
      then man / 2 ^ n + 1 else man / 2 ^ n := by
  obtain ⟨k, rfl⟩ : ∃ k, n = k + 1 := ⟨n - 1, by omega⟩
  simp only [roundShift, Nat.add_sub_cancel, Nat.shiftRight_eq_div_pow]
  have hpos : 0 < 2 ^ k := Nat.two_pow_pos k
  have e2 : 2 ^ (k + 1) = 2 ^ k * 2 := pow_succ 2 k
  rw [e2]
  generalize 2 ^ k = h at *
  have d1 : man / h / 2 = man / (h * 2) := Nat.div_div_eq_div_mul man h 2
  have d2 : man / h % 2 = man % (h * 2) / h := (Nat.mod_mul_right_div_self man h 2).symm
  have d3 : man % h = man % (h * 2) % h := (Nat.mod_mul_right_mod man h 2).symm
  have hr := Nat.mod_lt man (show 0 < h * 2 by omega)
  have h4 := Nat.div_add_mod (man % (h * 2)) h
  have h5 := Nat.mod_lt (man % (h * 2)) hpos
  simp only [pow_one, d1, d2, d3]
  generalize man % (h * 2) = r at *
  generalize man / (h * 2) = q at *
  have hb : r / h = 0 ∨ r / h = 1 := by
    have : r / h < 2 := Nat.div_lt_of_lt_mul (by omega)
    omega
  rcases hb with hb | hb <;> rw [hb] at h4 ⊢ <;> simp only [Nat.mul_zero, Nat.mul_one, Nat.zero_add] at h4
  · have : ¬ (h * 2 < 2 * r ∨ 2 * r = h * 2 ∧ q % 2 = 1) := by omega
    simp [this]
  · by_cases c : q % 2 = 1 ∨ r % h ≠ 0
    · have : (h * 2 < 2 * r ∨ 2 * r = h * 2 ∧ q % 2 = 1) := by omega
      simp [this, c]
    · have : ¬ (h * 2 < 2 * r ∨ 2 * r = h * 2 ∧ q % 2 = 1) := by omega
      simp only [this, if_false]
      simp only [ne_eq] at c
      simp [c]

theorem roundShift_range (rnd : Rnd) (sign man : Nat) {n : Nat} (hn : 0 < n) :
    man / 2 ^ n ≤ roundShift rnd sign man n ∧ roundShift rnd sign man n ≤ man / 2 ^ n + 1 := by
  by_cases hr : rnd = .n
  · subst hr; rw [roundShift_near sign man hn]; split <;> omega
  · cases hd : shiftsDown rnd sign
    · rw [roundShift_up hd, ceil_div_eq]; split <;> omega
    · rw [roundShift_down hr hd]; omega

/-- a power of two is shifted exactly in every mode -/
theorem roundShift_pow_two (rnd : Rnd) (sign : Nat) {b n : Nat} (hn : 0 < n) (hnb : n ≤ b) :
    roundShift rnd sign (2 ^ b) n = 2 ^ (b - n) := by
  have hdiv : 2 ^ b / 2 ^ n = 2 ^ (b - n) := Nat.pow_div hnb (by norm_num)
  have hmod : 2 ^ b % 2 ^ n = 0 := Nat.mod_eq_zero_of_dvd (Nat.pow_dvd_pow 2 hnb)
  by_cases hr : rnd = .n
  · subst hr
    have := Nat.two_pow_pos n
    rw [roundShift_near sign _ hn, hmod, hdiv, if_neg (by omega)]
  · cases hd : shiftsDown rnd sign
    · rw [roundShift_up hd, ceil_div_eq, hmod, hdiv, if_pos rfl]
    · rw [roundShift_down hr hd, hdiv]

/-- rounding a signed value `(-1)^sign · X` in mode `rnd` is rounding the magnitude `X` down, up or to
nearest, as `shiftsDown rnd sign` says -/
theorem isRound_of_mag {p : ℕ} (rnd : Rnd) {sign : Nat} (hs : sign ≤ 1) {X y : K} (hX : 0 < X)
    (hdown : rnd ≠ .n → shiftsDown rnd sign = true → IsRoundF p X y)
    (hup : shiftsDown rnd sign = false → IsRoundC p X y)
    (hnear : rnd = .n → IsRoundN p X y) :
    IsRound p rnd ((-1 : K) ^ sign * X) ((-1 : K) ^ sign * y) := by
  have hs' : sign = 0 ∨ sign = 1 := by omega
  rcases hs' with rfl | rfl
  · simp only [pow_zero, one_mul]
    cases rnd <;> simp only [IsRound, hX.le, if_true]
    · exact hnear rfl
    · exact hdown (by decide) (by decide)
    · exact hup (by decide)
    · exact hup (by decide)
    · exact hdown (by decide) (by decide)
  · simp only [pow_one, neg_one_mul]
    have hneg : ¬ (0 ≤ -X) := by linarith
    cases rnd <;> simp only [IsRound, hneg, if_false]
    · exact isRoundN_neg.2 (hnear rfl)
    · exact isRoundF_neg.2 (hup (by decide))
    · exact isRoundC_neg.2 (hdown (by decide) (by decide))
    · exact isRoundF_neg.2 (hup (by decide))
    · exact isRoundC_neg.2 (hdown (by decide) (by decide))

/-- `X` rounds like the `p+n`-bit mantissa `man` (at exponent `exp`) does: it sits in the same
`p`-bit cell `[q·2^E, (q+1)·2^E]` (`q = man / 2^n`, `E = exp+n`), on the same side of the midpoint. -/
structure CellLike (p n man : ℕ) (exp : ℤ) (X : K) : Prop where
  exact : man % 2 ^ n = 0 → X = ((man / 2 ^ n : ℕ) : K) * 2 ^ (exp + n)
  inside : man % 2 ^ n ≠ 0 →
    ((man / 2 ^ n : ℕ) : K) * 2 ^ (exp + n) < X ∧ X < (((man / 2 ^ n : ℕ) : K) + 1) * 2 ^ (exp + n)
  lo : 2 * (man % 2 ^ n) < 2 ^ n →
    X - ((man / 2 ^ n : ℕ) : K) * 2 ^ (exp + n) < (((man / 2 ^ n : ℕ) : K) + 1) * 2 ^ (exp + n) - X
  hi : 2 ^ n < 2 * (man % 2 ^ n) →
    (((man / 2 ^ n : ℕ) : K) + 1) * 2 ^ (exp + n) - X < X - ((man / 2 ^ n : ℕ) : K) * 2 ^ (exp + n)
  tie : 2 * (man % 2 ^ n) = 2 ^ n →
    X - ((man / 2 ^ n : ℕ) : K) * 2 ^ (exp + n) = (((man / 2 ^ n : ℕ) : K) + 1) * 2 ^ (exp + n) - X

theorem man_cell_decomp (man n : ℕ) (exp : ℤ) :
    (man : K) * 2 ^ exp = ((man / 2 ^ n : ℕ) : K) * 2 ^ (exp + n) + ((man % 2 ^ n : ℕ) : K) * 2 ^ exp := by
  have hdm := Nat.div_add_mod man (2 ^ n)
  have hE : (2 : K) ^ (exp + n) = 2 ^ exp * 2 ^ n := by rw [zpow_add₀ (by norm_num), zpow_natCast]
  have hmanQ : (man : K) = 2 ^ n * ((man / 2 ^ n : ℕ) : K) + ((man % 2 ^ n : ℕ) : K) := by exact_mod_cast hdm.symm
  rw [hE]; conv_lhs => rw [hmanQ]
  ring

theorem cell_width (q : K) (n : ℕ) (exp : ℤ) :
    (q + 1) * 2 ^ (exp + n) = q * 2 ^ (exp + n) + 2 ^ n * 2 ^ exp := by
  rw [zpow_add₀ two_ne_zero, zpow_natCast]; ring

theorem head_bounds {p n man : ℕ} (hp : 0 < p) (hbc : bitcount man = p + n) :
    2 ^ (p - 1) ≤ man / 2 ^ n ∧ man / 2 ^ n < 2 ^ p := by
  have hq : bitcount (man / 2 ^ n) = p := by rw [bitcount_div (by omega)]; omega
  have hq0 : man / 2 ^ n ≠ 0 := by intro h; rw [h] at hq; simp at hq; omega
  exact ⟨by have := bitcount_le hq0; rwa [hq] at this, by have := bitcount_lt (man / 2 ^ n); rwa [hq] at this⟩

/-- In a cell `[L, U]` of width `w·e` let `Y = L + r·e` with `0 ≤ r < w`.  If `X` compares with the
three landmarks `L`, `U` and the midpoint as `Y` does, then the position of `r` in `[0, w)` tells
where `X` lies. -/
theorem cell_sides {L U Y X r w e : K} (he : 0 < e) (hY : Y = L + r * e) (hU : U = L + w * e)
    (hr : 0 ≤ r) (hrw : r < w)
    (h : ∀ P : K, P = L ∨ P = U ∨ 2 * P = L + U → (P < Y → P < X) ∧ (P = Y → P = X) ∧ (Y < P → X < P)) :
    (r = 0 → X = L) ∧ (r ≠ 0 → L < X ∧ X < U) ∧ (2 * r < w → X - L < U - X) ∧
    (w < 2 * r → U - X < X - L) ∧ (2 * r = w → X - L = U - X) := by
  have hL := h L (Or.inl rfl)
  have hM := h ((L + U) / 2) (Or.inr (Or.inr (by ring)))
  have hYU : Y < U := by rw [hY, hU]; exact (add_lt_add_iff_left L).2 (mul_lt_mul_of_pos_right hrw he)
  have hmid : 2 * Y - (L + U) = (2 * r - w) * e := by rw [hY, hU]; ring
  refine ⟨fun h0 => (hL.2.1 (by rw [hY, h0, zero_mul, add_zero])).symm,
    fun h0 => ⟨hL.1 ?_, (h U (Or.inr (Or.inl rfl))).2.2 hYU⟩, fun hc => ?_, fun hc => ?_, fun hc => ?_⟩
  · rw [hY]; exact lt_add_of_pos_right L (mul_pos (lt_of_le_of_ne hr (Ne.symm h0)) he)
  · have hneg := mul_neg_of_neg_of_pos (sub_neg.2 hc) he
    have := hM.2.2 (by linarith only [hneg, hmid]); linarith only [this]
  · have hpos := mul_pos (sub_pos.2 hc) he
    have := hM.1 (by linarith only [hpos, hmid]); linarith only [this]
  · have hzero : (2 * r - w) * e = 0 := by rw [hc, sub_self, zero_mul]
    have := hM.2.1 (by linarith only [hzero, hmid]); linarith only [this]

theorem same_side {a b X Y P : K} (hY1 : a < Y) (hY2 : Y < b) (hX1 : a < X) (hX2 : X < b)
    (hP : P ≤ a ∨ b ≤ P) : (P < Y → P < X) ∧ (P = Y → P = X) ∧ (Y < P → X < P) := by
  rcases hP with h | h
  · exact ⟨fun _ => h.trans_lt hX1, fun e => absurd e (h.trans_lt hY1).ne,
      fun h' => absurd ((hY1.trans h').trans_le h) (lt_irrefl a)⟩
  · exact ⟨fun h' => absurd ((h.trans_lt h').trans hY2) (lt_irrefl b), fun e => absurd e (hY2.trans_le h).ne',
      fun _ => hX2.trans_le h⟩

/-- `X` is `CellLike` the stand-in `man·2^exp` as soon as it compares with the lower end, the upper
end and the midpoint of the cell as the stand-in does. -/
theorem cellLike_of_landmarks {p n man : ℕ} {exp : ℤ} {X : K}
    (h : ∀ P : K, P = ((man / 2 ^ n : ℕ) : K) * 2 ^ (exp + n) ∨
        P = (((man / 2 ^ n : ℕ) : K) + 1) * 2 ^ (exp + n) ∨
        2 * P = ((man / 2 ^ n : ℕ) : K) * 2 ^ (exp + n) + (((man / 2 ^ n : ℕ) : K) + 1) * 2 ^ (exp + n) →
      (P < (man : K) * 2 ^ exp → P < X) ∧ (P = (man : K) * 2 ^ exp → P = X) ∧
      ((man : K) * 2 ^ exp < P → X < P)) :
    CellLike p n man exp X := by
  have hrw : ((man % 2 ^ n : ℕ) : K) < 2 ^ n := by exact_mod_cast Nat.mod_lt man (Nat.two_pow_pos n)
  obtain ⟨h0, h1, h2, h3, h4⟩ := cell_sides (two_zpow_pos exp) (man_cell_decomp man n exp)
    (cell_width _ n exp) (Nat.cast_nonneg _) hrw h
  exact ⟨fun c => h0 (by exact_mod_cast c), fun c => h1 (by exact_mod_cast c),
    fun c => h2 (by exact_mod_cast c), fun c => h3 (by exact_mod_cast c), fun c => h4 (by exact_mod_cast c)⟩

theorem cellLike_exact (p n man : ℕ) (exp : ℤ) : CellLike p n man exp ((man : K) * 2 ^ exp) :=
  cellLike_of_landmarks fun _ _ => ⟨id, id, id⟩

/-- **sticky principle**: if `X` and the stand-in `man·2^exp` lie strictly inside one cell
`(S·2^w, (S+1)·2^w)` with `S ≥ 2^p` (a cell too fine to contain any `p+1`-bit number), then `X`
rounds to `p` bits exactly like the stand-in does. -/
theorem cellLike_of_cell {p n man : ℕ} (hp : 0 < p) (hn : 0 < n) (hbc : bitcount man = p + n) (exp : ℤ)
    {S : ℕ} {w : ℤ} (hS : 2 ^ p ≤ S) {X : K}
    (hY1 : (S : K) * 2 ^ w < (man : K) * 2 ^ exp) (hY2 : (man : K) * 2 ^ exp < ((S : K) + 1) * 2 ^ w)
    (hX1 : (S : K) * 2 ^ w < X) (hX2 : X < ((S : K) + 1) * 2 ^ w) : CellLike p n man exp X := by
  have hq2 : man / 2 ^ n < 2 ^ (p + 1) := by have := (head_bounds hp hbc).2; rw [pow_succ]; omega
  have hq3 : 2 * (man / 2 ^ n) + 1 < 2 ^ (p + 1) := by have := (head_bounds hp hbc).2; rw [pow_succ]; omega
  -- the three landmarks of the p-cell are (p+1)-bit numbers, hence outside the fine cell
  refine cellLike_of_landmarks fun P hP => ?_
  have hrep : Repb (p + 1) P := by
    rcases hP with rfl | rfl | hP
    · exact repb_nat hq2 _
    · exact repb_nat_succ (Nat.succ_pos p) hq2 _
    · have e : (2 : K) ^ (exp + n) = 2 ^ (exp + n - 1) * 2 := by
        rw [← zpow_add_one₀ two_ne_zero]; congr 1; ring
      have : P = ((2 * (man / 2 ^ n) + 1 : ℕ) : K) * 2 ^ (exp + n - 1) :=
        mul_left_cancel₀ two_ne_zero (by rw [hP, e]; push_cast; ring)
      rw [this]; exact repb_nat hq3 _
  exact same_side hY1 hY2 hX1 hX2 (repb_outside_cell (Nat.succ_pos p) (by simpa using hS) hrep)

theorem CellLike.lower {p n man : ℕ} {exp : ℤ} {X : K} (h : CellLike p n man exp X) :
    ((man / 2 ^ n : ℕ) : K) * 2 ^ (exp + n) ≤ X := by
  by_cases h0 : man % 2 ^ n = 0
  · rw [h.exact h0]
  · exact (h.inside h0).1.le

theorem CellLike.upper {p n man : ℕ} {exp : ℤ} {X : K} (h : CellLike p n man exp X) :
    X < (((man / 2 ^ n : ℕ) : K) + 1) * 2 ^ (exp + n) := by
  by_cases h0 : man % 2 ^ n = 0
  · rw [h.exact h0]; exact mul_lt_mul_of_pos_right (lt_add_one _) (two_zpow_pos _)
  · exact (h.inside h0).2

theorem roundShift_isRound {p : ℕ} (hp : 0 < p) (rnd : Rnd) {sign : Nat} (hs : sign ≤ 1)
    {man n : Nat} (hn : 0 < n) (hbc : bitcount man = p + n) (exp : ℤ) {X : K}
    (hX : CellLike p n man exp X) :
    IsRound p rnd ((-1 : K) ^ sign * X)
      ((-1 : K) ^ sign * ((roundShift rnd sign man n : K) * 2 ^ (exp + n))) := by
  obtain ⟨hq1, hq2⟩ := head_bounds hp hbc
  have hlo := hX.lower
  have hhi := hX.upper
  have hXpos : (0 : K) < X := lt_of_lt_of_le (mul_pos
    (Nat.cast_pos.2 (lt_of_lt_of_le (Nat.two_pow_pos _) hq1)) (two_zpow_pos _)) hlo
  apply isRound_of_mag rnd hs hXpos
  · intro hr hd
    rw [roundShift_down hr hd]
    exact isRoundF_of_cell hp hq1 hq2 hlo hhi
  · intro hd
    rw [roundShift_up hd, ceil_div_eq]
    split
    · rename_i h0
      rw [hX.exact h0]; exact isRoundC_self (repb_nat hq2 _)
    · rename_i h0
      rw [Nat.cast_succ]
      exact isRoundC_of_cell hp hq1 hq2 (hX.inside h0).1 hhi.le
  · intro hr; subst hr
    rw [roundShift_near sign man hn]
    split
    · rename_i hc
      rw [Nat.cast_succ]
      rcases hc with hc | ⟨hc, hodd⟩
      · exact isRoundN_of_cell_hi hp hq1 hq2 hlo hhi.le (hX.hi hc)
      · exact isRoundN_of_cell_tie_odd hp hq1 hq2 (hX.tie hc) hodd
    · rename_i hc
      rw [not_or, not_lt, not_and] at hc
      rcases Nat.lt_or_eq_of_le hc.1 with hlt | heq
      · exact isRoundN_of_cell_lo hp hq1 hq2 hlo hhi.le (hX.lo hlt)
      · exact isRoundN_of_cell_tie_even hp hq1 hq2 (hX.tie heq) (by have := hc.2 heq; omega)

theorem valK_mk (s m : Nat) (e b : Int) : valK K ⟨s, m, e, b⟩ = (-1 : K) ^ s * ((m : K) * 2 ^ e) := by
  simp [valK, mul_assoc]

theorem val_eq_valK (x : Mpf) : val x = valK ℚ x := rfl

theorem val_mk (s m : Nat) (e b : Int) : val ⟨s, m, e, b⟩ = (-1 : ℚ) ^ s * ((m : ℚ) * 2 ^ e) := by
  simp [val, mul_assoc]

theorem stripTrailing_valK (s m : Nat) (e b : Int) :
    valK K (stripTrailing s m e b) = (-1 : K) ^ s * ((m : K) * 2 ^ e) := by
  simp only [stripTrailing, valK_mk]
  congr 1
  have h := shiftRight_trailing_mul m
  have hQ : ((m >>> trailing m : ℕ) : K) * 2 ^ trailing m = m := by exact_mod_cast h
  rw [zpow_add₀ (by norm_num), zpow_natCast]
  calc ((m >>> trailing m : ℕ) : K) * (2 ^ e * 2 ^ trailing m)
      = (((m >>> trailing m : ℕ) : K) * 2 ^ trailing m) * 2 ^ e := by ring
    _ = (m : K) * 2 ^ e := by rw [hQ]

/-- with the exact bit count recorded, the `man == 1` repair of `stripTrailing` changes nothing -/
theorem stripTrailing_exact {m : ℕ} (hm : m ≠ 0) (s : ℕ) (e : ℤ) :
    stripTrailing s m e (bitcount m) =
      ⟨s, m >>> trailing m, e + trailing m, (bitcount m : ℤ) - trailing m⟩ := by
  have hbc := bitcount_shiftRight_trailing hm
  have htl := trailing_lt_bitcount hm
  simp only [stripTrailing, Mpf.mk.injEq, true_and]
  split
  · rename_i h1; rw [h1, bitcount_one] at hbc; omega
  · rfl

/-- stripping gives a canonical finite tuple provided the recorded bit count is right
(or the mantissa is a power of two, where the `man == 1` repair applies). -/
theorem stripTrailing_canon {s m : Nat} (hs : s ≤ 1) (hm : m ≠ 0) (e : Int) {b : Int}
    (hb : b = (bitcount m : Int) ∨ ∃ k, m = 2 ^ k) (hb1 : 1 ≤ b) :
    CanonFin (stripTrailing s m e b) ∧ (stripTrailing s m e b).bc ≤ b := by
  have hodd := trailing_odd hm
  have hbc := bitcount_shiftRight_trailing hm
  have htl := trailing_lt_bitcount hm
  simp only [stripTrailing, Nat.shiftRight_eq_div_pow] at *
  constructor
  · right
    refine ⟨hs, hodd, ?_⟩
    show (if m / 2 ^ trailing m = 1 then (1 : Int) else b - trailing m) = _
    split
    · rename_i h1; rw [h1]; simp [bitcount_one]
    · rename_i h1
      rcases hb with hb | ⟨k, hk⟩
      · rw [hb, hbc]; omega
      · exact absurd (by rw [hk, trailing_pow_two, Nat.div_self (Nat.two_pow_pos k)]) h1
  · show (if m / 2 ^ trailing m = 1 then (1 : Int) else b - trailing m) ≤ b
    split <;> omega

theorem canonFin_fzero : CanonFin fzero := Or.inl rfl

theorem valK_fzero : valK K fzero = 0 := by simp [valK, fzero]

theorem val_fzero : val fzero = 0 := by simp [val, fzero]

theorem canonFin_fone : CanonFin fone := Or.inr ⟨by decide, by decide, by decide⟩

theorem val_fone : val fone = 1 := by simp [val, fone]

theorem isRound_zero (p : ℕ) (rnd : Rnd) : IsRound p rnd (0 : K) 0 := isRound_self rnd (repb_zero p)

theorem repb_of_bitcount_le {p : ℕ} {m : ℕ} (h : bitcount m ≤ p) (s : ℕ) (e : ℤ) :
    Repb p ((-1 : K) ^ s * ((m : K) * 2 ^ e)) := by
  have hm : m < 2 ^ p := lt_of_lt_of_le (bitcount_lt m) (Nat.pow_le_pow_right (by norm_num) h)
  rcases Nat.even_or_odd s with hs | hs
  · rw [hs.neg_one_pow, one_mul]; exact repb_nat hm e
  · rw [hs.neg_one_pow, neg_one_mul]; exact (repb_nat hm e).neg

/-- core of the `_normalize` proofs: whatever value `X` the rounding *step* is known to round
correctly, the whole function (rounding, stripping, bit-count repair) rounds correctly. -/
theorem normalize_round_core {sign : Nat} (hs : sign ≤ 1) (man : Nat) (exp : Int) {prec : Int}
    (hp : 0 < prec) (rnd : Rnd) (X : K)
    (hfit : (bitcount man : Int) ≤ prec → X = (man : K) * 2 ^ exp)
    (hstep : ∀ n : ℕ, 0 < n → bitcount man = prec.toNat + n →
      IsRound prec.toNat rnd ((-1 : K) ^ sign * X)
        ((-1 : K) ^ sign * ((roundShift rnd sign man n : K) * 2 ^ (exp + n)))) :
    CanonFin (normalize sign man exp (bitcount man) prec rnd) ∧
    (normalize sign man exp (bitcount man) prec rnd).bc ≤ prec ∧
    IsRound prec.toNat rnd ((-1 : K) ^ sign * X) (valK K (normalize sign man exp (bitcount man) prec rnd)) := by
  unfold normalize
  split
  · rename_i h0
    subst h0
    have hX : X = 0 := by rw [hfit (by simp; omega)]; simp
    refine ⟨canonFin_fzero, by simp [fzero]; omega, ?_⟩
    rw [hX, valK_fzero, mul_zero]
    exact isRound_zero _ _
  · rename_i h0
    obtain ⟨p, rfl⟩ : ∃ p : ℕ, prec = p := ⟨prec.toNat, by omega⟩
    have hp' : 0 < p := by omega
    simp only [Int.toNat_natCast] at hstep ⊢
    split
    · rename_i hn
      obtain ⟨n, hn'⟩ : ∃ n : ℕ, (bitcount man : Int) - p = n := ⟨((bitcount man : Int) - p).toNat, by omega⟩
      have hnpos : 0 < n := by omega
      have hbc : bitcount man = p + n := by omega
      have hr := hstep n hnpos hbc
      have hrange := roundShift_range rnd sign man hnpos
      obtain ⟨hq1, hq2⟩ := head_bounds hp' hbc
      have hr1 : 2 ^ (p - 1) ≤ roundShift rnd sign man n := by omega
      have hr2 : roundShift rnd sign man n ≤ 2 ^ p := by omega
      rw [hn', Int.toNat_natCast]
      have hq0 : roundShift rnd sign man n ≠ 0 := by
        have := Nat.two_pow_pos (p - 1); omega
      have hcanon := stripTrailing_canon hs hq0 (exp + n) (b := (p : Int)) (by
        rcases Nat.lt_or_eq_of_le hr2 with hlt | heq
        · left
          have : bitcount (roundShift rnd sign man n) = p := by
            have := bitcount_eq hr1 (by rwa [Nat.sub_add_cancel hp'])
            omega
          rw [this]
        · right; exact ⟨p, heq⟩) (by omega)
      refine ⟨hcanon.1, hcanon.2, ?_⟩
      · rw [stripTrailing_valK]; exact hr
    · rename_i hn
      have hle : bitcount man ≤ p := by omega
      have hb := bitcount_pos h0
      have hcanon := stripTrailing_canon hs h0 exp (b := (bitcount man : Int)) (Or.inl rfl) (by omega)
      refine ⟨hcanon.1, by have := hcanon.2; omega, ?_⟩
      · rw [stripTrailing_valK, hfit (by omega)]
        exact isRound_self rnd (repb_of_bitcount_le hle sign exp)

/-- **`_normalize` rounds correctly, also for stand-ins**: the result is canonical, has at most
`prec` bits, and is the correctly rounded value of `(-1)^sign · X` for the exact value
`X = man·2^exp` or any `X` that is `CellLike` it (sticky-bit stand-ins). -/
theorem normalize_round_gen {sign : Nat} (hs : sign ≤ 1) (man : Nat) (exp : Int) {prec : Int}
    (hp : 0 < prec) (rnd : Rnd) (X : K)
    (hfit : (bitcount man : Int) ≤ prec → X = (man : K) * 2 ^ exp)
    (hcell : ∀ n : ℕ, 0 < n → bitcount man = prec.toNat + n → CellLike prec.toNat n man exp X) :
    CanonFin (normalize sign man exp (bitcount man) prec rnd) ∧
    (normalize sign man exp (bitcount man) prec rnd).bc ≤ prec ∧
    IsRound prec.toNat rnd ((-1 : K) ^ sign * X) (valK K (normalize sign man exp (bitcount man) prec rnd)) :=
  normalize_round_core hs man exp hp rnd X hfit (fun n hn hbc =>
    roundShift_isRound (by omega) rnd hs hn hbc exp (hcell n hn hbc))

/-- rounding *down in magnitude* only needs the value to lie in the half-open unit cell of the
mantissa: `man·2^exp ≤ X < (man+1)·2^exp` (used for the floor square root). -/
theorem normalize_round_down {sign : Nat} (hs : sign ≤ 1) (man : Nat) (exp : Int) {prec : Int}
    (hp : 0 < prec) {rnd : Rnd} (hr : rnd ≠ .n) (hd : shiftsDown rnd sign = true) (X : K)
    (hbig : prec < bitcount man)
    (hX1 : (man : K) * 2 ^ exp ≤ X) (hX2 : X < ((man : K) + 1) * 2 ^ exp) :
    CanonFin (normalize sign man exp (bitcount man) prec rnd) ∧
    (normalize sign man exp (bitcount man) prec rnd).bc ≤ prec ∧
    IsRound prec.toNat rnd ((-1 : K) ^ sign * X) (valK K (normalize sign man exp (bitcount man) prec rnd)) := by
  apply normalize_round_core hs man exp hp rnd X (fun h => by omega)
  intro n hn hbc
  have hp' : 0 < prec.toNat := by omega
  obtain ⟨hq1, hq2⟩ := head_bounds hp' hbc
  have he : (0 : K) < 2 ^ exp := two_zpow_pos exp
  -- lower end ≤ man·2^exp ≤ X < (man+1)·2^exp ≤ upper end
  have hdec := man_cell_decomp (K := K) man n exp
  have hr0 : (0 : K) ≤ ((man % 2 ^ n : ℕ) : K) * 2 ^ exp := mul_nonneg (Nat.cast_nonneg _) he.le
  have hr1 : (((man % 2 ^ n : ℕ) : K) + 1) * 2 ^ exp ≤ 2 ^ n * 2 ^ exp :=
    mul_le_mul_of_nonneg_right (by exact_mod_cast Nat.mod_lt man (Nat.two_pow_pos n)) he.le
  have hman : (0 : K) < (man : K) * 2 ^ exp :=
    mul_pos (Nat.cast_pos.2 (Nat.pos_of_ne_zero (by intro h; rw [h] at hbig; simp at hbig; omega))) he
  apply isRound_of_mag rnd hs (lt_of_lt_of_le hman hX1)
  · intro _ _
    rw [roundShift_down hr hd]
    exact isRoundF_of_cell hp' hq1 hq2 (by linarith only [hX1, hr0, hdec])
      (by rw [cell_width]; linarith only [hX2, hr1, hdec])
  · intro h; rw [hd] at h; exact absurd h (by decide)
  · intro h; exact absurd h hr

/-- **`_normalize` is correct rounding**: for every sign bit, mantissa (any length), exponent,
precision `≥ 1` and rounding mode, given the exact bit count, the result is canonical, has at most
`prec` bits and is the correctly rounded value of `(-1)^sign · man · 2^exp`. -/
theorem normalize_spec {sign : Nat} (hs : sign ≤ 1) (man : Nat) (exp : Int) {prec : Int}
    (hp : 0 < prec) (rnd : Rnd) :
    RoundOK prec rnd ((-1 : ℚ) ^ sign * ((man : ℚ) * 2 ^ exp))
      (normalize sign man exp (bitcount man) prec rnd) := by
  obtain ⟨h1, h2, h3⟩ := normalize_round_gen (K := ℚ) hs man exp hp rnd ((man : ℚ) * 2 ^ exp)
    (fun _ => rfl) (fun n _ _ => cellLike_exact _ n man exp)
  exact ⟨h1, fun h => by omega, fun _ => ⟨h3, h2⟩⟩

/-- **sticky principle for `_normalize`**: a mantissa with more than `prec` bits that lies with `X`
strictly inside one cell `(S·2^w, (S+1)·2^w)`, `S ≥ 2^prec`, is normalised to the correct rounding of
`X` (over any ordered field: ℚ for quotients and sums, ℝ for square roots). -/
theorem normalize_sticky_gen {sign : Nat} (hs : sign ≤ 1) (man : Nat) (exp : Int) {prec : Int}
    (hp : 0 < prec) (rnd : Rnd) (hbig : prec < bitcount man) {S : ℕ} {w : ℤ} (hS : 2 ^ prec.toNat ≤ S)
    {X : K} (hY1 : (S : K) * 2 ^ w < (man : K) * 2 ^ exp) (hY2 : (man : K) * 2 ^ exp < ((S : K) + 1) * 2 ^ w)
    (hX1 : (S : K) * 2 ^ w < X) (hX2 : X < ((S : K) + 1) * 2 ^ w) :
    CanonFin (normalize sign man exp (bitcount man) prec rnd) ∧
    (normalize sign man exp (bitcount man) prec rnd).bc ≤ prec ∧
    IsRound prec.toNat rnd ((-1 : K) ^ sign * X) (valK K (normalize sign man exp (bitcount man) prec rnd)) :=
  normalize_round_gen hs man exp hp rnd X (fun h => by omega)
    (fun _ hn hbc => cellLike_of_cell (by omega) hn hbc exp hS hY1 hY2 hX1 hX2)

/-- the same as `RoundOK`, for rational `X` -/
theorem normalize_sticky {sign : Nat} (hs : sign ≤ 1) (man : Nat) (exp : Int) {p : ℕ} (hp : 0 < p) (rnd : Rnd)
    (hbig : p < bitcount man) {S : ℕ} {w : ℤ} (hS : 2 ^ p ≤ S) {X : ℚ}
    (hY1 : (S : ℚ) * 2 ^ w < (man : ℚ) * 2 ^ exp) (hY2 : (man : ℚ) * 2 ^ exp < ((S : ℚ) + 1) * 2 ^ w)
    (hX1 : (S : ℚ) * 2 ^ w < X) (hX2 : X < ((S : ℚ) + 1) * 2 ^ w) :
    RoundOK p rnd ((-1 : ℚ) ^ sign * X) (normalize sign man exp (bitcount man) p rnd) := by
  obtain ⟨h1, h2, h3⟩ := normalize_sticky_gen (K := ℚ) hs man exp (Int.natCast_pos.2 hp) rnd
    (by omega) (by simpa using hS) hY1 hY2 hX1 hX2
  exact ⟨h1, fun h => by omega, fun _ => ⟨h3, h2⟩⟩

theorem normalize_val_of_fits {sign : Nat} (man : Nat) (exp : Int) {prec : Int}
    (h : (bitcount man : Int) ≤ prec) (rnd : Rnd) :
    val (normalize sign man exp (bitcount man) prec rnd) = (-1 : ℚ) ^ sign * ((man : ℚ) * 2 ^ exp) := by
  unfold normalize
  split
  · rename_i h0; subst h0; simp [val_fzero]
  · have : ¬ ((bitcount man : Int) - prec > 0) := by omega
    simp only [this, if_false]
    exact stripTrailing_valK _ _ _ _

theorem stripTrailing_pow_two (sign j : Nat) (e b : Int) :
    stripTrailing sign (2 ^ j) e b = ⟨sign, 1, e + j, 1⟩ := by
  simp [stripTrailing, trailing_pow_two, Nat.shiftRight_eq_div_pow]

/-- on a power of two `_normalize` returns `2^(e+b)` whether it is handed the exact bit count `b + 1`
or the count `b` that an upward truncation of an all-ones mantissa leaves behind -/
theorem normalize_pow_two (sign b : Nat) (e : Int) {c : Int} (hc : c = b ∨ c = b + 1) {prec : Int}
    (hp : 0 < prec) (rnd : Rnd) :
    normalize sign (2 ^ b) e c prec rnd = ⟨sign, 1, e + b, 1⟩ := by
  unfold normalize
  rw [if_neg (Nat.two_pow_pos b).ne']
  dsimp only
  by_cases hgt : c - prec > 0
  · obtain ⟨n, hn⟩ : ∃ n : ℕ, c - prec = n := ⟨(c - prec).toNat, by omega⟩
    rw [if_pos hgt, hn, Int.toNat_natCast, roundShift_pow_two rnd sign (by omega) (by omega),
      stripTrailing_pow_two]
    congr 1; omega
  · rw [if_neg hgt, stripTrailing_pow_two]

theorem normalize1_eq_normalize (sign : Nat) {man : Nat} (hodd : man % 2 = 1) (exp : Int) (prec : Int)
    (rnd : Rnd) :
    normalize1 sign man exp (bitcount man) prec rnd = normalize sign man exp (bitcount man) prec rnd := by
  unfold normalize1 normalize
  have h0 : man ≠ 0 := by omega
  simp only [h0, if_false]
  by_cases hle : (bitcount man : Int) ≤ prec
  · have : ¬ ((bitcount man : Int) - prec > 0) := by omega
    simp only [hle, if_true, this, if_false]
    simp only [stripTrailing, trailing_of_odd hodd, Nat.shiftRight_zero, Nat.cast_zero, add_zero, sub_zero]
    split
    · rename_i h1; rw [h1]; simp [bitcount_one]
    · rfl
  · have : ((bitcount man : Int) - prec > 0) := by omega
    simp only [hle, if_false, this, if_true]

theorem normalize1_spec {sign : Nat} (hs : sign ≤ 1) {man : Nat} (hodd : man % 2 = 1 ∨ man = 0)
    (exp : Int) {prec : Int} (hp : 0 < prec) (rnd : Rnd) :
    RoundOK prec rnd ((-1 : ℚ) ^ sign * ((man : ℚ) * 2 ^ exp))
      (normalize1 sign man exp (bitcount man) prec rnd) := by
  rcases hodd with hodd | h0
  · rw [normalize1_eq_normalize sign hodd]; exact normalize_spec hs man exp hp rnd
  · subst h0
    have : normalize1 sign 0 exp (bitcount 0) prec rnd = normalize sign 0 exp (bitcount 0) prec rnd := by
      simp [normalize1, normalize]
    rw [this]; exact normalize_spec hs 0 exp hp rnd

end Mp

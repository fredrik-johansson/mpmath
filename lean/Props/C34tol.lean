/-
  Props/C34tol.lean — C34, the explicit-tolerance class (harness `props/C34.py`, `explicit=True`): the additional
  non-autonomous polynomial problem `y' = −2(x − c)·y²`, `y(x0) = y0 > 0`, `c ≤ x0` of `MpModel/CalcOdeX.lean`, and the meaning of
  the checker's verdict at the requested tolerance itself (`k = 0`: `|y − y_exact| ≤ 2^(−t)·max(|y_exact|, 1)`, `tol = 2^(−t)`).

  Proved: the rational reference value denotes THE solution (initial value, differential equation on `[x0, ∞)`, uniqueness on
  `[x0, T]` by Grönwall); for `c = x0` the solution is even in `x − x0`; verdicts of the checker are theorems about that solution.
  Not claimed: accuracy of `ode_taylor` as a theorem (sampled, as in `Props/C34.lean`).
-/
import MpProofs.CalcOdeX

namespace Mp
open Mp.Calc Mp.Encl Set

/-- the reference produced for `x` denotes the closed form `1/(1/y0 + (x − c)² − (x0 − c)²)` -/
theorem C34_ricx_solution_ref (o : RicX) (x : ℚ) (r : Ref) (h : o.solRef x = some r) :
    r.sem = 1 / (1 / (o.y0 : ℝ) + ((x : ℝ) - o.c) ^ 2 - ((o.x0 : ℝ) - o.c) ^ 2) :=
  RicX.solRef_sem o x r h

/-- a reference is produced exactly when `y0 > 0`, `c ≤ x0` and `x ≥ x0` -/
theorem C34_ricx_solution_ref_defined (o : RicX) (x : ℚ) :
    (∃ r, o.solRef x = some r) ↔ (0 < o.y0 ∧ o.c ≤ o.x0 ∧ o.x0 ≤ x) := by
  unfold RicX.solRef
  constructor
  · rintro ⟨r, h⟩
    split at h
    · rename_i hc
      simpa [RicX.ok, and_assoc] using hc
    · simp at h
  · rintro ⟨h1, h2, h3⟩
    exact ⟨.rat (o.solQ x), by simp [RicX.ok, h1, h2, h3]⟩

/-- the closed form solves the initial value problem: `y(x0) = y0` and `y'(x) = −2(x − c)·y(x)²` for every `x ≥ x0` -/
theorem C34_ricx_is_solution (o : RicX) (hok : o.ok = true) :
    o.sol (o.x0 : ℝ) = (o.y0 : ℝ) ∧
    ∀ x : ℝ, (o.x0 : ℝ) ≤ x → HasDerivAt o.sol (-2 * (x - (o.c : ℝ)) * (o.sol x) ^ 2) x :=
  ⟨o.sol_init hok, fun x hx => o.sol_hasDerivAt hok x hx⟩

/-- … and it is the only one on `[x0, T]` -/
theorem C34_ricx_unique (o : RicX) (hok : o.ok = true) (T : ℝ) (f : ℝ → ℝ)
    (hc : ContinuousOn f (Icc (o.x0 : ℝ) T))
    (hd : ∀ t ∈ Ico (o.x0 : ℝ) T, HasDerivWithinAt f (-2 * (t - (o.c : ℝ)) * (f t) ^ 2) (Ici t) t)
    (h0 : f (o.x0 : ℝ) = (o.y0 : ℝ)) :
    ∀ t ∈ Icc (o.x0 : ℝ) T, f t = o.sol t :=
  o.sol_unique hok T f hc hd h0

/-- the class label `c = x0`: the solution is even in `x − x0`, hence every odd-order Taylor coefficient at `x0` is zero -/
theorem C34_ricx_even (o : RicX) (h : o.oddCoeffsVanish = true) (u : ℝ) :
    o.sol ((o.x0 : ℝ) + u) = o.sol ((o.x0 : ℝ) - u) := by
  have hc : o.c = o.x0 := by simpa [RicX.oddCoeffsVanish] using h
  simp only [RicX.sol, hc]
  ring_nf

/-- checker `ok` with `k = 0`, `p = t`: the value is within the REQUESTED tolerance `2^(−t)` (relative or absolute) of the
exact solution; `violates`: it is not -/
theorem C34_ricx_check (o : RicX) (x : ℚ) (r : Ref) (y : Dy) (t k : ℕ) (hr : o.solRef x = some r) :
    (checkClose r y t k 1 false = .ok →
      |y.val - o.sol (x : ℝ)| ≤ (2 : ℝ) ^ ((k : ℤ) - (t : ℤ)) * max |o.sol (x : ℝ)| 1) ∧
    (checkClose r y t k 1 false = .violates →
      ¬ |y.val - o.sol (x : ℝ)| ≤ (2 : ℝ) ^ ((k : ℤ) - (t : ℤ)) * max |o.sol (x : ℝ)| 1) := by
  rw [← RicX.solRef_sem o x r hr]
  constructor
  · intro h
    have := (checkClose_sound_ok r y t k 1 false h).1 rfl
    simpa only [tol, Rat.cast_one] using this
  · intro h
    have := (checkClose_sound_violates r y t k 1 false h).1 rfl
    simp only [tol, Rat.cast_one] at this
    exact not_le.2 this

-- non-vacuity: y' = −2x y², y(0) = 1 (solution 1/(1+x²)); value 4/5 at x = 1/2
example : (RicX.mk 0 0 1).ok = true ∧ (RicX.mk 0 0 1).oddCoeffsVanish = true := by decide +kernel
example : ((RicX.mk 0 0 1).solRef (1 / 2)).isSome = true ∧ (RicX.mk 0 0 1).solQ (1 / 2) = 4 / 5 := by decide +kernel
example : (RicX.mk 0 0 1).solRef (-1) = none ∧ (RicX.mk 1 0 1).solRef 1 = none ∧ (RicX.mk 0 0 (-1)).solRef 1 = none := by
  decide +kernel
example : checkClose (.rat (4 / 5)) ⟨3602879701896397, -52⟩ 40 0 1 false = .ok := by decide +kernel
example : checkClose (.rat (4 / 5)) ⟨13, -4⟩ 40 0 1 false = .violates := by decide +kernel

end Mp

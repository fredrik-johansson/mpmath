/-
  MpProofs/StrFmt.lean — digit rounding and layout of `to_str` (C08).
-/
import MpProofs.Str
import Mathlib.Tactic.IntervalCases

namespace Mp

/-! ### digit characters -/

theorem digit_cases {c : Char} (h : isDigitC c = true) :
    c = '0' ∨ c = '1' ∨ c = '2' ∨ c = '3' ∨ c = '4' ∨ c = '5' ∨ c = '6' ∨ c = '7' ∨ c = '8' ∨ c = '9' := by
  rw [isDigitC_iff] at h
  have hc := Char.ofNat_toNat c
  obtain ⟨h1, h2⟩ := h
  generalize c.toNat = n at *
  subst hc
  interval_cases n <;> decide

theorem digitVal_le {c : Char} (h : isDigitC c = true) : digitVal c ≤ 9 := by
  rcases digit_cases h with rfl | rfl | rfl | rfl | rfl | rfl | rfl | rfl | rfl | rfl <;> decide

theorem mem_56789_iff {c : Char} (h : isDigitC c = true) : c ∈ "56789".toList ↔ 5 ≤ digitVal c := by
  rcases digit_cases h with rfl | rfl | rfl | rfl | rfl | rfl | rfl | rfl | rfl | rfl <;> decide

theorem digitChar_spec {n : Nat} (h : n ≤ 9) :
    isDigitC (digitChar n) = true ∧ digitVal (digitChar n) = n := by
  interval_cases n <;> decide

theorem natToDec_small {n : Nat} (h : n < 10) : natToDec n = [digitChar n] := by
  unfold natToDec natToDecAux
  simp [h, Nat.mod_eq_of_lt h]

theorem natOfDigits_lt {l : List Char} (h : Digits l) : natOfDigits l < 10 ^ l.length := by
  induction l using List.reverseRecOn with
  | nil => simp [natOfDigits]
  | append_singleton xs x ih =>
    have hx : digitVal x ≤ 9 := digitVal_le (h x (by simp))
    have := ih (fun c hc => h c (by simp [hc]))
    rw [natOfDigits_append]
    have h1 : natOfDigits [x] = digitVal x := by simp [natOfDigits]
    rw [h1]
    simp only [List.length_append, List.length_cons, List.length_nil, pow_succ, zero_add, pow_zero,
      one_mul]
    omega

theorem natOfDigits_nines {z : List Char} (h : ∀ c ∈ z, (c == '9') = true) :
    natOfDigits z + 1 = 10 ^ z.length := by
  induction z using List.reverseRecOn with
  | nil => simp [natOfDigits]
  | append_singleton xs x ih =>
    have hx : x = '9' := by simpa using h x (by simp)
    have := ih (fun c hc => h c (by simp [hc]))
    rw [natOfDigits_append, hx]
    have h1 : natOfDigits ['9'] = 9 := by decide
    rw [h1]
    simp only [List.length_append, List.length_cons, List.length_nil, pow_succ, zero_add, pow_zero,
      one_mul]
    omega

theorem natOfDigits_replicate_zero (k : Nat) : natOfDigits (List.replicate k '0') = 0 :=
  natOfDigits_zeros (fun c hc => by rw [List.eq_of_mem_replicate hc]; rfl)

theorem digits_replicate_zero (k : Nat) : Digits (List.replicate k '0') :=
  fun c hc => by rw [List.eq_of_mem_replicate hc]; decide

theorem rstripL_getLast {p : Char → Bool} {l init : List Char} {c : Char}
    (h : rstripL p l = init ++ [c]) : p c = false := by
  unfold rstripL at h
  have h' : l.reverse.dropWhile p = c :: init.reverse := by
    have := congrArg List.reverse h
    simpa using this
  have := List.head?_dropWhile_not p l.reverse
  rw [h'] at this
  simpa using this

/-! ### `roundDigits` -/

/-- half-up rounding of `N c R` (digits `N`, then the digit `c`, then a rest `R < K`) to the digits `N` -/
theorem half_up_div (N : Nat) {c K R : Nat} (hc : c ≤ 9) (hR : R < K) :
    ((N * 10 + c) * K + R + 5 * K) / (K * 10) = N + if 5 ≤ c then 1 else 0 := by
  have e : (N * 10 + c) * K + R + 5 * K = (c * K + 5 * K + R) + N * (K * 10) := by ring
  rw [e, Nat.add_mul_div_right _ _ (by omega), Nat.add_comm]
  congr 1
  split
  · next h5 =>
    have := Nat.mul_le_mul_right K h5
    have := Nat.mul_le_mul_right K hc
    exact Nat.div_eq_of_lt_le (by omega) (by omega)
  · next h5 =>
    have : c * K ≤ 4 * K := Nat.mul_le_mul_right K (by omega)
    exact Nat.div_eq_of_lt (by omega)

theorem natOfDigits_append_nines (kept : List Char) {nines : List Char}
    (h : ∀ c ∈ nines, (c == '9') = true) :
    natOfDigits (kept ++ nines) + 1 = (natOfDigits kept + 1) * 10 ^ nines.length := by
  rw [natOfDigits_append, Nat.add_assoc, natOfDigits_nines h, Nat.succ_mul]

/-- the carry step of `roundDigits`: add one to a digit string, keeping its length; all nines give `10…0` with
one digit dropped and the exponent bump 1 -/
def incrDigits (d : List Char) : List Char × Int :=
  match (rstripL (· == '9') d).reverse with
  | c :: revInit =>
    (revInit.reverse ++ natToDec (digitVal c + 1) ++
      List.replicate (d.length - (rstripL (· == '9') d).length) '0', 0)
  | [] => ('1' :: List.replicate (d.length - 1) '0', 1)

theorem incrDigits_spec {d : List Char} (hd : Digits d) (hlen : 1 ≤ d.length) :
    Digits (incrDigits d).1 ∧ (incrDigits d).1.length = d.length ∧
    ((incrDigits d).2 = 0 ∨ (incrDigits d).2 = 1) ∧
    natOfDigits (incrDigits d).1 * 10 ^ (incrDigits d).2.toNat = natOfDigits d + 1 := by
  obtain ⟨nines, hkn, hnines⟩ := rstripL_spec (· == '9') d
  have hN : natOfDigits d + 1 = (natOfDigits (rstripL (· == '9') d) + 1) * 10 ^ nines.length := by
    conv_lhs => rw [hkn]
    exact natOfDigits_append_nines _ hnines
  have hlenk : d.length = (rstripL (· == '9') d).length + nines.length := by
    conv_lhs => rw [hkn]
    simp
  have hkd : Digits (rstripL (· == '9') d) := hd.rstrip _
  unfold incrDigits
  rcases List.eq_nil_or_concat (rstripL (· == '9') d) with hk | ⟨init, c, hk⟩
  · -- all nines
    rw [hk] at hN hlenk ⊢
    simp only [List.reverse_nil]
    refine ⟨?_, by simp; omega, by simp, ?_⟩
    · intro x hx
      rcases List.mem_cons.1 hx with rfl | hx
      · decide
      · exact digits_replicate_zero _ x hx
    · rw [hN]
      show natOfDigits (['1'] ++ List.replicate (d.length - 1) '0') * 10 ^ 1 = _
      rw [natOfDigits_append, natOfDigits_replicate_zero, show natOfDigits ['1'] = 1 by decide,
        List.length_replicate, Nat.add_zero, Nat.one_mul, ← pow_add,
        show d.length - 1 + 1 = nines.length by simp at hlenk; omega]
      simp [natOfDigits]
  · -- the carry stops at `c`
    rw [List.concat_eq_append] at hk
    have hc : isDigitC c = true := hkd c (by rw [hk]; simp)
    have hv8 : digitVal c ≤ 8 := by
      have hne9 : (c == '9') = false := rstripL_getLast (p := (· == '9')) hk
      rcases digit_cases hc with rfl | rfl | rfl | rfl | rfl | rfl | rfl | rfl | rfl | rfl <;>
        first | decide | (exact absurd hne9 (by decide))
    obtain ⟨hdc1, hdc2⟩ := digitChar_spec (show digitVal c + 1 ≤ 9 by omega)
    rw [hk] at hN hlenk ⊢
    simp only [List.reverse_append, List.reverse_cons, List.reverse_nil, List.nil_append,
      List.singleton_append, List.reverse_reverse]
    rw [natToDec_small (by omega), show d.length - (init ++ [c]).length = nines.length by omega]
    refine ⟨?_, by simp at hlenk ⊢; omega, by simp, ?_⟩
    · intro x hx
      simp only [List.mem_append, List.mem_cons, List.not_mem_nil, or_false] at hx
      rcases hx with (hx | rfl) | hx
      · exact hkd x (by rw [hk]; simp [hx])
      · exact hdc1
      · exact digits_replicate_zero _ x hx
    · rw [hN, natOfDigits_append, natOfDigits_append, natOfDigits_append, natOfDigits_replicate_zero]
      simp [natOfDigits, hdc2]
      ring

/-- **The string surgery is half-up rounding.** For a digit string longer than `dps ≥ 1`, the result of
looking at digit `dps`, propagating the carry through the 9s and bumping the exponent on all-9s is: a
string of exactly `dps` digits `out` and a bump `b ∈ {0,1}` with
`out · 10^b = ⌊(digits + 5·10^(k-1)) / 10^k⌋`, `k` = number of dropped digits. -/
theorem roundDigits_spec {digits : List Char} {dps : Nat} (hd : Digits digits) (hdps : 1 ≤ dps)
    (hlen : dps < digits.length) :
    Digits (roundDigits digits dps).1 ∧ (roundDigits digits dps).1.length = dps ∧
    ((roundDigits digits dps).2 = 0 ∨ (roundDigits digits dps).2 = 1) ∧
    natOfDigits (roundDigits digits dps).1 * 10 ^ (roundDigits digits dps).2.toNat =
      (natOfDigits digits + 5 * 10 ^ (digits.length - dps - 1)) / 10 ^ (digits.length - dps) := by
  -- split the string: a (dps digits), c (the digit looked at), rest
  obtain ⟨a, c, rest, hsplit, halen⟩ : ∃ a c rest, digits = a ++ c :: rest ∧ a.length = dps := by
    refine ⟨digits.take dps, digits[dps], digits.drop (dps + 1), ?_, by simp; omega⟩
    rw [← List.drop_eq_getElem_cons hlen, List.take_append_drop]
  subst halen
  have ha : Digits a := fun x hx => hd x (by rw [hsplit]; simp [hx])
  have hc : isDigitC c = true := hd c (by rw [hsplit]; simp)
  have hrest : Digits rest := fun x hx => hd x (by rw [hsplit]; simp [hx])
  have hgetD : digits.getD a.length '0' = c := by
    rw [hsplit, List.getD_eq_getElem?_getD, List.getElem?_append_right (le_refl _)]
    simp
  have htake : digits.take a.length = a := by rw [hsplit]; simp
  have hdl : digits.length - a.length = rest.length + 1 := by rw [hsplit]; simp
  have hM : natOfDigits digits = (natOfDigits a * 10 + digitVal c) * 10 ^ rest.length + natOfDigits rest := by
    rw [hsplit, show a ++ c :: rest = (a ++ [c]) ++ rest by simp, natOfDigits_append, natOfDigits_append]
    simp [natOfDigits]
  rw [show digits.length - a.length - 1 = rest.length by omega, hdl, hM, pow_succ,
    half_up_div _ (digitVal_le hc) (natOfDigits_lt hrest)]
  unfold roundDigits
  dsimp only
  rw [hgetD, htake]
  by_cases h5 : 5 ≤ digitVal c
  · rw [if_pos ⟨hlen, (mem_56789_iff hc).mpr h5⟩, if_pos h5]
    exact incrDigits_spec ha hdps
  · rw [if_neg fun hh => h5 ((mem_56789_iff hc).mp hh.2), if_neg h5]
    exact ⟨ha, rfl, Or.inl rfl, by simp⟩


/-! ### `str(n)` -/

theorem natToDecAux_spec (f n : Nat) (acc : List Char) (h : n < f) :
    ∃ ds, natToDecAux f n acc = ds ++ acc ∧ Digits ds ∧ ds ≠ [] ∧ natOfDigits ds = n := by
  induction f generalizing n acc with
  | zero => omega
  | succ f ih =>
    unfold natToDecAux
    have hm : n % 10 ≤ 9 := by omega
    obtain ⟨hd1, hd2⟩ := digitChar_spec hm
    by_cases h10 : n < 10
    · refine ⟨[digitChar (n % 10)], by simp [h10], ?_, by simp, ?_⟩
      · intro c hc; simp at hc; rw [hc]; exact hd1
      · rw [Nat.mod_eq_of_lt h10] at hd2 ⊢; simp [natOfDigits, hd2]
    · obtain ⟨ds, h1, h2, h3, h4⟩ := ih (n / 10) (digitChar (n % 10) :: acc) (by omega)
      refine ⟨ds ++ [digitChar (n % 10)], by simp [h10, h1], ?_, by simp, ?_⟩
      · intro c hc
        rcases List.mem_append.mp hc with hc | hc
        · exact h2 c hc
        · simp at hc; rw [hc]; exact hd1
      · rw [natOfDigits_append, h4]
        simp [natOfDigits, hd2]
        omega

theorem natToDec_spec (n : Nat) :
    Digits (natToDec n) ∧ natToDec n ≠ [] ∧ natOfDigits (natToDec n) = n := by
  obtain ⟨ds, h1, h2, h3, h4⟩ := natToDecAux_spec (n + 1) n [] (by omega)
  unfold natToDec
  rw [h1, List.append_nil]
  exact ⟨h2, h3, h4⟩

/-! ### value of a well-formed literal (forward direction) -/

theorem decValueL_litL {sg ip : List Char} {dot : Bool} {fp : List Char}
    {eo : Option (List Char × List Char)} (h : LitOK sg ip dot fp eo) :
    decValueL (litL sg ip dot fp eo) =
      some ((signVal sg : ℚ) * ((natOfDigits ip : ℚ) + (natOfDigits fp : ℚ) / 10 ^ fp.length) *
        (10 : ℚ) ^ expVal eo) := by
  have hds := dropSign_litL h
  have hsz : signZ (litL sg ip dot fp eo) = signVal sg := signZ_append h.sign h.body_head_ne_sign
  obtain ⟨h1, h2⟩ := takeWhile_digits_append h.ipd (dotExp_noDigitHead dot fp eo)
  unfold decValueL
  simp only [hds, h1, h2, fracPart_dotExp eo h.fpd h.nodot, hsz]
  have hne : ¬ (ip = [] ∧ fp = []) := by
    rintro ⟨a, b⟩; rcases h.nonempty with h | h <;> contradiction
  rw [if_neg hne]
  cases eo with
  | none => simp [expStr, expVal]
  | some p =>
    obtain ⟨es, ed⟩ := p
    obtain ⟨hs, hd, hne⟩ := h.exp es ed rfl
    simp only [expStr, expVal]
    rw [dropSign_append hs hd.head_ne_sign, signZ_append hs hd.head_ne_sign,
      if_pos ⟨by simp, hne, all_digits_of hd⟩]


/-! ### layout -/

theorem rstripL_barrier {p : Char → Bool} {b : Char} (hb : p b = false) (x y : List Char) :
    rstripL p (x ++ b :: y) = x ++ b :: rstripL p y := by
  unfold rstripL
  have : (x ++ b :: y).reverse = y.reverse ++ b :: x.reverse := by simp
  rw [this, List.dropWhile_append]
  split
  · rename_i he
    have he' : List.dropWhile p y.reverse = [] := by simpa using he
    rw [he']
    simp [hb]
  · simp

theorem stripZeros_point (ip : List Char) {fp : List Char} (hfp : Digits fp) :
    ∃ fp', stripZeros (ip ++ '.' :: fp) = ip ++ '.' :: fp' ∧ Digits fp' ∧
      (natOfDigits fp' : ℚ) / 10 ^ fp'.length = (natOfDigits fp : ℚ) / 10 ^ fp.length := by
  obtain ⟨k, hk1, hk2⟩ := natOfDigits_rstrip_zeros fp
  have hd' : Digits (rstripL (· == '0') fp) := hfp.rstrip _
  unfold stripZeros
  rw [rstripL_barrier (by decide) ip fp]
  dsimp only
  rcases List.eq_nil_or_concat (rstripL (· == '0') fp) with hk | ⟨init, c, hk⟩
  · rw [hk] at hk1 hk2 ⊢
    refine ⟨['0'], ?_, by intro c hc; simp at hc; rw [hc]; decide, ?_⟩
    · simp
    · rw [hk1]; simp [natOfDigits, show digitVal '0' = 0 by decide]
  · rw [List.concat_eq_append] at hk
    have hc : isDigitC c = true := hd' c (by rw [hk]; simp)
    have hcd : c ≠ '.' := isDigitC_ne hc (by decide)
    refine ⟨rstripL (· == '0') fp, ?_, hd', ?_⟩
    · rw [hk]
      have : (ip ++ '.' :: (init ++ [c])).getLast? = some c := by
        rw [show ip ++ '.' :: (init ++ [c]) = (ip ++ '.' :: init) ++ [c] by simp]
        exact List.getLast?_concat
      rw [this, if_neg (by simpa using hcd)]
    · rw [hk1, hk2, pow_add]
      push_cast
      have h10 : (10 : ℚ) ^ k ≠ 0 := by positivity
      have h10' : (10 : ℚ) ^ (rstripL (· == '0') fp).length ≠ 0 := by positivity
      field_simp

/-- the three exponent suffixes of `to_str` -/
theorem withExponent_lit (sign ip fp : List Char) (e : Int) (dps : Nat) (showz : Bool) :
    ∃ eo, withExponent sign (ip ++ '.' :: fp) e dps showz = litL sign ip true fp eo ∧ expVal eo = e ∧
      ∀ es ed, eo = some (es, ed) → SignStr es ∧ Digits ed ∧ ed ≠ [] := by
  obtain ⟨hn1, hn2, hn3⟩ := natToDec_spec e.natAbs
  unfold withExponent
  by_cases h0 : e = 0 ∧ dps ≠ 0 ∧ ¬ showz = true
  · rw [if_pos h0]
    exact ⟨none, by simp [litL, dotStr, expStr], by simp [expVal, h0.1], by intro _ _ h; cases h⟩
  · rw [if_neg h0]
    by_cases hpos : e ≥ 0
    · rw [if_pos hpos]
      refine ⟨some (['+'], natToDec e.natAbs), ?_, ?_, ?_⟩
      · simp [litL, dotStr, expStr, intToDec, not_lt.mpr hpos]
      · simp only [expVal, hn3, signVal]
        rw [if_neg (by decide), one_mul, Int.natAbs_of_nonneg hpos]
      · intro es ed h; cases h; exact ⟨Or.inr (Or.inl rfl), hn1, hn2⟩
    · rw [if_neg hpos]
      refine ⟨some (['-'], natToDec e.natAbs), ?_, ?_, ?_⟩
      · simp [litL, dotStr, expStr, intToDec, not_le.mp hpos]
      · simp only [expVal, hn3, signVal]
        rw [if_pos trivial, Int.ofNat_natAbs_of_nonpos (by omega)]; ring
      · intro es ed h; cases h; exact ⟨Or.inr (Or.inr rfl), hn1, hn2⟩

theorem natOfDigits_take_drop (d : List Char) (n : Nat) :
    natOfDigits d = natOfDigits (d.take n) * 10 ^ (d.drop n).length + natOfDigits (d.drop n) := by
  conv_lhs => rw [← List.take_append_drop n d]
  exact natOfDigits_append _ _

/-- the value and shape of `sign ip.fp [e±n]` where `ip.fp` is `d1` with the point after `split` digits -/
theorem point_layout {sign d1 : List Char} {split : Nat} (ef : Int) (dps : Nat) (strip showz : Bool)
    (hs : SignStr sign) (hd : Digits d1) (h1 : 1 ≤ split) (h2 : split ≤ d1.length) :
    ∃ ip fp eo, LitOK sign ip true fp eo ∧ ip ≠ [] ∧
      withExponent sign
        (if strip then stripZeros (d1.take split ++ '.' :: d1.drop split)
          else d1.take split ++ '.' :: d1.drop split) ef dps showz = litL sign ip true fp eo ∧
      (signVal sign : ℚ) * ((natOfDigits ip : ℚ) + (natOfDigits fp : ℚ) / 10 ^ fp.length) *
          (10 : ℚ) ^ expVal eo =
        (signVal sign : ℚ) * ((natOfDigits d1 : ℚ) / 10 ^ (d1.length - split)) * (10 : ℚ) ^ ef := by
  have hip : Digits (d1.take split) := fun c hc => hd c (List.mem_of_mem_take hc)
  have hfp : Digits (d1.drop split) := fun c hc => hd c (List.mem_of_mem_drop hc)
  have hipne : d1.take split ≠ [] := by
    have hl : (d1.take split).length = split := by rw [List.length_take]; omega
    intro h
    rw [h] at hl
    simp at hl; omega
  have hdl : (d1.drop split).length = d1.length - split := by simp
  have hval : (natOfDigits (d1.take split) : ℚ) + (natOfDigits (d1.drop split) : ℚ) / 10 ^ (d1.drop split).length
      = (natOfDigits d1 : ℚ) / 10 ^ (d1.length - split) := by
    rw [natOfDigits_take_drop d1 split, hdl]
    push_cast
    have h10 : (10 : ℚ) ^ (d1.length - split) ≠ 0 := by positivity
    field_simp
  obtain ⟨fp', hst, hfp', hv'⟩ := stripZeros_point (d1.take split) hfp
  cases strip with
  | true =>
    simp only [if_true]
    rw [hst]
    obtain ⟨eo, he1, he2, he3⟩ := withExponent_lit sign (d1.take split) fp' ef dps showz
    refine ⟨d1.take split, fp', eo, ⟨hs, hip, hfp', by simp, Or.inl hipne, he3⟩, hipne, he1, ?_⟩
    rw [he2, hv', hval]
  | false =>
    simp only [Bool.false_eq_true, if_false]
    obtain ⟨eo, he1, he2, he3⟩ := withExponent_lit sign (d1.take split) (d1.drop split) ef dps showz
    refine ⟨d1.take split, d1.drop split, eo, ⟨hs, hip, hfp, by simp, Or.inl hipne, he3⟩, hipne, he1, ?_⟩
    rw [he2, hval]


theorem scale_eq (N1 N k z : ℕ) (ef g : ℤ) (hN : N1 = N * 10 ^ z) (hg : g = (z : ℤ) - (k : ℤ) + ef) :
    (N1 : ℚ) / 10 ^ k * (10 : ℚ) ^ ef = (N : ℚ) * (10 : ℚ) ^ g := by
  have h10 : (10 : ℚ) ≠ 0 := by norm_num
  subst hN hg
  rw [zpow_add₀ h10, zpow_sub₀ h10, zpow_natCast, zpow_natCast]
  push_cast
  field_simp

/-- `point_layout` for a digit string `d1` that is `D` padded with zeros on either side (`z` of them behind):
the value is `±D · 10^g` -/
theorem point_layout_padded {sign d1 D : List Char} {split : Nat} (z : Nat) (ef : Int) {g : Int} (dps : Nat)
    (strip showz : Bool) (hs : SignStr sign) (hd : Digits d1) (h1 : 1 ≤ split) (h2 : split ≤ d1.length)
    (hN : natOfDigits d1 = natOfDigits D * 10 ^ z) (hg : g = (z : ℤ) - ((d1.length - split : ℕ) : ℤ) + ef) :
    ∃ ip fp eo, LitOK sign ip true fp eo ∧ ip ≠ [] ∧
      withExponent sign
        (if strip then stripZeros (d1.take split ++ '.' :: d1.drop split)
          else d1.take split ++ '.' :: d1.drop split) ef dps showz = litL sign ip true fp eo ∧
      (signVal sign : ℚ) * ((natOfDigits ip : ℚ) + (natOfDigits fp : ℚ) / 10 ^ fp.length) *
          (10 : ℚ) ^ expVal eo =
        (signVal sign : ℚ) * (natOfDigits D : ℚ) * (10 : ℚ) ^ g := by
  obtain ⟨ip, fp, eo, hok, hne, hl, hv⟩ := point_layout ef dps strip showz hs hd h1 h2
  refine ⟨ip, fp, eo, hok, hne, hl, ?_⟩
  rw [hv, mul_assoc, mul_assoc, scale_eq _ _ _ z ef g hN hg]

/-- **Layout.** For `dps ≥ 1` rounded digits `D` and decimal exponent `e` of the first digit, the string
laid out by `to_str` (fixed or scientific, zero padding, optional stripping, exponent suffix) is a
well-formed literal `sign ip . fp [e±n]` with a non-empty integer part, and its value is
`±D · 10^(e - dps + 1)`. -/
theorem layoutDigits_value {sign D : List Char} (e : Int) {dps : Nat} (strip : Bool) (mn mx : Bound)
    (showz : Bool) (hs : SignStr sign) (hD : Digits D) (hlen : D.length = dps) (hdps : 1 ≤ dps) :
    ∃ ip fp eo, LitOK sign ip true fp eo ∧ ip ≠ [] ∧
      layoutDigits sign D e dps strip mn mx showz = litL sign ip true fp eo ∧
      (signVal sign : ℚ) * ((natOfDigits ip : ℚ) + (natOfDigits fp : ℚ) / 10 ^ fp.length) *
          (10 : ℚ) ^ expVal eo =
        (signVal sign : ℚ) * (natOfDigits D : ℚ) * (10 : ℚ) ^ (e - dps + 1) := by
  unfold layoutDigits
  dsimp only
  by_cases hfix : (mn.lt e && mx.gt e) = true
  · simp only [hfix, if_true]
    by_cases hneg : e < 0
    · -- fixed, `0.000ddd`
      simp only [hneg, if_true]
      exact point_layout_padded 0 0 dps strip showz hs ((digits_replicate_zero _).append hD) (le_refl 1)
        (by simp only [List.length_append, List.length_replicate, hlen]; omega)
        (by rw [natOfDigits_append, natOfDigits_replicate_zero]; simp)
        (by simp only [List.length_append, List.length_replicate, hlen]; omega)
    · simp only [hneg, if_false]
      by_cases hpad : (e + 1).toNat > dps
      · -- fixed, `ddd000.`
        simp only [hpad, if_true]
        exact point_layout_padded ((e + 1).toNat - dps) 0 dps strip showz hs
          (hD.append (digits_replicate_zero _)) (by omega)
          (by simp only [List.length_append, List.length_replicate, hlen]; omega)
          (by rw [natOfDigits_append, natOfDigits_replicate_zero]; simp)
          (by simp only [List.length_append, List.length_replicate, hlen]; omega)
      · -- fixed, the point inside the digits
        simp only [hpad, if_false]
        exact point_layout_padded 0 0 dps strip showz hs hD (by omega) (by omega) (by simp)
          (by rw [hlen]; omega)
  · -- scientific
    simp only [hfix, Bool.false_eq_true, if_false]
    exact point_layout_padded 0 e dps strip showz hs hD (le_refl 1) (by omega) (by simp)
      (by rw [hlen]; omega)


/-! ### `numeral`, `to_digits_exp`, `to_str` glue -/

theorem numeralAux_digits (f n size : Nat) : Digits (numeralAux f n size) := by
  induction f generalizing n size with
  | zero => exact (natToDec_spec n).1
  | succ f ih =>
    unfold numeralAux
    split
    · intro c hc; simp at hc; rw [hc]; decide
    · split
      · exact (natToDec_spec n).1
      · dsimp only
        apply Digits.append (ih _ _)
        unfold rjust0
        exact (digits_replicate_zero _).append (ih _ _)

theorem numeral_digits (n size : Nat) : Digits (numeral n size) := numeralAux_digits _ _ _

theorem toDigitsExpPos_digits {s : Mpf} {dps : Nat} {ln2 ln10 : Mpf} {digits : List Char} {e : Int}
    (h : toDigitsExpPos s dps ln2 ln10 = .ok (digits, e)) : Digits digits := by
  unfold toDigitsExpPos at h
  dsimp only at h
  split at h
  · exact absurd h (by simp)
  · have := congrArg Prod.fst (Except.ok.inj h)
    simp only at this
    rw [← this]
    exact numeral_digits _ _

theorem toDigitsExp_wf {s : Mpf} {dps : Nat} {ln2 ln10 : Mpf} {sign digits : List Char} {e : Int}
    (h : toDigitsExp s dps ln2 ln10 = .ok (sign, digits, e)) : SignStr sign ∧ Digits digits := by
  unfold toDigitsExp at h
  dsimp only at h
  have hsg : SignStr (if s.sign ≠ 0 then ['-'] else []) := by
    split
    · exact Or.inr (Or.inr rfl)
    · exact Or.inl rfl
  by_cases hm : (if s.sign ≠ 0 then mpf_neg s else s).man = 0
  · rw [if_pos hm] at h
    have := Except.ok.inj h
    simp only [Prod.mk.injEq] at this
    obtain ⟨h1, h2, -⟩ := this
    subst h1 h2
    exact ⟨Or.inl rfl, by intro c hc; simp at hc; rw [hc]; decide⟩
  · rw [if_neg hm] at h
    cases hp : toDigitsExpPos (if s.sign ≠ 0 then mpf_neg s else s) dps ln2 ln10 with
    | error err => rw [hp] at h; exact absurd h (by simp)
    | ok p =>
      obtain ⟨d, ex⟩ := p
      rw [hp] at h
      have := Except.ok.inj h
      simp only [Prod.mk.injEq] at this
      obtain ⟨h1, h2, -⟩ := this
      subst h1 h2
      exact ⟨hsg, toDigitsExpPos_digits hp⟩

/-- `to_str` on a finite non-zero number with `dps ≥ 1` is: `to_digits_exp` with three guard digits, the digit
rounding, then the layout -/
theorem toStr_finite {s : Mpf} {dps : Nat} {ln2 ln10 : Mpf} (strip : Bool) (mn mx : Option Bound)
    (showz : Bool) (hman : s.man ≠ 0) (hdps : dps ≠ 0) {sign digits : List Char} {e : Int}
    (h : toDigitsExp s (dps + 3) ln2 ln10 = .ok (sign, digits, e)) :
    toStr s dps ln2 ln10 strip mn mx showz =
      .ok (layoutDigits sign (roundDigits digits dps).1 (e + (roundDigits digits dps).2) dps strip
        (mn.getD (.fin (min (-((dps / 3 : Nat) : Int)) (-5)))) (mx.getD (.fin dps)) showz) := by
  unfold toStr
  rw [if_neg hman]
  simp only [h, if_neg hdps]

end Mp

/-
  MpProofs/CalcSerX.lean — behind the extra `sumem` reference values of `MpModel/CalcSerX.lean` (`Props/C27sumem.lean`):
  `polyQ` is the real polynomial function at rational points, and the partial sums of the tail of a linear
  combination of series with closed forms tend to the combination of the closed forms minus the exact head.
-/
import MpModel.CalcSerX
import MpProofs.CalcSer

namespace Mp.Calc
open Filter Topology Finset

theorem polyQ_cast (ts : List (ℚ × ℕ)) (x : ℚ) : ((polyQ ts x : ℚ) : ℝ) = polyFn ts (x : ℝ) := by
  unfold polyQ polyFn
  induction ts with
  | nil => simp
  | cons t ts ih =>
    simp only [List.map_cons, List.sum_cons]
    rw [Rat.cast_add, ih]
    simp only [Rat.cast_mul, Rat.cast_pow]

/-- the real term of a linear combination -/
noncomputable def linTerm (l : List (ℚ × Ser)) (k : ℕ) : ℝ := ((linTermQ l k : ℚ) : ℝ)

theorem linTerm_nil (k : ℕ) : linTerm [] k = 0 := by simp [linTerm, linTermQ]

theorem linTerm_cons (t : ℚ × Ser) (l : List (ℚ × Ser)) (k : ℕ) :
    linTerm (t :: l) k = (t.1 : ℝ) * t.2.term k + linTerm l k := by
  simp only [linTerm, linTermQ, List.map_cons, List.sum_cons, Ser.term]
  push_cast
  rfl

/-- tail of one series: `Σ_{k ≥ a}` = closed form − exact head, for `a > start` -/
theorem Ser.tendsto_tail (s : Ser) (r : Ref) (h : s.sumRef = some r) (a : ℕ) (ha : s.start < a) :
    Tendsto (fun n => ∑ k ∈ range n, s.term (a + k)) atTop
      (𝓝 (r.sem - ((s.partial s.start (a - 1) : ℚ) : ℝ))) := by
  have h0 := tendsto_sum_range_shift (a - s.start) (Ser.tendsto_partial s r h)
  have e : a - 1 + 1 - s.start = a - s.start := by omega
  simp only [← add_assoc, Nat.add_sub_cancel' ha.le] at h0
  rwa [Ser.partial_eq, e]

theorem linStartOK_cons (t : ℚ × Ser) (l : List (ℚ × Ser)) (s0 : ℕ) :
    linStartOK (t :: l) s0 = true ↔ t.2.start = s0 ∧ linStartOK l s0 = true := by
  simp [linStartOK]

/-- tail of a linear combination: partial sums of `Σ_{k ≥ a} Σ_j c_j·term_j k` tend to
`Σ_j c_j·S_j − (exact head)` -/
theorem lin_tendsto_tail (l : List (ℚ × Ser)) (s0 a : ℕ) (hs : linStartOK l s0 = true) (ha : s0 < a)
    (r : Ref) (h : linSumRef l = some r) :
    Tendsto (fun n => ∑ k ∈ range n, linTerm l (a + k)) atTop
      (𝓝 (r.sem - ((linPartial l s0 (a - 1) : ℚ) : ℝ))) := by
  induction l generalizing r with
  | nil =>
    simp only [linSumRef, Option.some.injEq] at h
    subst h
    simp [linTerm_nil, linPartial, Ref.sem]
  | cons t l ih =>
    rw [linStartOK_cons] at hs
    obtain ⟨hst, hsl⟩ := hs
    simp only [linSumRef, Option.bind_eq_bind, Option.pure_def] at h
    cases h1 : t.2.sumRef with
    | none => simp [h1] at h
    | some r1 =>
      cases h2 : linSumRef l with
      | none => simp [h1, h2] at h
      | some r2 =>
        simp only [h1, h2, Option.bind_some, Option.some.injEq] at h
        subst h
        have t1 := (Ser.tendsto_tail t.2 r1 h1 a (by omega)).const_mul (t.1 : ℝ)
        have t2 := ih hsl r2 h2
        have t3 := t1.add t2
        have hval : (Ref.add (Ref.mul (Ref.rat t.1) r1) r2).sem - ((linPartial (t :: l) s0 (a - 1) : ℚ) : ℝ) =
            (t.1 : ℝ) * (r1.sem - ((t.2.partial t.2.start (a - 1) : ℚ) : ℝ)) +
              (r2.sem - ((linPartial l s0 (a - 1) : ℚ) : ℝ)) := by
          simp only [Ref.sem, linPartial, List.map_cons, List.sum_cons, hst]
          push_cast
          ring
        rw [hval]
        refine t3.congr fun n => ?_
        simp only [linTerm_cons, sum_add_distrib, mul_sum]

end Mp.Calc

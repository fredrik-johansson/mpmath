/-
  MpProofs/LoopSkel.lean — termination lemmas for the loop classes of MpModel/LoopSkel.lean (property C24).
-/
import MpModel.Core
import MpModel.LoopSkel
import MpProofs.Bits
import Mathlib.Tactic.Ring
import Mathlib.Tactic.Linarith
import Mathlib.Tactic.Push
import Mathlib.Tactic.SplitIfs
import Mathlib.Algebra.Order.Ring.Int

namespace Mp
namespace LoopSkel

variable {σ : Type}

/-! ### generic facts -/

theorem Loop.ExitsWithin.mono {L : Loop σ} {s : σ} {N M : Nat} (h : L.ExitsWithin s N) (hNM : N ≤ M) :
    L.ExitsWithin s M := by
  obtain ⟨k, hk, hc⟩ := h
  exact ⟨k, Nat.le_trans hk hNM, hc⟩

theorem Loop.not_exits_of_diverges {L : Loop σ} {s : σ} (h : L.Diverges s) (N : Nat) : ¬ L.ExitsWithin s N := by
  rintro ⟨k, _, hc⟩
  rw [h k] at hc
  exact Bool.noConfusion hc

/-- the executable semantics agrees with `ExitsWithin`: with fuel `f`, starting from iteration `k`,
    the run returns as soon as the test fails within the next `f` iterations. -/
theorem Loop.run_isSome_aux (L : Loop σ) (s : σ) :
    ∀ (f k : Nat), (∃ j, j ≤ f ∧ L.cond (L.state s (k + j)) = false) → (L.run f k (L.state s k)).isSome := by
  intro f
  induction f with
  | zero =>
    rintro k ⟨j, hj, hc⟩
    have : j = 0 := by omega
    subst this
    simp only [Nat.add_zero] at hc
    simp [Loop.run, hc]
  | succ f ih =>
    rintro k ⟨j, hj, hc⟩
    unfold Loop.run
    by_cases hck : L.cond (L.state s k) = true
    · rw [if_pos hck]
      have hj0 : j ≠ 0 := by
        rintro rfl
        simp only [Nat.add_zero] at hc
        rw [hck] at hc; exact Bool.noConfusion hc
      have := ih (k+1) ⟨j - 1, by omega, by rw [show k + 1 + (j - 1) = k + j by omega]; exact hc⟩
      simpa [Loop.state] using this
    · rw [if_neg hck]; rfl

theorem Loop.measure_aux (L : Loop σ) (inv : σ → Prop) (μ : σ → Nat)
    (hinv : ∀ k s, inv s → L.cond s = true → inv (L.body k s))
    (hdec : ∀ k s, inv s → L.cond s = true → μ (L.body k s) < μ s)
    (s : σ) (hs : inv s) :
    ∀ k, (∀ j, j < k → L.cond (L.state s j) = true) → inv (L.state s k) ∧ μ (L.state s k) + k ≤ μ s := by
  intro k
  induction k with
  | zero => intro _; exact ⟨hs, by simp [Loop.state]⟩
  | succ k ih =>
    intro h
    have ⟨hi, hm⟩ := ih (fun j hj => h j (by omega))
    have hc := h k (by omega)
    refine ⟨hinv k _ hi hc, ?_⟩
    have := hdec k _ hi hc
    simp only [Loop.state]
    omega

theorem Loop.exitsWithin_of_measure (L : Loop σ) (inv : σ → Prop) (μ : σ → Nat)
    (hinv : ∀ k s, inv s → L.cond s = true → inv (L.body k s))
    (hdec : ∀ k s, inv s → L.cond s = true → μ (L.body k s) < μ s)
    (s : σ) (hs : inv s) : L.ExitsWithin s (μ s) := by
  by_contra hne
  have hall : ∀ j, j < μ s + 1 → L.cond (L.state s j) = true := by
    intro j hj
    by_contra hc
    exact hne ⟨j, by omega, by simpa using hc⟩
  have := (L.measure_aux inv μ hinv hdec s hs (μ s + 1) hall).2
  omega

theorem Loop.diverges_of_invariant (L : Loop σ) (inv : σ → Prop)
    (hinv : ∀ k s, inv s → inv (L.body k s)) (hc : ∀ s, inv s → L.cond s = true)
    (s : σ) (hs : inv s) : L.Diverges s := by
  have : ∀ k, inv (L.state s k) := by
    intro k; induction k with
    | zero => exact hs
    | succ k ih => exact hinv k _ ih
  exact fun k => hc _ (this k)

/-! ### counters -/

theorem ceil_div_mul_ge (a s : Nat) (hs : 1 ≤ s) : a ≤ (a + s - 1) / s * s := by
  have h1 := Nat.div_add_mod (a + s - 1) s
  have h2 := Nat.mod_lt (a + s - 1) (show 0 < s by omega)
  have h3 : s * ((a + s - 1) / s) = (a + s - 1) / s * s := Nat.mul_comm _ _
  omega

theorem counterLoop_state_ge (n : Int) (inc : Nat → Nat) (step : Nat) (h : ∀ k, step ≤ inc k) (i : Int) :
    ∀ k, i + (k * step : Nat) ≤ (counterLoop n inc).state i k := by
  intro k
  induction k with
  | zero => simp [Loop.state]
  | succ k ih =>
    have hk : (step : Int) ≤ (inc k : Int) := Int.ofNat_le.2 (h k)
    have e : (((k + 1) * step : Nat) : Int) = (k * step : Nat) + step := by
      rw [Nat.succ_mul, Int.natCast_add]
    rw [e]
    show _ ≤ (counterLoop n inc).state i k + (inc k : Int)
    omega

theorem counter_terminates (step : Nat) (hstep : 1 ≤ step) (n i : Int) (inc : Nat → Nat)
    (hinc : ∀ k, step ≤ inc k) :
    (counterLoop n inc).ExitsWithin i (((n - i).toNat + step - 1) / step) := by
  refine ⟨((n - i).toNat + step - 1) / step, Nat.le_refl _, ?_⟩
  have h1 := counterLoop_state_ge n inc step hinc i (((n - i).toNat + step - 1) / step)
  have h2 := ceil_div_mul_ge (n - i).toNat step hstep
  simp only [counterLoop, decide_eq_false_iff_not, not_lt] at h1 ⊢
  omega

theorem countdown_terminates (n : Int) (hn : 0 ≤ n) : countdownLoop.ExitsWithin n n.toNat := by
  have := countdownLoop.exitsWithin_of_measure (fun v => 0 ≤ v) Int.toNat
    (by
      intro k s hs hc
      simp only [countdownLoop, bne_iff_ne, ne_eq] at hc ⊢
      omega)
    (by
      intro k s hs hc
      simp only [countdownLoop, bne_iff_ne, ne_eq] at hc ⊢
      omega)
    n hn
  exact this

/-! ### halving -/

theorem bitcount_div_lt {m d : Nat} (hm : m ≠ 0) (hd : 2 ≤ d) : bitcount (m / d) < bitcount m := by
  have h1 : m / d ≤ m / 2 := Nat.div_le_div_left hd (by omega)
  have h2 := bitcount_mono h1
  have hp := bitcount_pos hm
  by_cases hb : 1 < bitcount m
  · have h3 : bitcount (m / 2) = bitcount m - 1 := by
      simpa using bitcount_div (n := m) (k := 1) hb
    omega
  · have h1' : bitcount m = 1 := by omega
    have h4 := bitcount_lt m
    rw [h1'] at h4
    have h5 : m / d = 0 := Nat.div_eq_of_lt (by omega)
    rw [h5, h1']; simp

theorem halving_terminates (d : Nat) (hd : 2 ≤ d) (n : Int) (hn : 0 ≤ n) :
    (divLoop d).ExitsWithin n (bitcount n.toNat) := by
  apply (divLoop d).exitsWithin_of_measure (fun v => 0 ≤ v) (fun v => bitcount v.toNat)
  · intro k s hs hc
    simp only [divLoop]
    exact Int.ediv_nonneg hs (by omega)
  · intro k s hs hc
    simp only [divLoop, bne_iff_ne, ne_eq] at hc ⊢
    obtain ⟨m, rfl⟩ := Int.eq_ofNat_of_zero_le hs
    have hm : m ≠ 0 := by intro h; apply hc; simp [h]
    have : ((m : Int) / (d : Int)) = ((m / d : Nat) : Int) := by norm_cast
    rw [this, Int.toNat_natCast, Int.toNat_natCast]
    simpa using bitcount_div_lt hm hd
  · exact hn

theorem strip_terminates (p : Nat) (hp : 2 ≤ p) (n : Nat) (hn : n ≠ 0) :
    (stripLoop p).ExitsWithin n (bitcount n) := by
  apply (stripLoop p).exitsWithin_of_measure (fun v => v ≠ 0) bitcount
  · intro k s hs hc
    simp only [stripLoop, beq_iff_eq] at hc ⊢
    have := Nat.div_add_mod s p
    intro h0
    rw [h0, hc] at this
    simp at this
    exact hs this.symm
  · intro k s hs hc
    exact bitcount_div_lt hs hp
  · exact hn

/-! ### Euclid -/

theorem natAbs_fmod_lt (a b : Int) (hb : b ≠ 0) : (Int.fmod a b).natAbs < b.natAbs := by
  rw [Int.fmod_eq_emod]
  have h1 := Int.emod_nonneg a hb
  have h2 := Int.emod_lt a hb
  split
  · omega
  · rename_i h
    push Not at h
    have h3 : a % b ≠ 0 := fun h0 => h.2 (Int.dvd_of_emod_eq_zero h0)
    omega

theorem euclid_terminates (a b : Int) : euclidLoop.ExitsWithin (a, b) b.natAbs := by
  apply euclidLoop.exitsWithin_of_measure (fun _ => True) (fun s => s.2.natAbs)
  · intros; trivial
  · intro k s _ hc
    simp only [euclidLoop, bne_iff_ne, ne_eq] at hc ⊢
    exact natAbs_fmod_lt _ _ hc
  · trivial

/-! ### fixed-point decay -/

theorem two_pow_pos_int (n : Nat) : (0 : Int) < ((2 ^ n : Nat) : Int) := by
  have := Nat.two_pow_pos n
  exact_mod_cast this

theorem mulShift_nonneg_bounds {p b : Nat} (hb : b < p) {v r : Int} (hv : 0 ≤ v) (hr0 : 0 ≤ r)
    (hr : r ≤ 2 ^ b) : 0 ≤ (v * r) >>> p ∧ (v * r) >>> p ≤ v / ((2 ^ (p - b) : Nat) : Int) := by
  rw [Int.shiftRight_eq_div_pow]
  have hp := two_pow_pos_int p
  have hq := two_pow_pos_int (p - b)
  have hB := two_pow_pos_int b
  refine ⟨Int.ediv_nonneg (Int.mul_nonneg hv hr0) (le_of_lt hp), ?_⟩
  apply Int.le_ediv_of_mul_le hq
  -- X * q ≤ v  ⇐  X * q * 2^b ≤ v * 2^b
  have h1 : (v * r) / ((2 ^ p : Nat) : Int) * ((2 ^ p : Nat) : Int) ≤ v * r :=
    Int.ediv_mul_le _ (ne_of_gt hp)
  have h2 : v * r ≤ v * 2 ^ b := Int.mul_le_mul_of_nonneg_left hr hv
  have h3 : ((2 ^ p : Nat) : Int) = ((2 ^ (p - b) : Nat) : Int) * ((2 ^ b : Nat) : Int) := by
    rw [← Nat.cast_mul, ← Nat.pow_add]; congr 2; omega
  have h4 : ((2 ^ b : Nat) : Int) = 2 ^ b := by push_cast; rfl
  rw [← h4] at h2
  have h1' : (v * r) / ((2 ^ p : Nat) : Int) * ((2 ^ (p - b) : Nat) : Int) * ((2 ^ b : Nat) : Int) ≤ v * r := by
    rw [mul_assoc, ← h3]; exact h1
  exact le_of_mul_le_mul_right (le_trans h1' h2) hB

theorem mulShift_nonpos_bounds {p b : Nat} (hb : b ≤ p) {v r : Int} (hv : v ≤ 0) (hr0 : 0 ≤ r)
    (hr : r ≤ 2 ^ b) : v ≤ (v * r) >>> p ∧ (v * r) >>> p ≤ 0 := by
  rw [Int.shiftRight_eq_div_pow]
  have hp := two_pow_pos_int p
  constructor
  · apply Int.le_ediv_of_mul_le hp
    have h2 : v * 2 ^ b ≤ v * r := Int.mul_le_mul_of_nonpos_left hv hr
    have h3 : (2 : Int) ^ b ≤ ((2 ^ p : Nat) : Int) := by
      push_cast
      exact pow_le_pow_right₀ (by norm_num) hb
    have h4 : v * ((2 ^ p : Nat) : Int) ≤ v * 2 ^ b := Int.mul_le_mul_of_nonpos_left hv h3
    exact le_trans h4 h2
  · have hneg : v * r ≤ 0 := Int.mul_nonpos_of_nonpos_of_nonneg hv hr0
    have : v * r / ((2 ^ p : Nat) : Int) < 1 := Int.ediv_lt_of_lt_mul hp (by linarith)
    omega

theorem floorDiv_nonneg_bounds {v d : Int} (hv : 0 ≤ v) (hd : 1 ≤ d) : 0 ≤ v / d ∧ v / d ≤ v :=
  ⟨Int.ediv_nonneg hv (by omega), Int.ediv_le_self d hv⟩

theorem floorDiv_two_bound {v d : Int} (hv : 0 ≤ v) (hd : 2 ≤ d) : v / d ≤ v / 2 := by
  apply Int.le_ediv_of_mul_le (by norm_num)
  exact le_trans (Int.mul_le_mul_of_nonneg_left hd (Int.ediv_nonneg hv (by omega)))
    (Int.ediv_mul_le _ (by omega))

theorem floorDiv_nonpos_bounds {v d : Int} (hv : v ≤ 0) (hd : 1 ≤ d) : v ≤ v / d ∧ v / d ≤ 0 := by
  constructor
  · apply Int.le_ediv_of_mul_le (by omega)
    have := Int.mul_le_mul_of_nonpos_left hv hd
    rwa [Int.mul_one] at this
  · have : v / d < 1 := Int.ediv_lt_of_lt_mul (by omega) (by linarith)
    omega

theorem applyOps_pure_bounds {p b : Nat} (hb : b < p) (env : Nat → Int × Int)
    (henv : ∀ j, 0 ≤ (env j).1 ∧ (env j).1 ≤ 2 ^ b ∧ 1 ≤ (env j).2) :
    ∀ (ops : List DecayOp) (j : Nat) (v : Int), ops.all DecayOp.isPure = true → 0 ≤ v →
      0 ≤ applyOps p env ops j v ∧ applyOps p env ops j v ≤ v ∧
      (ops.contains DecayOp.mulShift = true → applyOps p env ops j v ≤ v / ((2 ^ (p - b) : Nat) : Int)) := by
  intro ops
  induction ops with
  | nil => intro j v _ hv; simp [applyOps, hv]
  | cons op ops ih =>
    intro j v hpure hv
    simp only [List.all_cons, Bool.and_eq_true] at hpure
    obtain ⟨hop, hrest⟩ := hpure
    obtain ⟨hr0, hr1, hd⟩ := henv j
    have hq := two_pow_pos_int (p - b)
    simp only [applyOps]
    cases op with
    | mulShift =>
      simp only [DecayOp.apply]
      obtain ⟨m0, m1⟩ := mulShift_nonneg_bounds hb hv hr0 hr1
      obtain ⟨i0, i1, _⟩ := ih (j+1) _ hrest m0
      have hle : v / ((2 ^ (p - b) : Nat) : Int) ≤ v := Int.ediv_le_self _ hv
      exact ⟨i0, le_trans i1 (le_trans m1 hle), fun _ => le_trans i1 m1⟩
    | floorDiv =>
      simp only [DecayOp.apply]
      obtain ⟨m0, m1⟩ := floorDiv_nonneg_bounds hv hd
      obtain ⟨i0, i1, i2⟩ := ih (j+1) _ hrest m0
      refine ⟨i0, le_trans i1 m1, fun hc => ?_⟩
      have hc' : ops.contains DecayOp.mulShift = true := by
        simpa [List.contains_cons] using hc
      exact le_trans (i2 hc') (Int.ediv_le_ediv hq m1)
    | negMulShift => simp [DecayOp.isPure] at hop
    | neg => simp [DecayOp.isPure] at hop

theorem decay_state_bound {p b : Nat} (hb : b < p) (ops : List DecayOp) (m : Nat) (env : Nat → Nat → Int × Int)
    (henv : EnvOK p b 1 env) (hpure : ops.all DecayOp.isPure = true) (hmul : ops.contains .mulShift = true)
    (v : Int) (hv : 0 ≤ v) :
    ∀ k, 0 ≤ (decayLoop p ops m env).state v k ∧
      (decayLoop p ops m env).state v k * ((2 ^ (p - b) : Nat) : Int) ^ k ≤ v := by
  intro k
  induction k with
  | zero => simp [Loop.state, hv]
  | succ k ih =>
    obtain ⟨h0, h1⟩ := ih
    have hq := two_pow_pos_int (p - b)
    obtain ⟨a0, _, a2⟩ := applyOps_pure_bounds hb (env k) (henv k) ops 0 _ hpure h0
    have a3 := a2 hmul
    simp only [Loop.state, decayLoop] at h0 h1 a0 a3 ⊢
    refine ⟨a0, ?_⟩
    set s := (decayLoop p ops m env).state v k with hs
    simp only [decayLoop] at hs
    rw [← hs] at a0 a3 h0 h1 ⊢
    have h4 : s / ((2 ^ (p - b) : Nat) : Int) * ((2 ^ (p - b) : Nat) : Int) ≤ s :=
      Int.ediv_mul_le _ (ne_of_gt hq)
    have h5 : applyOps p (env k) ops 0 s * ((2 ^ (p - b) : Nat) : Int) ≤ s :=
      le_trans (Int.mul_le_mul_of_nonneg_right a3 (le_of_lt hq)) h4
    have hqk : (0 : Int) ≤ ((2 ^ (p - b) : Nat) : Int) ^ k := pow_nonneg (le_of_lt hq) k
    calc applyOps p (env k) ops 0 s * ((2 ^ (p - b) : Nat) : Int) ^ (k + 1)
        = (applyOps p (env k) ops 0 s * ((2 ^ (p - b) : Nat) : Int)) * ((2 ^ (p - b) : Nat) : Int) ^ k := by ring
      _ ≤ s * ((2 ^ (p - b) : Nat) : Int) ^ k := Int.mul_le_mul_of_nonneg_right h5 hqk
      _ ≤ v := h1

theorem fixdecay_terminates_rate {p b : Nat} (hb : b < p) (ops : List DecayOp) (m : Nat)
    (env : Nat → Nat → Int × Int) (henv : EnvOK p b 1 env)
    (hpure : ops.all DecayOp.isPure = true) (hmul : ops.contains .mulShift = true)
    (v : Int) (hv : 0 ≤ v) (K : Nat) (hK : bitcount v.toNat ≤ (p - b) * K) :
    (decayLoop p ops m env).ExitsWithin v K := by
  refine ⟨K, Nat.le_refl _, ?_⟩
  obtain ⟨h0, h1⟩ := decay_state_bound hb ops m env henv hpure hmul v hv K
  have hlt : v.toNat < 2 ^ ((p - b) * K) :=
    lt_of_lt_of_le (bitcount_lt v.toNat) (Nat.pow_le_pow_right (by norm_num) hK)
  have hlt' : v < ((2 ^ (p - b) : Nat) : Int) ^ K := by
    have : (v.toNat : Int) < ((2 ^ ((p - b) * K) : Nat) : Int) := by exact_mod_cast hlt
    rw [Int.toNat_of_nonneg hv] at this
    rw [← Nat.cast_pow, ← Nat.pow_mul]; exact this
  have hz : (decayLoop p ops m env).state v K = 0 := by
    by_contra hne
    -- a state ≥ 1 would give `q^K ≤ state·q^K ≤ v < q^K`
    have hqK : (0 : Int) ≤ ((2 ^ (p - b) : Nat) : Int) ^ K := pow_nonneg (le_of_lt (two_pow_pos_int _)) K
    exact absurd (lt_of_le_of_lt (le_trans (le_mul_of_one_le_left hqK (by omega)) h1) hlt') (lt_irrefl _)
  simp only [decayLoop] at hz
  simp [decayLoop, hz]

/-- crude corollary without a rate: at most `bitcount v` bodies -/
theorem fixdecay_terminates {p b : Nat} (hb : b < p) (ops : List DecayOp) (m : Nat)
    (env : Nat → Nat → Int × Int) (henv : EnvOK p b 1 env)
    (hpure : ops.all DecayOp.isPure = true) (hmul : ops.contains .mulShift = true)
    (v : Int) (hv : 0 ≤ v) : (decayLoop p ops m env).ExitsWithin v (bitcount v.toNat) := by
  apply fixdecay_terminates_rate hb ops m env henv hpure hmul v hv
  have : 1 ≤ p - b := by omega
  calc bitcount v.toNat = 1 * bitcount v.toNat := by ring
    _ ≤ (p - b) * bitcount v.toNat := Nat.mul_le_mul_right _ this

theorem applyOps_pure_neg {p : Nat} (env : Nat → Int × Int)
    (henv : ∀ j, 1 ≤ (env j).1 ∧ 1 ≤ (env j).2) :
    ∀ (ops : List DecayOp) (j : Nat) (v : Int), ops.all DecayOp.isPure = true → v < 0 →
      applyOps p env ops j v < 0 := by
  intro ops
  induction ops with
  | nil => intro j v _ hv; simpa [applyOps] using hv
  | cons op ops ih =>
    intro j v hpure hv
    simp only [List.all_cons, Bool.and_eq_true] at hpure
    obtain ⟨hop, hrest⟩ := hpure
    obtain ⟨hr, hd⟩ := henv j
    simp only [applyOps]
    cases op with
    | mulShift =>
      apply ih (j+1) _ hrest
      simp only [DecayOp.apply, Int.shiftRight_eq_div_pow]
      exact Int.ediv_neg_of_neg_of_pos (by nlinarith) (two_pow_pos_int p)
    | floorDiv =>
      apply ih (j+1) _ hrest
      simp only [DecayOp.apply]
      exact Int.ediv_neg_of_neg_of_pos hv (by omega)
    | negMulShift => simp [DecayOp.isPure] at hop
    | neg => simp [DecayOp.isPure] at hop

theorem cosSin_body (p : Nat) (env : Nat → Int × Int) (v : Int) :
    applyOps p env cosSinOps 0 v =
      -((((v / (env 0).2 * (env 1).1) >>> p) / (env 2).2 * (env 3).1) >>> p) := by
  simp [applyOps, cosSinOps, DecayOp.apply]

theorem cosSin_step {p b : Nat} (hb : b < p) (env : Nat → Int × Int)
    (henv : ∀ j, 0 ≤ (env j).1 ∧ (env j).1 ≤ 2 ^ b ∧ 2 ≤ (env j).2) (v : Int) :
    (0 < v → -(v / 2) ≤ applyOps p env cosSinOps 0 v ∧ applyOps p env cosSinOps 0 v ≤ 0) ∧
    (v < 0 → 0 ≤ applyOps p env cosSinOps 0 v ∧ applyOps p env cosSinOps 0 v ≤ -v) := by
  rw [cosSin_body]
  obtain ⟨_, _, d0⟩ := henv 0
  obtain ⟨r1a, r1b, _⟩ := henv 1
  obtain ⟨_, _, d2⟩ := henv 2
  obtain ⟨r3a, r3b, _⟩ := henv 3
  have hq := two_pow_pos_int (p - b)
  constructor
  · intro hv
    have a1 := floorDiv_nonneg_bounds (le_of_lt hv) (show 1 ≤ (env 0).2 by omega)
    have a1' := floorDiv_two_bound (le_of_lt hv) d0
    have a2 := mulShift_nonneg_bounds hb a1.1 r1a r1b
    have a2' : (v / (env 0).2 * (env 1).1) >>> p ≤ v / (env 0).2 :=
      le_trans a2.2 (Int.ediv_le_self _ a1.1)
    have a3 := floorDiv_nonneg_bounds a2.1 (show 1 ≤ (env 2).2 by omega)
    have a4 := mulShift_nonneg_bounds hb a3.1 r3a r3b
    have a4' := le_trans a4.2 (Int.ediv_le_self _ a3.1)
    omega
  · intro hv
    have a1 := floorDiv_nonpos_bounds (le_of_lt hv) (show 1 ≤ (env 0).2 by omega)
    have a2 := mulShift_nonpos_bounds (le_of_lt hb) a1.2 r1a r1b
    have a3 := floorDiv_nonpos_bounds a2.2 (show 1 ≤ (env 2).2 by omega)
    have a4 := mulShift_nonpos_bounds (le_of_lt hb) a3.2 r3a r3b
    omega

def altMeasure (v : Int) : Nat := 2 * v.natAbs + (if v < 0 then 1 else 0)

theorem altMeasure_lt (s w : Int) (hs : s ≠ 0) (hpos : 0 < s → -(s / 2) ≤ w ∧ w ≤ 0)
    (hneg : s < 0 → 0 ≤ w ∧ w ≤ -s) : altMeasure w < altMeasure s := by
  unfold altMeasure
  rcases lt_trichotomy s 0 with h | h | h
  · have := hneg h; split_ifs <;> omega
  · exact absurd h hs
  · have := hpos h; split_ifs <;> omega

theorem fixdecay_alt_terminates {p b : Nat} (hb : b < p) (m : Nat) (env : Nat → Nat → Int × Int)
    (henv : EnvOK p b 2 env) (v : Int) :
    (decayLoop p cosSinOps m env).ExitsWithin v (2 * v.natAbs + 1) := by
  have := (decayLoop p cosSinOps m env).exitsWithin_of_measure (fun _ => True)
    altMeasure (by intros; trivial)
    (by
      intro k s _ hc
      simp only [decayLoop, decide_eq_true_eq] at hc ⊢
      obtain ⟨hpos, hneg⟩ := cosSin_step hb (env k) (henv k) s
      exact altMeasure_lt s _ (by intro h; subst h; simp at hc) hpos hneg)
    v trivial
  exact this.mono (by unfold altMeasure; split_ifs <;> omega)

/-! ### Newton precision schedules -/

theorem giant_step_lt {start n x : Nat} (hn : 2 ≤ n) (h3 : 3 ≤ start * n)
    (hx : start * n < x) : x / n + 2 < x := by
  rcases Nat.lt_or_ge n 3 with h | h
  · have : n = 2 := by omega
    subst this
    have : 2 ≤ start := by omega
    omega
  · have h1 : x / n ≤ x / 3 := Nat.div_le_div_left h (by omega)
    omega

theorem giant_steps_finite (start n : Nat) (hn : 2 ≤ n) (hs : 1 ≤ start) (h3 : 3 ≤ start * n) (target : Nat) :
    (giantLoop start n).ExitsWithin target target := by
  apply (giantLoop start n).exitsWithin_of_measure (fun _ => True) id (by intros; trivial)
  · intro k s _ hc
    simp only [giantLoop, decide_eq_true_eq] at hc ⊢
    exact giant_step_lt hn h3 hc
  · trivial

theorem giantSteps_isSome (start n : Nat) (hn : 2 ≤ n) (hs : 1 ≤ start) (h3 : 3 ≤ start * n) :
    ∀ (f x : Nat) (L : List Nat), x ≤ f → (giantSteps start n f (x :: L)).isSome := by
  intro f
  induction f with
  | zero =>
    intro x L hx
    have : x = 0 := by omega
    subst this
    simp [giantSteps]
  | succ f ih =>
    intro x L hx
    unfold giantSteps
    split
    · rename_i hc
      have := giant_step_lt hn h3 hc
      exact ih _ _ (by omega)
    · rfl

/-! ### series loops -/

theorem Loop.state_of_body_succ {L : Loop Nat} (h : ∀ j s, L.body j s = s + 1) (s k : Nat) :
    L.state s k = s + k := by
  induction k with
  | zero => rfl
  | succ k ih => rw [Loop.state, h, ih]; rfl

theorem tolOrDivLoop_exits (a : Nat → Nat) (eps : Option Nat) (k0 : Nat) (strict : Bool) {k : Nat} (hk : k0 < k)
    (h : (∃ e, eps = some e ∧ a k ≤ e) ∨ (if strict then a (k-1) < a k else a (k-1) ≤ a k)) :
    (tolOrDivLoop a eps k0 strict).ExitsWithin 0 k := by
  refine ⟨k, Nat.le_refl _, ?_⟩
  rw [Loop.state_of_body_succ (fun _ _ => rfl), Nat.zero_add]
  rcases h with ⟨e, rfl, h⟩ | h
  · simp [tolOrDivLoop, hk, h]
  · cases strict <;> simp_all [tolOrDivLoop]

def EventuallyLE (a : Nat → Nat) (e : Nat) : Prop := ∃ K, ∀ k, K ≤ k → a k ≤ e
def EventuallyNondecreasing (a : Nat → Nat) : Prop := ∃ K, ∀ k, K ≤ k → a k ≤ a (k+1)
def EventuallyIncreasing (a : Nat → Nat) : Prop := ∃ K, ∀ k, K ≤ k → a k < a (k+1)

theorem tolOrDiverge_terminates (a : Nat → Nat) (eps k0 : Nat) (strict : Bool)
    (h : EventuallyLE a eps ∨ (if strict then EventuallyIncreasing a else EventuallyNondecreasing a)) :
    ∃ N, (tolOrDivLoop a (some eps) k0 strict).ExitsWithin 0 N := by
  -- both tests are looked at from index `max K k0 + 1` on
  have hmono : ∀ K, (∀ k, K ≤ k → (if strict then a k < a (k+1) else a k ≤ a (k+1))) →
      ∃ N, (tolOrDivLoop a (some eps) k0 strict).ExitsWithin 0 N := fun K hK =>
    ⟨_, tolOrDivLoop_exits a _ k0 strict (k := max K k0 + 1) (by omega) (Or.inr (hK (max K k0) (by omega)))⟩
  rcases h with ⟨K, hK⟩ | h
  · exact ⟨_, tolOrDivLoop_exits a _ k0 strict (k := max K k0 + 1) (by omega)
      (Or.inl ⟨eps, rfl, hK _ (by omega)⟩)⟩
  · cases strict
    · obtain ⟨K, hK⟩ := h; exact hmono K hK
    · obtain ⟨K, hK⟩ := h; exact hmono K hK

/-- natural numbers cannot decrease forever: a sequence starting at most at `n` has a step up among its first
    `n + 1` steps -/
theorem exists_step_le (n : Nat) : ∀ f : Nat → Nat, f 0 ≤ n → ∃ j, j ≤ n ∧ f j ≤ f (j + 1) := by
  induction n with
  | zero => exact fun f h => ⟨0, Nat.le_refl _, by omega⟩
  | succ n ih =>
    intro f h
    by_cases h01 : f 0 ≤ f 1
    · exact ⟨0, Nat.zero_le _, h01⟩
    · obtain ⟨j, hj, hstep⟩ := ih (fun i => f (i + 1)) (show f 1 ≤ n by omega)
      exact ⟨j + 1, by omega, hstep⟩

theorem divGuard_terminates (a : Nat → Nat) (k0 : Nat) :
    (tolOrDivLoop a none k0 false).ExitsWithin 0 (k0 + a k0 + 1) := by
  obtain ⟨j, hj, h⟩ := exists_step_le (a k0) (fun i => a (k0 + i)) (Nat.le_refl _)
  exact (tolOrDivLoop_exits a none k0 false (k := k0 + (j + 1)) (by omega) (Or.inr h)).mono (by omega)

/-- the unimodal witness: terms decrease down to `eps+1` at index 10 and grow afterwards -/
def unimodal (eps : Nat) (k : Nat) : Nat := eps + 1 + (if k < 10 then 10 - k else k - 10)

theorem tol_may_diverge (eps k0 : Nat) : (tolLoop (unimodal eps) eps k0).Diverges 0 := by
  intro k
  rw [Loop.state_of_body_succ (fun _ _ => rfl), Nat.zero_add]
  have : ¬ (unimodal eps k ≤ eps) := by unfold unimodal; split_ifs <;> omega
  simp only [tolLoop, decide_eq_false this, Bool.and_false, Bool.not_false]

theorem bounded_terminates (done : Nat → Bool) (maxit k : Nat) :
    (boundedLoop done maxit).ExitsWithin k (maxit + 1 - k) := by
  refine ⟨maxit + 1 - k, Nat.le_refl _, ?_⟩
  rw [Loop.state_of_body_succ (fun _ _ => rfl)]
  have : ¬ (k + (maxit + 1 - k) ≤ maxit) := by omega
  simp [boundedLoop, this]

/-! ### precision retry loops -/

theorem retryLoop_state (enough : Nat → Bool) (grow : Nat → Nat) (maxprec e : Nat) :
    ∀ k, (retryLoop enough grow maxprec).state (0, e) k = (k, grow^[k] e) := by
  intro k
  induction k with
  | zero => rfl
  | succ k ih =>
    show (retryLoop enough grow maxprec).body k ((retryLoop enough grow maxprec).state (0, e) k) = _
    rw [ih, Function.iterate_succ_apply']
    rfl

theorem iterate_double_ge (grow : Nat → Nat) (hg : ∀ x, 2 * x ≤ grow x) (e : Nat) :
    ∀ k, 2 ^ k * e ≤ grow^[k] e := by
  intro k
  induction k with
  | zero => simp
  | succ k ih =>
    rw [Function.iterate_succ_apply']
    have := hg (grow^[k] e)
    calc 2 ^ (k+1) * e = 2 * (2 ^ k * e) := by ring
      _ ≤ 2 * grow^[k] e := Nat.mul_le_mul_left 2 ih
      _ ≤ _ := this

theorem iterate_incr_ge (grow : Nat → Nat) (hg : ∀ x, x < grow x) (e : Nat) :
    ∀ k, e + k ≤ grow^[k] e := by
  intro k
  induction k with
  | zero => simp
  | succ k ih =>
    rw [Function.iterate_succ_apply']
    have := hg (grow^[k] e)
    omega

theorem retry_doubling_terminates (enough : Nat → Bool) (grow : Nat → Nat) (maxprec e : Nat)
    (he : 1 ≤ e) (hg : ∀ x, 2 * x ≤ grow x) :
    (retryLoop enough grow maxprec).ExitsWithin (0, e) (Nat.log2 maxprec + 1) := by
  refine ⟨Nat.log2 maxprec + 1, Nat.le_refl _, ?_⟩
  rw [retryLoop_state]
  have h1 := iterate_double_ge grow hg e (Nat.log2 maxprec + 1)
  have h2 : maxprec < 2 ^ (Nat.log2 maxprec + 1) := Nat.lt_log2_self
  have h3 : 2 ^ (Nat.log2 maxprec + 1) * 1 ≤ 2 ^ (Nat.log2 maxprec + 1) * e := Nat.mul_le_mul_left _ he
  have : ¬ (grow^[Nat.log2 maxprec + 1] e ≤ maxprec) := by omega
  simp only [retryLoop, decide_eq_false this, Bool.false_and]

theorem retry_incr_terminates (enough : Nat → Bool) (grow : Nat → Nat) (maxprec e : Nat)
    (hg : ∀ x, x < grow x) :
    (retryLoop enough grow maxprec).ExitsWithin (0, e) (maxprec + 1 - e) := by
  refine ⟨maxprec + 1 - e, Nat.le_refl _, ?_⟩
  rw [retryLoop_state]
  have h1 := iterate_incr_ge grow hg e (maxprec + 1 - e)
  have : ¬ (grow^[maxprec + 1 - e] e ≤ maxprec) := by omega
  simp only [retryLoop, decide_eq_false this, Bool.false_and]

theorem hypsumGrow_double (x : Nat) : 2 * x ≤ hypsumGrow x := by unfold hypsumGrow; omega

/-! ### the class table -/

/-- what "the loop terminates" means for each class: the semantic statement quantified over every start state and
    every environment, with the class's numeric preconditions as hypotheses. -/
def Cls.Terminates : Cls → Prop
  | .counter step => ∀ (n i : Int) (inc : Nat → Nat), (∀ k, step ≤ inc k) →
      (counterLoop n inc).ExitsWithin i (((n - i).toNat + step - 1) / step)
  | .countdown => ∀ n : Int, 0 ≤ n → countdownLoop.ExitsWithin n n.toNat
  | .halving d =>
      if d = 0 then ∀ d : Nat, 2 ≤ d → ∀ n : Int, 0 ≤ n → (divLoop d).ExitsWithin n (bitcount n.toNat)
      else ∀ n : Int, 0 ≤ n → (divLoop d).ExitsWithin n (bitcount n.toNat)
  | .strip p =>
      if p = 0 then ∀ p : Nat, 2 ≤ p → ∀ n : Nat, n ≠ 0 → (stripLoop p).ExitsWithin n (bitcount n)
      else ∀ n : Nat, n ≠ 0 → (stripLoop p).ExitsWithin n (bitcount n)
  | .euclid => ∀ a b : Int, euclidLoop.ExitsWithin (a, b) b.natAbs
  | .fixdecay ops => ∀ (p b m : Nat) (env : Nat → Nat → Int × Int) (v : Int), b < p → EnvOK p b 1 env → 0 ≤ v →
      ∀ K, bitcount v.toNat ≤ (p - b) * K → (decayLoop p ops m env).ExitsWithin v K
  | .fixdecayAlt => ∀ (p b m : Nat) (env : Nat → Nat → Int × Int) (v : Int), b < p → EnvOK p b 2 env →
      (decayLoop p cosSinOps m env).ExitsWithin v (2 * v.natAbs + 1)
  | .newton start n =>
      if start = 0 ∧ n = 0 then
        ∀ start n target : Nat, 2 ≤ n → 1 ≤ start → 3 ≤ start * n → (giantLoop start n).ExitsWithin target target
      else ∀ target : Nat, (giantLoop start n).ExitsWithin target target
  | .tolOrDiverge strict => ∀ (a : Nat → Nat) (eps k0 : Nat),
      (EventuallyLE a eps ∨ (if strict then EventuallyIncreasing a else EventuallyNondecreasing a)) →
      ∃ N, (tolOrDivLoop a (some eps) k0 strict).ExitsWithin 0 N
  | .divGuard => ∀ (a : Nat → Nat) (k0 : Nat), (tolOrDivLoop a none k0 false).ExitsWithin 0 (k0 + a k0 + 1)
  | .bounded => ∀ (done : Nat → Bool) (maxit k : Nat), (boundedLoop done maxit).ExitsWithin k (maxit + 1 - k)
  | .retry doubling => ∀ (enough : Nat → Bool) (grow : Nat → Nat) (maxprec e : Nat),
      if doubling then 1 ≤ e → (∀ x, 2 * x ≤ grow x) →
        (retryLoop enough grow maxprec).ExitsWithin (0, e) (Nat.log2 maxprec + 1)
      else (∀ x, x < grow x) → (retryLoop enough grow maxprec).ExitsWithin (0, e) (maxprec + 1 - e)
  | .producer => True
  | .tol => ∀ (a : Nat → Nat) (eps k0 : Nat), ∃ N, (tolLoop a eps k0).ExitsWithin 0 N
  | .unknown => False

/-- the theorem the generated obligations apply: parameters pass the syntactic check ⇒ the class statement holds -/
theorem Cls.terminates_of_check (c : Cls) (h : c.check = true) : c.Terminates := by
  cases c with
  | counter step => exact counter_terminates step (by simpa [Cls.check] using h)
  | countdown => exact countdown_terminates
  | halving d =>
    simp only [Cls.Terminates]
    split
    · exact halving_terminates
    · next hne =>
      simp only [Cls.check, Bool.or_eq_true, beq_iff_eq, decide_eq_true_eq] at h
      exact halving_terminates d (h.resolve_left hne)
  | strip p =>
    simp only [Cls.Terminates]
    split
    · exact strip_terminates
    · next hne =>
      simp only [Cls.check, Bool.or_eq_true, beq_iff_eq, decide_eq_true_eq] at h
      exact strip_terminates p (h.resolve_left hne)
  | euclid => exact euclid_terminates
  | fixdecay ops =>
    simp only [Cls.check, Bool.and_eq_true] at h
    exact fun p b m env v hb henv hv K hK => fixdecay_terminates_rate hb ops m env henv h.1 h.2 v hv K hK
  | fixdecayAlt => exact fun p b m env v hb henv => fixdecay_alt_terminates hb m env henv v
  | newton start n =>
    simp only [Cls.Terminates]
    split
    · exact fun s n t hn hs h3 => giant_steps_finite s n hn hs h3 t
    · next hne =>
      simp only [Cls.check, Bool.or_eq_true, Bool.and_eq_true, beq_iff_eq, decide_eq_true_eq] at h
      obtain ⟨⟨hn, hs⟩, h3⟩ := h.resolve_left hne
      exact giant_steps_finite start n hn hs h3
  | tolOrDiverge strict => exact fun a eps k0 => tolOrDiverge_terminates a eps k0 strict
  | divGuard => exact divGuard_terminates
  | bounded => exact bounded_terminates
  | retry doubling =>
    intro enough grow maxprec e
    split
    · exact retry_doubling_terminates enough grow maxprec e
    · exact retry_incr_terminates enough grow maxprec e
  | producer => trivial
  | tol => simp [Cls.check] at h
  | unknown => simp [Cls.check] at h

end LoopSkel
end Mp

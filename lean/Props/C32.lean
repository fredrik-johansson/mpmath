/-
  Props/C32.lean — C32: matrix functions are mutually consistent.

  Technique: VERIFIED CERTIFICATE CHECKING (see Props/C31.lean).  Each factor of a composite identity
  (`logm A`, then `expm` of it; `sqrtm A`; `powm A k`; `cosm A`, `sinm A`) is computed by the real
  mpmath routine and read exactly; the identity is then evaluated in exact Gaussian-dyadic arithmetic.
  The theorems say what the checker's answer means for the denoted complex matrices
  (`frob` = Frobenius norm, `p` = working precision, "relative error ‖A‖·2^(10−p)" instantiated as
  absolute error 2^(10−p)·‖A‖_F·max(1,‖A‖_F)):

    closeCheck  = true ↔ ‖X − A‖_F        ≤ 2^(10−p)·‖A‖_F·max(1,‖A‖_F)          (X = expm(logm A))
    sqrtmCheck  = true ↔ ‖S·S − A‖_F      ≤ 2^(10−p)·‖A‖_F·max(1,‖A‖_F)
    powmCheck   = true ↔ ‖P − A^k‖_F      ≤ 2^(10−p)·‖A‖_F^k·max(1,‖A‖_F)        (A^k exact)
    cosSinCheck = true ↔ ‖C² + S² − I‖_F  ≤ 2^(10−p)·max(1,‖A‖_F)·max(√n, ‖C‖_F² + ‖S‖_F²)
  `expm(D) = diag(exp d)` needs enclosures of exp and is checked in the harness only.
-/
import MpProofs.CertResid

namespace Mp

open Mp.Cert Matrix

/-- `expm(logm(A)) = A`: X is the computed `expm(logm(A))`. -/
theorem closeCheck_iff (n : ℕ) (p : ℤ) (A X : Mat) :
    closeCheck n p A X = true ↔
      frob (toMat n n X - toMat n n A)
        ≤ (2:ℝ) ^ (10 - p) * (frob (toMat n n A) * max 1 (frob (toMat n n A))) := by
  rw [closeCheck, frobLe_iff (toReal_mul_nonneg (frob2_nonneg _ _ _) (max1_nonneg _)), toMat_msub,
    sqrt_frob2_mul_max1]

/-- `sqrtm(A)² = A`: S is the computed `sqrtm(A)`. -/
theorem sqrtmCheck_iff (n : ℕ) (p : ℤ) (A S : Mat) :
    sqrtmCheck n p A S = true ↔
      frob (toMat n n S * toMat n n S - toMat n n A)
        ≤ (2:ℝ) ^ (10 - p) * (frob (toMat n n A) * max 1 (frob (toMat n n A))) := by
  rw [sqrtmCheck, frobLe_iff (toReal_mul_nonneg (frob2_nonneg _ _ _) (max1_nonneg _)), sqrtmResid,
    toMat_msub, toMat_mmul, sqrt_frob2_mul_max1]

/-- `powm(A, k) = A^k` for a natural exponent: P is the computed `powm(A, k)`, `A^k` the exact power. -/
theorem powmCheck_iff (n k : ℕ) (p : ℤ) (A P : Mat) :
    powmCheck n k p A P = true ↔
      frob (toMat n n P - toMat n n A ^ k)
        ≤ (2:ℝ) ^ (10 - p) * (frob (toMat n n A) ^ k * max 1 (frob (toMat n n A))) := by
  have h0 : 0 ≤ (Dy.pow (frob2 n n A) k).toReal := by
    rw [Dy.toReal_pow]; exact pow_nonneg (frob2_nonneg _ _ _) k
  rw [powmCheck, frobLe_iff (toReal_mul_nonneg h0 (max1_nonneg _)), toMat_msub, toMat_mpow,
    sqrt_frob2_pow_mul_max1]

/-- `cosm(A)² + sinm(A)² = I`: C, S are the computed `cosm(A)`, `sinm(A)`. -/
theorem cosSinCheck_iff (n : ℕ) (p : ℤ) (A C S : Mat) :
    cosSinCheck n p A C S = true ↔
      frob (toMat n n C * toMat n n C + toMat n n S * toMat n n S - 1)
        ≤ (2:ℝ) ^ (10 - p) * (max 1 (frob (toMat n n A)) *
            max (Real.sqrt n) (frob (toMat n n C) ^ 2 + frob (toMat n n S) ^ 2)) := by
  have h0 : 0 ≤ (Dy.max (Dy.ofNat n)
      ((frob2 n n C + frob2 n n S) * (frob2 n n C + frob2 n n S))).toReal := by
    rw [Dy.toReal_max, Dy.toReal_ofNat]
    exact le_trans (Nat.cast_nonneg n) (le_max_left _ _)
  rw [cosSinCheck, frobLe_iff (toReal_mul_nonneg (max1_nonneg _) h0), cosSinResid, toMat_msub,
    toMat_madd, toMat_mmul, toMat_mmul, toMat_ident, sqrt_cosSin_scale]

/-- non-vacuity: A = 4·I₁, S = 2 passes; S = 3 fails -/
example : sqrtmCheck 1 53 [[⟨⟨4,0⟩,⟨0,0⟩⟩]] [[⟨⟨2,0⟩,⟨0,0⟩⟩]] = true := by decide +kernel
example : sqrtmCheck 1 53 [[⟨⟨4,0⟩,⟨0,0⟩⟩]] [[⟨⟨3,0⟩,⟨0,0⟩⟩]] = false := by decide +kernel

end Mp

/-
  MpProofs/Hash.lean — helper lemmas for C05 (hash half): correctness of the modular power,
  2^61 ≡ 1 (mod P), closed form of `mpf_hash_raw`, well-definedness of the hash on rational values,
  integer facts about the reductions modulo 2^64.
-/
import MpModel.Core
import MpModel.Hash
import MpProofs.Bits
import Mathlib.Data.Nat.ModEq

namespace Mp

theorem powModAux_eq (fuel : Nat) : ∀ (acc b e m : Nat), e < 2 ^ fuel → acc % m = acc →
    powModAux fuel acc b e m = acc * b ^ e % m := by
  induction fuel with
  | zero =>
    intro acc b e m he hacc
    obtain rfl : e = 0 := by simpa using he
    simp [powModAux, hacc]
  | succ f ih =>
    intro acc b e m he hacc
    unfold powModAux
    by_cases h0 : e = 0
    · subst h0; simp [hacc]
    rw [if_neg h0]
    have he2 : e / 2 < 2 ^ f := by rw [Nat.pow_succ] at he; omega
    have hpow : b ^ e = b ^ (e % 2) * (b * b) ^ (e / 2) := by
      conv_lhs => rw [← Nat.mod_add_div e 2]
      rw [Nat.pow_add, Nat.pow_mul, Nat.pow_two]
    have hsq : (b * b % m) ^ (e / 2) ≡ (b * b) ^ (e / 2) [MOD m] := (Nat.mod_modEq _ _).pow _
    -- the accumulator takes the factor `b ^ (e % 2)`
    have hacc' : (if e % 2 = 1 then acc * b % m else acc) % m = (if e % 2 = 1 then acc * b % m else acc)
        ∧ (if e % 2 = 1 then acc * b % m else acc) ≡ acc * b ^ (e % 2) [MOD m] := by
      rcases Nat.mod_two_eq_zero_or_one e with h | h <;> rw [h]
      · simp only [zero_ne_one, if_false, pow_zero, mul_one]
        exact ⟨hacc, Nat.ModEq.refl _⟩
      · simp only [if_true, pow_one]
        exact ⟨Nat.mod_mod _ _, Nat.mod_modEq _ _⟩
    rw [ih _ _ _ _ he2 hacc'.1, hpow, ← mul_assoc]
    exact hacc'.2.mul hsq

theorem powMod_eq (b e m : Nat) : powMod b e m = b ^ e % m := by
  unfold powMod
  rw [powModAux_eq _ _ _ _ _ Nat.lt_log2_self (Nat.mod_mod _ _)]
  have : 1 % m * b ^ e ≡ 1 * b ^ e [MOD m] := (Nat.mod_modEq _ _).mul_right _
  rw [this, Nat.one_mul]

theorem pyP_eq : pyP = 2305843009213693951 := by decide
theorem HASH_MODULUS_eq : HASH_MODULUS = 2305843009213693951 := by decide

theorem two_pow_61_mod : 2 ^ 61 % pyP = 1 := by decide

theorem two_pow_mod (k : Nat) : 2 ^ k % pyP = 2 ^ (k % 61) % pyP := by
  conv_lhs => rw [← Nat.div_add_mod k 61, Nat.pow_add, Nat.pow_mul]
  have h : (2 ^ 61) ^ (k / 61) ≡ 1 ^ (k / 61) [MOD pyP] := by
    apply Nat.ModEq.pow
    exact two_pow_61_mod
  have := h.mul_right (2 ^ (k % 61))
  rw [Nat.one_pow, Nat.one_mul] at this
  exact this

theorem two_pow_mod_congr {j k : Nat} (h : j % 61 = k % 61) : 2 ^ j % pyP = 2 ^ k % pyP := by
  rw [two_pow_mod j, two_pow_mod k, h]

theorem two_pow_mod_ne_zero (k : Nat) : 2 ^ k % pyP ≠ 0 := by
  rw [two_pow_mod]
  have hk : k % 61 < 61 := Nat.mod_lt _ (by decide)
  have hlt : 2 ^ (k % 61) < pyP := by
    have : 2 ^ (k % 61) ≤ 2 ^ 60 := Nat.pow_le_pow_right (by decide) (by omega)
    have : (2:Nat) ^ 60 < pyP := by decide
    omega
  rw [Nat.mod_eq_of_lt hlt]
  exact Nat.ne_of_gt (Nat.two_pow_pos _)

/-- the exponent reduced modulo 61 = `sys.hash_info` bits (floor modulo, as Python's `%`) -/
def hexp (e : Int) : Nat := (e % 61).toNat

/-- magnitude of the hash of `man · 2^exp` -/
def hmag (man : Nat) (exp : Int) : Nat := man * 2 ^ hexp exp % pyP

/-- signed hash of `(-1)^sign · man · 2^exp`, before -1 ↦ -2 -/
def hashTriple (sign man : Nat) (exp : Int) : Int :=
  if sign ≠ 0 then -(hmag man exp : Int) else (hmag man exp : Int)

theorem hmag_lt (man : Nat) (exp : Int) : hmag man exp < pyP :=
  Nat.mod_lt _ (by decide)

theorem hmag_zero (exp : Int) : hmag 0 exp = 0 := by simp [hmag]

theorem hashTriple_range (s m : Nat) (e : Int) :
    -(pyP : Int) < hashTriple s m e ∧ hashTriple s m e < (pyP : Int) := by
  have := hmag_lt m e
  unfold hashTriple; split <;> omega

/-- `x` is none of the three special tuples recognised by `mpf_hash_raw` -/
def NotSpecialTuple (x : Mpf) : Prop := ¬ (x.man = 0 ∧ (x = fnan ∨ x = finf ∨ x = fninf))

theorem notSpecialTuple_of_finite {x : Mpf} (h : Finite x) : NotSpecialTuple x := by
  unfold Finite at h
  unfold NotSpecialTuple
  rintro ⟨hm, hs⟩
  apply h
  refine ⟨hm, ?_⟩
  rcases hs with rfl | rfl | rfl <;> decide

theorem mpf_hash_raw_closed (x : Mpf) (h : NotSpecialTuple x) :
    mpf_hash_raw x = hashTriple x.sign x.man x.exp := by
  unfold NotSpecialTuple at h
  have h1 : ¬ (x.man = 0 ∧ x = fnan) := fun ⟨a, b⟩ => h ⟨a, Or.inl b⟩
  have h2 : ¬ (x.man = 0 ∧ x = finf) := fun ⟨a, b⟩ => h ⟨a, Or.inr (Or.inl b)⟩
  have h3 : ¬ (x.man = 0 ∧ x = fninf) := fun ⟨a, b⟩ => h ⟨a, Or.inr (Or.inr b)⟩
  unfold mpf_hash_raw
  simp only [h1, h2, h3, if_false]
  have he : (if x.exp ≥ 0 then (x.exp % (HASH_BITS : Int)).toNat
      else HASH_BITS - 1 - ((-1 - x.exp) % (HASH_BITS : Int)).toNat) = hexp x.exp := by
    unfold hexp
    simp only [HASH_BITS]
    split
    · rfl
    · omega
  have hm : (x.man % HASH_MODULUS) <<< hexp x.exp % HASH_MODULUS = hmag x.man x.exp := by
    unfold hmag
    rw [Nat.shiftLeft_eq]
    have : HASH_MODULUS = pyP := by decide
    rw [this]
    exact (Nat.mod_modEq _ _).mul_right _
  unfold hashTriple
  simp only [he, hm]

theorem powMod_one (e : Nat) : powMod 1 e pyP = 1 := by
  rw [powMod_eq, Nat.one_pow]; decide

theorem hmag_exp_zero (m : Nat) : hmag m 0 = m % pyP := by
  unfold hmag hexp; simp

theorem hmag_shift (m j : Nat) (e : Int) : hmag (m * 2 ^ j) e = hmag m (e + j) := by
  unfold hmag
  rw [Nat.mul_assoc, ← Nat.pow_add]
  have : 2 ^ (j + hexp e) % pyP = 2 ^ hexp (e + j) % pyP := by
    apply two_pow_mod_congr
    unfold hexp
    omega
  exact (Nat.ModEq.refl m).mul this

theorem hmag_natCast (m k : Nat) : hmag m (k : Int) = m * 2 ^ k % pyP := by
  rw [← hmag_exp_zero, hmag_shift, zero_add]

/-- for a negative exponent the factor `2^(-k mod 61)` is the modular inverse `(2^k)^(P-2)` of `2^k` -/
theorem hmag_neg (m k : Nat) : hmag m (-(k : Int)) = m % pyP * powMod (2 ^ k) (pyP - 2) pyP % pyP := by
  unfold hmag hexp
  rw [powMod_eq, ← Nat.pow_mul]
  have hred : 2 ^ (k * (pyP - 2)) % pyP = 2 ^ ((-(k : Int)) % 61).toNat % pyP := by
    apply two_pow_mod_congr
    rw [pyP_eq]
    omega
  have a2 : 2 ^ (k * (pyP - 2)) % pyP ≡ 2 ^ ((-(k : Int)) % 61).toNat [MOD pyP] := by
    unfold Nat.ModEq; rw [Nat.mod_mod, hred]
  exact ((Nat.mod_modEq m pyP).mul a2).symm

theorem hmag_congr {m1 m2 : Nat} {e1 e2 : Int}
    (h : (m1 : ℚ) * (2 : ℚ) ^ e1 = (m2 : ℚ) * (2 : ℚ) ^ e2) : hmag m1 e1 = hmag m2 e2 := by
  rcases le_total e1 e2 with hle | hle
  · rw [dyadic_cancel hle h.symm, hmag_shift]; congr 1; omega
  · rw [dyadic_cancel hle h, hmag_shift]; congr 1; omega

theorem dyadic_eq_neg {m1 m2 : Nat} {e1 e2 : Int}
    (h : (m1 : ℚ) * (2 : ℚ) ^ e1 = -((m2 : ℚ) * (2 : ℚ) ^ e2)) : m1 = 0 ∧ m2 = 0 := by
  have p1 : (0 : ℚ) < (2 : ℚ) ^ e1 := zpow_pos (by norm_num) _
  have p2 : (0 : ℚ) < (2 : ℚ) ^ e2 := zpow_pos (by norm_num) _
  have q1 : (0 : ℚ) ≤ (m1 : ℚ) * (2 : ℚ) ^ e1 := mul_nonneg (Nat.cast_nonneg _) p1.le
  have q2 : (0 : ℚ) ≤ (m2 : ℚ) * (2 : ℚ) ^ e2 := mul_nonneg (Nat.cast_nonneg _) p2.le
  have z2 : (m2 : ℚ) * (2 : ℚ) ^ e2 = 0 := le_antisymm (by rw [← neg_nonneg, ← h]; exact q1) q2
  have z1 : (m1 : ℚ) * (2 : ℚ) ^ e1 = 0 := by rw [h, z2, neg_zero]
  exact ⟨by exact_mod_cast (mul_eq_zero.mp z1).resolve_right p1.ne',
    by exact_mod_cast (mul_eq_zero.mp z2).resolve_right p2.ne'⟩

theorem hashTriple_congr {s1 m1 s2 m2 : Nat} {e1 e2 : Int} (hs1 : s1 ≤ 1) (hs2 : s2 ≤ 1)
    (h : (-1 : ℚ) ^ s1 * (m1 : ℚ) * (2 : ℚ) ^ e1 = (-1 : ℚ) ^ s2 * (m2 : ℚ) * (2 : ℚ) ^ e2) :
    hashTriple s1 m1 e1 = hashTriple s2 m2 e2 := by
  have hs : s1 = s2 ∨ (s1 = 0 ∧ s2 = 1) ∨ (s1 = 1 ∧ s2 = 0) := by omega
  rcases hs with rfl | ⟨rfl, rfl⟩ | ⟨rfl, rfl⟩
  · -- equal signs: the magnitudes agree
    rw [mul_assoc, mul_assoc] at h
    unfold hashTriple
    rw [hmag_congr (mul_left_cancel₀ (pow_ne_zero _ (by norm_num)) h)]
  -- opposite signs: both numbers are zero
  · rw [pow_zero, pow_one, one_mul, mul_assoc, neg_one_mul] at h
    obtain ⟨rfl, rfl⟩ := dyadic_eq_neg h
    simp [hashTriple, hmag_zero]
  · rw [pow_zero, pow_one, one_mul, mul_assoc, neg_one_mul] at h
    obtain ⟨rfl, rfl⟩ := dyadic_eq_neg h.symm
    simp [hashTriple, hmag_zero]

theorem pyHashFraction_signed (s M n : Nat) (hn : n % pyP ≠ 0) :
    pyHashFraction (if s ≠ 0 then -(M : Int) else (M : Int)) n =
      fixM1 (if s ≠ 0 then -((M % pyP * powMod n (pyP - 2) pyP % pyP : Nat) : Int)
        else ((M % pyP * powMod n (pyP - 2) pyP % pyP : Nat) : Int)) := by
  unfold pyHashFraction
  simp only [hn, if_false]
  by_cases hs : s ≠ 0
  · simp only [if_pos hs, Int.natAbs_neg, Int.natAbs_natCast]
    by_cases hM : M = 0
    · subst hM; simp
    · rw [if_pos (by omega)]
  · simp only [if_neg hs, Int.natAbs_natCast]
    rw [if_neg (by omega)]

theorem pyHashDyadic_closed (s m : Nat) (e : Int) :
    pyHashDyadic s m e = fixM1 (hashTriple s m e) := by
  unfold pyHashDyadic hashTriple
  by_cases he : e ≥ 0
  · obtain ⟨k, rfl⟩ := Int.eq_ofNat_of_zero_le he
    have hm : (if s ≠ 0 then -(m : Int) else (m : Int)) * ((2 ^ k : Nat) : Int) =
        if s ≠ 0 then -((m * 2 ^ k : Nat) : Int) else ((m * 2 ^ k : Nat) : Int) := by
      split <;> push_cast <;> ring
    simp only [he, if_true, Int.toNat_natCast, hm]
    rw [pyHashFraction_signed _ _ _ (by decide), powMod_one, Nat.mul_one, Nat.mod_mod, hmag_natCast]
  · obtain ⟨k, rfl⟩ : ∃ k : Nat, e = -(k : Int) := ⟨(-e).toNat, by omega⟩
    simp only [he, if_false, Int.neg_neg, Int.toNat_natCast]
    rw [pyHashFraction_signed _ _ _ (two_pow_mod_ne_zero k), hmag_neg]

theorem pyHashInt_nonneg (h : Int) (h0 : 0 ≤ h) : pyHashInt h = h % 2305843009213693951 := by
  unfold pyHashInt pyHashNat fixM1
  rw [pyP_eq]
  have : ¬ (h < 0) := by omega
  simp only [this, if_false]
  split <;> omega

theorem finalHash_eq (h : Int) : finalHash h =
    fixM1 (if -9223372036854775808 ≤ h ∧ h < 9223372036854775808 then h else pyHashInt h) := by
  unfold finalHash
  simp only [pyHashWidth]
  norm_num

theorem finalHash_of_range (h : Int) (h1 : -9223372036854775808 ≤ h) (h2 : h < 9223372036854775808) :
    finalHash h = fixM1 h := by
  rw [finalHash_eq, if_pos ⟨h1, h2⟩]

theorem finalHash_of_big (h : Int) (h2 : 9223372036854775808 ≤ h) :
    finalHash h = h % 2305843009213693951 := by
  rw [finalHash_eq, if_neg (by omega), pyHashInt_nonneg h (by omega), fixM1, if_neg (by omega)]

theorem pyHashComplex_eq (a b : Int) :
    pyHashComplex a b = fixM1 ((a + 1000003 * b + 9223372036854775808) % 18446744073709551616 - 9223372036854775808) := by
  unfold pyHashComplex
  simp only [pyHashWidth, pyHashImag]
  norm_num
  congr 1
  split <;> omega

theorem fixM1_cases (h : Int) : (h = -1 ∧ fixM1 h = -2) ∨ (h ≠ -1 ∧ fixM1 h = h) := by
  unfold fixM1; split <;> simp_all

/-- the returned value `x mod 2^64` against the documented signed reduction of `x - δ`, where `δ` is what the
-1 ↦ -2 rule takes off the combined component hashes: they agree iff `δ = 0` and bit 63 is clear -/
theorem finalHash_eq_wrap_iff (x δ : Int) (h0 : 0 ≤ δ) (h1 : δ ≤ 1000004) :
    finalHash (x % 18446744073709551616)
        = fixM1 ((x - δ + 9223372036854775808) % 18446744073709551616 - 9223372036854775808) ↔
      δ = 0 ∧ x % 18446744073709551616 < 9223372036854775808 := by
  have hw := fixM1_cases ((x - δ + 9223372036854775808) % 18446744073709551616 - 9223372036854775808)
  by_cases hu : x % 18446744073709551616 < 9223372036854775808
  · have hu0 := Int.emod_nonneg x (by norm_num : (18446744073709551616 : Int) ≠ 0)
    rw [finalHash_of_range _ (by omega) hu, fixM1, if_neg (by omega)]
    omega
  · -- `x - δ` reduces to a negative number or to one in `[2^63 - δ, 2^63)`, never into `[0, P)`
    rw [finalHash_of_big _ (by omega)]
    have hm := Int.emod_nonneg (x % 18446744073709551616) (by norm_num : (2305843009213693951 : Int) ≠ 0)
    have hm' := Int.emod_lt_of_pos (x % 18446744073709551616) (by norm_num : (0 : Int) < 2305843009213693951)
    generalize x % 18446744073709551616 % 2305843009213693951 = l at *
    omega

theorem fixM1_defect (a : Int) : 0 ≤ a - fixM1 a ∧ a - fixM1 a ≤ 1 ∧ (a - fixM1 a = 0 ↔ a ≠ -1) := by
  unfold fixM1; split <;> omega

theorem mpc_core_iff (a b : Int) :
    finalHash ((a + 1000003 * b) % 18446744073709551616) = pyHashComplex (fixM1 a) (fixM1 b) ↔
      (a ≠ -1 ∧ b ≠ -1 ∧ (a + 1000003 * b) % 18446744073709551616 < 9223372036854775808) := by
  obtain ⟨a0, a1, az⟩ := fixM1_defect a
  obtain ⟨b0, b1, bz⟩ := fixM1_defect b
  rw [pyHashComplex_eq,
    show fixM1 a + 1000003 * fixM1 b = a + 1000003 * b - ((a - fixM1 a) + 1000003 * (b - fixM1 b)) by ring,
    finalHash_eq_wrap_iff _ _ (by omega) (by omega), ← az, ← bz, ← and_assoc]
  generalize a - fixM1 a = x at *
  generalize b - fixM1 b = y at *
  exact and_congr_left' (by omega)

theorem mpf_hash_raw_range (x : Mpf) :
    -2305843009213693951 < mpf_hash_raw x ∧ mpf_hash_raw x < 2305843009213693951 := by
  by_cases h : NotSpecialTuple x
  · rw [mpf_hash_raw_closed x h]
    have := hashTriple_range x.sign x.man x.exp
    rw [pyP_eq] at this
    exact_mod_cast this
  · unfold NotSpecialTuple at h
    have h' : x.man = 0 ∧ (x = fnan ∨ x = finf ∨ x = fninf) := by
      by_contra hc; exact h hc
    rcases h'.2 with rfl | rfl | rfl <;> decide

theorem finalHash_mpf_hash_raw (x : Mpf) : finalHash (mpf_hash_raw x) = fixM1 (mpf_hash_raw x) := by
  have := mpf_hash_raw_range x
  exact finalHash_of_range _ (by omega) (by omega)

theorem mpf_hash_eq (x : Mpf) : mpf_hash x = fixM1 (mpf_hash_raw x) := rfl

theorem fixM1_idem (h : Int) : fixM1 (fixM1 h) = fixM1 h := by
  unfold fixM1; split_ifs <;> omega

/-- `mpc_hash` is literally the documented complex hash of the two `mpf_hash` component hashes -/
theorem mpc_hash_eq (re im : Mpf) :
    mpc_hash re im = pyHashComplex (mpf_hash re) (mpf_hash im) := by
  unfold mpc_hash pyHashComplex fixM1
  simp only [HASH_IMAG, HASH_WIDTH, pyHashImag, pyHashWidth]
  norm_num

theorem pyHashComplex_range (a b : Int) :
    -9223372036854775808 ≤ pyHashComplex a b ∧ pyHashComplex a b < 9223372036854775808 := by
  rw [pyHashComplex_eq]
  have := fixM1_cases ((a + 1000003 * b + 9223372036854775808) % 18446744073709551616 - 9223372036854775808)
  omega

theorem finalHash_pyHashComplex (a b : Int) : finalHash (pyHashComplex a b) = pyHashComplex a b := by
  have h := pyHashComplex_range a b
  rw [finalHash_of_range _ h.1 h.2]
  rw [pyHashComplex_eq, fixM1_idem]

theorem pyHashComplex_zero (a : Int) (h1 : -2305843009213693951 < a) (h2 : a < 2305843009213693951) :
    pyHashComplex a 0 = fixM1 a := by
  rw [pyHashComplex_eq]
  congr 1
  omega

theorem pyHashInt_eq_hashTriple (n : Int) :
    pyHashInt n = fixM1 (hashTriple (if n < 0 then 1 else 0) n.natAbs 0) := by
  unfold pyHashInt pyHashNat hashTriple
  rw [hmag_exp_zero]
  by_cases h : n < 0 <;> simp [h]

theorem val_of_int (n : Int) :
    (-1 : ℚ) ^ (if n < 0 then 1 else 0 : Nat) * ((n.natAbs : Nat) : ℚ) * (2 : ℚ) ^ (0 : Int) = (n : ℚ) := by
  have h : (if n < 0 then 1 else 0 : ℕ) = if n ≥ 0 then 0 else 1 := by split <;> split <;> omega
  rw [h, zpow_zero, mul_one, neg_one_pow_mul_natAbs]

end Mp

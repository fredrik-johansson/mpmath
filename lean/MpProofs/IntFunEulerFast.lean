/-
  MpProofs/IntFunEulerFast.lean — `eulernum`: stored and returned value are the Euler number for all even
  `m ≤ 100` (the `n < 100` path of `mp.eulernum`), by one kernel evaluation of the array recurrence.
-/
import MpProofs.IntFunEuler
import MpProofs.Sweep

namespace Mp

/-! ## one sweep of round `n` as a single pass: it writes only positions of the parity of `n` and reads the others -/

def eulerRowGo (n : Nat) : Nat → Int → List Int → List Int
  | _, _, [] => []
  | i, prev, x :: t =>
    (if i % 2 = n % 2 ∧ 1 ≤ i ∧ i ≤ n + 2 then ((i : Int) - 2) * prev + (i : Int) * t.headD 0 else x)
      :: forceNat (i+1) fun i' => eulerRowGo n i' x t

def eulerRowF (n : Nat) (a : List Int) : List Int := eulerRowGo n 0 0 a

theorem eulerUpd_length (cnt j : Nat) (a : List Int) : (eulerUpd cnt j a).length = a.length := by
  induction cnt generalizing j a with
  | zero => rfl
  | succ cnt ih => simp [eulerUpd, ih]

/-- the sweep, pointwise, in terms of the ORIGINAL array -/
theorem eulerUpd_getD (cnt j : Nat) (a : List Int) (i : Nat) (h : 2 * cnt ≤ j + 2) (hl : j + 1 < a.length) :
    (eulerUpd cnt j a).getD i 0 =
      if i ≤ j + 1 ∧ j + 1 < i + 2 * cnt ∧ (j + 1 - i) % 2 = 0
      then ((i : Int) - 2) * a.getD (i - 1) 0 + (i : Int) * a.getD (i + 1) 0 else a.getD i 0 := by
  induction cnt generalizing j a with
  | zero => rw [if_neg (by omega)]; rfl
  | succ cnt ih =>
    -- the first write is at `j + 1`; the remaining `cnt` writes (none, or `2 ≤ j`) lie below it and read below it
    have hj : cnt = 0 ∨ 2 ≤ j := by omega
    rw [eulerUpd, ih (j - 2) _ (by omega) (by rw [List.length_set]; omega), getD_set_int, getD_set_int,
      getD_set_int]
    by_cases hcond : i ≤ j - 2 + 1 ∧ j - 2 + 1 < i + 2 * cnt ∧ (j - 2 + 1 - i) % 2 = 0
    · rw [if_pos hcond, if_neg (by omega), if_neg (by omega), if_pos (by omega)]
    · rw [if_neg hcond]
      by_cases hi : i = j + 1
      · subst hi
        rw [if_pos ⟨rfl, hl⟩, if_pos (by omega), Nat.add_sub_cancel]
        push_cast
        ring
      · rw [if_neg (fun e => hi e.1.symm), if_neg (by omega)]

theorem eulerRowGo_length (n : Nat) (l : List Int) (i : Nat) (prev : Int) :
    (eulerRowGo n i prev l).length = l.length := by
  induction l generalizing i prev with
  | nil => rfl
  | cons x t ih => simp [eulerRowGo, ih]

theorem eulerRowGo_getD (n : Nat) (l : List Int) (i : Nat) (prev : Int) (k : Nat) (hk : k < l.length) :
    (eulerRowGo n i prev l).getD k 0 =
      if (i + k) % 2 = n % 2 ∧ 1 ≤ i + k ∧ i + k ≤ n + 2
      then (((i + k : Nat) : Int) - 2) * (if k = 0 then prev else l.getD (k - 1) 0)
        + ((i + k : Nat) : Int) * l.getD (k + 1) 0
      else l.getD k 0 := by
  induction l generalizing i prev k with
  | nil => simp at hk
  | cons x t ih =>
    cases k with
    | zero =>
      simp only [eulerRowGo, List.getD_cons_zero, Nat.add_zero, if_true, List.getD_cons_succ]
      cases t <;> rfl
    | succ k =>
      simp only [eulerRowGo, forceNat_eq, List.getD_cons_succ]
      rw [ih (i + 1) x k (by simpa using hk)]
      have e : i + 1 + k = i + (k + 1) := by omega
      rw [e]
      cases k with
      | zero => simp
      | succ k => simp

theorem eulerRowF_eq (n : Nat) (a : List Int) (ha : a.length = n + 5) :
    eulerRowF n a = eulerUpd (eulerCnt n) (n + 1) a := by
  apply list_ext_getD
  · rw [eulerRowF, eulerRowGo_length, eulerUpd_length]
  · intro i hi
    rw [eulerRowF, eulerRowGo_length] at hi
    rw [eulerRowF, eulerRowGo_getD n a 0 0 i hi,
      eulerUpd_getD (eulerCnt n) (n + 1) a i (by unfold eulerCnt; omega) (by omega)]
    simp only [Nat.zero_add]
    by_cases hc : i % 2 = n % 2 ∧ 1 ≤ i ∧ i ≤ n + 2
    · have h2 : i ≤ n + 1 + 1 ∧ n + 1 + 1 < i + 2 * eulerCnt n ∧ (n + 1 + 1 - i) % 2 = 0 := by
        unfold eulerCnt; omega
      have h3 : ¬ i = 0 := by omega
      rw [if_pos hc, if_pos h2, if_neg h3]
    · have h2 : ¬ (i ≤ n + 1 + 1 ∧ n + 1 + 1 < i + 2 * eulerCnt n ∧ (n + 1 + 1 - i) % 2 = 0) := by
        unfold eulerCnt; omega
      rw [if_neg hc, if_neg h2]

theorem eulerA_length (n : Nat) : (eulerA n).length = n + 6 := by
  induction n with
  | zero => rfl
  | succ n ih => simp [eulerA, eulerUpd_length, ih]

theorem eulerA_succ (n : Nat) : eulerA (n + 1) = eulerRowF (n + 1) (eulerA n) ++ [0] := by
  rw [eulerRowF_eq (n + 1) (eulerA n) (by rw [eulerA_length])]
  rfl

/-! ## the summation loop in linear time -/

/-- every other element of `l`, `cnt` of them, added to `s` -/
def eulerSumAlt : Nat → List Int → Int → Int
  | 0, _, s => s
  | cnt+1, l, s =>
    match l with
    | [] => s
    | x :: t => forceInt (s + x) fun s' => eulerSumAlt cnt t.tail s'

def eulerSumF (n : Nat) (a : List Int) : Int :=
  eulerSumAlt (eulerCnt n) (a.reverse.drop (a.length - 3 - n)) 0

theorem eulerSumAlt_eq (cnt k : Nat) (a : List Int) (s : Int) (hk : k + 2 ≤ a.length) (hc : 2 * cnt ≤ k + 2) :
    eulerSumAlt cnt (a.reverse.drop (a.length - 2 - k)) s = eulerSumP cnt k a s := by
  induction cnt generalizing k s with
  | zero => rfl
  | succ cnt ih =>
    have hd : a.length - 2 - k < a.reverse.length := by rw [List.length_reverse]; omega
    rw [List.drop_eq_getElem_cons hd]
    simp only [eulerSumAlt, eulerSumP, forceInt_eq, List.tail_drop]
    have hx : a.reverse[a.length - 2 - k] = a.getD (k + 1) 0 := by
      rw [List.getElem_reverse]
      have e : a.length - 1 - (a.length - 2 - k) = k + 1 := by omega
      simp only [e]
      rw [List.getD_eq_getElem?_getD, List.getElem?_eq_getElem (by omega)]
      rfl
    rw [hx]
    by_cases h0 : cnt = 0
    · subst h0; rfl
    · have e2 : a.length - 2 - k + 1 + 1 = a.length - 2 - (k - 2) := by omega
      rw [e2]
      exact ih (k - 2) _ (by omega) (by omega)

theorem eulerSumF_eq (n : Nat) (a : List Int) (ha : n + 3 ≤ a.length) :
    eulerSumF n a = eulerSumP (eulerCnt n) (n + 1) a 0 := by
  have := eulerSumAlt_eq (eulerCnt n) (n + 1) a 0 (by omega) (by unfold eulerCnt; omega)
  rw [← this, eulerSumF]
  have e : a.length - 3 - n = a.length - 2 - (n + 1) := by omega
  rw [e]

/-! ## all sums `eulerS n, eulerS (n+2), …` in one pass over the rows, on a scaled array

The entries of `eulerA n` share a factor of about `2^n`, and the kernel hashes a numeral by its low word: from
`n ≈ 70` on all entries would collide in its caches and the evaluation be several times slower.  Sweep and sum are
linear, so the table carries `eulerA n` as `2^e • b` and divides `b` by four every two rounds when it can. -/

theorem eulerRowGo_smul (c : Int) (n : Nat) (l : List Int) (i : Nat) (prev : Int) :
    eulerRowGo n i (c * prev) (l.map (c * ·)) = (eulerRowGo n i prev l).map (c * ·) := by
  induction l generalizing i prev with
  | nil => rfl
  | cons x t ih =>
    simp only [List.map_cons, eulerRowGo, forceNat_eq, ih]
    congr 1
    have hh : (t.map (c * ·)).headD 0 = c * t.headD 0 := by cases t <;> simp
    rw [hh]
    split
    · ring
    · rfl

theorem eulerRowF_smul (c : Int) (n : Nat) (a : List Int) :
    eulerRowF n (a.map (c * ·)) = (eulerRowF n a).map (c * ·) := by
  have := eulerRowGo_smul c n a 0 0
  rwa [mul_zero] at this

theorem eulerSumAlt_smul (c : Int) (cnt : Nat) (l : List Int) (s : Int) :
    eulerSumAlt cnt (l.map (c * ·)) (c * s) = c * eulerSumAlt cnt l s := by
  induction cnt generalizing l s with
  | zero => rfl
  | succ cnt ih =>
    cases l with
    | nil => rfl
    | cons x t => simp only [List.map_cons, eulerSumAlt, forceInt_eq, ← mul_add, ← List.map_tail, ih]

theorem eulerSumF_smul (c : Int) (n : Nat) (a : List Int) :
    eulerSumF n (a.map (c * ·)) = c * eulerSumF n a := by
  rw [eulerSumF, eulerSumF, List.length_map, ← List.map_reverse, ← List.map_drop, ← eulerSumAlt_smul, mul_zero]

/-- `2^e • r` with the common factor four, if there is one, moved into the exponent -/
def eulerQuarter (e : Nat) (r : List Int) : Nat × List Int :=
  if r.all (fun x => x % 4 = 0) then (e + 2, r.map (· / 4)) else (e, r)

theorem eulerQuarter_smul (e : Nat) (r : List Int) :
    (eulerQuarter e r).2.map (2 ^ (eulerQuarter e r).1 * ·) = r.map (2 ^ e * ·) := by
  unfold eulerQuarter
  split
  · next h =>
    rw [List.map_map]
    apply List.map_congr_left
    intro x hx
    have : x % 4 = 0 := by simpa using List.all_eq_true.1 h x hx
    show 2 ^ (e + 2) * (x / 4) = 2 ^ e * x
    rw [pow_add, mul_assoc]
    congr 1
    omega
  · rfl

/-- two more rounds on the scaled array, the results forced -/
def eulerNext {α : Type} (n e : Nat) (b : List Int) (k : Nat → List Int → α) : α :=
  forceList (eulerRowF (n + 1) b ++ [0]) fun r1 => forceList (eulerRowF (n + 2) r1 ++ [0]) fun r =>
    if r.all (fun x => x % 4 = 0) then forceList (r.map (· / 4)) fun r' => forceNat (e + 2) fun e' => k e' r'
    else k e r

theorem eulerNext_eq {α : Type} (n e : Nat) (b : List Int) (k : Nat → List Int → α) :
    eulerNext n e b k = k (eulerQuarter e (eulerRowF (n + 2) (eulerRowF (n + 1) b ++ [0]) ++ [0])).1
      (eulerQuarter e (eulerRowF (n + 2) (eulerRowF (n + 1) b ++ [0]) ++ [0])).2 := by
  simp only [eulerNext, eulerQuarter, forceList_eq, forceNat_eq]
  split <;> rfl

theorem eulerA_succ_smul (n e : Nat) (b : List Int) (h : eulerA n = b.map (2 ^ e * ·)) :
    eulerA (n + 1) = (eulerRowF (n + 1) b ++ [0]).map (2 ^ e * ·) := by
  rw [eulerA_succ, h, eulerRowF_smul]
  simp

/-- `[eulerS n, eulerS (n+2), …]` (`c` entries), given `eulerA n = 2^e • b` -/
def eulerSTab : Nat → Nat → Nat → List Int → List Int
  | 0, _, _, _ => []
  | c+1, n, e, b => 2 ^ e * eulerSumF n b ::
      eulerNext n e b fun e2 b2 => forceNat (n+2) fun n2 => eulerSTab c n2 e2 b2

theorem eulerSTab_getD (c n e k : Nat) (b : List Int) (h : eulerA n = b.map (2 ^ e * ·)) (hk : k < c) :
    (eulerSTab c n e b).getD k 0 = eulerS (n + 2 * k) := by
  induction c generalizing n e b k with
  | zero => omega
  | succ c ih =>
    simp only [eulerSTab, eulerNext_eq, forceNat_eq]
    cases k with
    | zero =>
      rw [List.getD_cons_zero, ← eulerSumF_smul, ← h, eulerSumF_eq n _ (by rw [eulerA_length]; omega)]
      rfl
    | succ k =>
      rw [List.getD_cons_succ, ih (n + 2) _ k _ (by
        rw [eulerQuarter_smul]; exact eulerA_succ_smul _ _ _ (eulerA_succ_smul _ _ _ h)) (by omega)]
      congr 1
      omega

/-! ## the expected table -/

/-- binomial coefficient through factorials (fast under kernel evaluation) -/
def chooseF (n k : Nat) : Nat := Nat.factorial n / (Nat.factorial k * Nat.factorial (n - k))

/-- `secTable` for evaluation: the table so far forced once and walked in step with the index (`getD k` costs
`k` steps), binomial coefficients through `chooseF` -/
def secTableF : Nat → List Int
  | 0 => []
  | n+1 => forceList (secTableF n) fun t =>
    t ++ [if n = 0 then 1 else
      -(List.zipWith (fun k x => (chooseF (2 * n) (2 * k) : Int) * x) (List.range n) t).sum]

theorem secTable_eq_F (n : Nat) : secTable n = secTableF n := by
  induction n with
  | zero => rfl
  | succ n ih =>
    have hl : (secTableF n).length = n := by rw [← ih, secTable_length]
    simp only [secTable, secTableF, forceList_eq, ih]
    congr 5
    apply List.ext_getElem (by simp [hl])
    intro k hk _
    rw [List.length_map, List.length_range] at hk
    simp only [List.getElem_map, List.getElem_range, List.getElem_zipWith, List.getD_eq_getElem?_getD,
      List.getElem?_eq_getElem (hl ▸ hk), Option.getD_some]
    rw [chooseF, Nat.choose_eq_factorial_div_factorial (by omega)]

/-- the expected values `(-1)^j · 4^j · E_{2j}`, `j < N` -/
def eulerExpect (N : Nat) : List Int :=
  forceList (secTableF N) fun t =>
    (List.range N).map fun j => eulerSign (2 * j) * 2 ^ (2 * j) * t.getD j 0

theorem eulerExpect_getD (N j : Nat) (hj : j < N) :
    (eulerExpect N).getD j 0 = eulerSign (2 * j) * 2 ^ (2 * j) * (secTableF N).getD j 0 := by
  simp only [eulerExpect, forceList_eq]
  simp [List.getD_eq_getElem?_getD, hj]

theorem eulerSTab_check : eulerSTab 51 0 0 [0, 0, 1, 0, 0, 0] = eulerExpect 51 := by
  decide +kernel

/-- kernel evaluation: for `n = 2j ≤ 100` the final sum of round `n` is `(-1)^(n/2) · 2^n · E_n`
(in particular divisible by `2^n`). -/
theorem eulerS_small100 (j : Nat) (hj : j < 51) :
    eulerS (2 * j) = eulerSign (2 * j) * 2 ^ (2 * j) * eulerE (2 * j) := by
  have h1 := eulerSTab_getD 51 0 0 j [0, 0, 1, 0, 0, 0] (by simp [eulerA]) hj
  rw [Nat.zero_add] at h1
  rw [eulerE_two_mul, ← secTable_getD_stable (j + 1) 51 j (by omega) (by omega), secTable_eq_F,
    ← h1, ← eulerExpect_getD 51 j hj, ← eulerSTab_check]

theorem euler_values_small100 (j : Nat) (hj : j < 51) :
    eulerCacheVal (2 * j) = eulerE (2 * j) ∧ eulerRet (2 * j) = eulerE (2 * j) :=
  euler_values_of_eulerS (eulerS_small100 j hj)

/-- for even `m ≤ 60` (`m = 2j`, `j < 31`) both the stored and the returned value are the Euler number `E_m`. -/
theorem euler_values_small (j : Nat) (hj : j < 31) :
    eulerCacheVal (2 * j) = eulerE (2 * j) ∧ eulerRet (2 * j) = eulerE (2 * j) :=
  euler_values_small100 j (by omega)

example : eulerCacheVal 100 = eulerE 100 ∧ eulerRet 100 = eulerE 100 := euler_values_small100 50 (by decide)

end Mp

/-
  Props/C01.lean — C01: every real value has one canonical representation.
  Closure of the modelled core under canonicity (injectivity of the value on canonical tuples is `C05_val_inj`).
-/
import MpProofs.Div

namespace Mp

/-- a result meeting the rounding contract is canonical (and finite) -/
theorem C01_canon_of_roundOK {prec : ℤ} {rnd : Rnd} {x : ℚ} {r : Mpf} (h : RoundOK prec rnd x r) :
    Canonical r := by
  rcases h.1 with h | h
  · exact Or.inl h
  · exact Or.inr (Or.inr (Or.inr (Or.inr h)))

theorem C01_normalize {sign : Nat} (hs : sign ≤ 1) (man : Nat) (exp : Int) {prec : Int} (hp : 0 < prec)
    (rnd : Rnd) : Canonical (normalize sign man exp (bitcount man) prec rnd) :=
  C01_canon_of_roundOK (normalize_spec hs man exp hp rnd)

theorem C01_from_man_exp (Z e : ℤ) {prec : ℤ} (hp : 0 ≤ prec) (rnd : Rnd) :
    Canonical (from_man_exp Z e prec rnd) := C01_canon_of_roundOK (from_man_exp_spec Z e hp rnd)

theorem C01_add {s t : Mpf} (hs : CanonFin s) (ht : CanonFin t) {prec : ℤ} (hp : 0 ≤ prec) (rnd : Rnd)
    (sub : Bool) : Canonical (mpf_add s t prec rnd sub) := C01_canon_of_roundOK (mpf_add_spec hs ht hp rnd sub)

theorem C01_mul {s t : Mpf} (hs : CanonFin s) (ht : CanonFin t) {prec : ℤ} (hp : 0 ≤ prec) (rnd : Rnd) :
    Canonical (mpf_mul s t prec rnd) := C01_canon_of_roundOK (mpf_mul_spec hs ht hp rnd)

theorem C01_mul_int {s : Mpf} (hs : CanonFin s) (n : ℤ) {prec : ℤ} (hp : 0 < prec) (rnd : Rnd) :
    Canonical (mpf_mul_int s n prec rnd) := C01_canon_of_roundOK (mpf_mul_int_spec hs n hp rnd)

theorem C01_div {s t : Mpf} (hs : CanonFin s) (ht : CanonFin t) (ht0 : t ≠ fzero) {prec : ℤ} (hp : 0 < prec)
    (rnd : Rnd) : ∃ r, mpf_div s t prec rnd = .ok r ∧ Canonical r := by
  obtain ⟨r, h1, h2⟩ := mpf_div_spec hs ht ht0 hp rnd
  exact ⟨r, h1, C01_canon_of_roundOK h2⟩

theorem C01_neg_abs_pos {s : Mpf} (hs : CanonFin s) {prec : ℤ} (hp : 0 ≤ prec) (rnd : Rnd) :
    Canonical (mpf_neg s prec rnd) ∧ Canonical (mpf_abs s prec rnd) ∧ Canonical (mpf_pos s prec rnd) :=
  ⟨C01_canon_of_roundOK (mpf_neg_spec hs hp rnd), C01_canon_of_roundOK (mpf_abs_spec hs hp rnd),
   C01_canon_of_roundOK (mpf_pos_spec hs hp rnd)⟩

/-- the fast bit-count update of `python_mpf_mul` records the exact bit length -/
theorem C01_mul_bitcount {a b : ℕ} (ha : a ≠ 0) (hb : b ≠ 0) :
    (bitcount a : ℤ) + bitcount b - 1 + (((a * b) >>> ((bitcount a : ℤ) + bitcount b - 1).toNat : ℕ) : ℤ)
      = bitcount (a * b) := mul_bc_fast ha hb

end Mp

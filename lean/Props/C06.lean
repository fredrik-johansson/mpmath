/-
  Props/C06.lean — C06: integer-part functions and modulo follow their exact definitions.

  For every finite canonical real (mantissa of any length, any exponent), every precision and rounding mode:
  floor / ceil / nint give THE integer ⌊x⌋ / ⌈x⌉ / round-half-even(x), exact when `prec = 0` and otherwise correctly
  rounded to `prec` bits; `frac(x)` is the correctly rounded `x - ⌊x⌋ ∈ [0,1)`; `int()` truncates toward zero; `x % y` is the
  correctly rounded `x - y⌊x/y⌋`, which has the sign of `y`, magnitude below `|y|` and differs from `x` by an integer multiple
  of `y`; `x % 0` raises.  Complex floor/ceil/nint/frac act componentwise.
  The statements are about the model (MpModel/Core.lean, MpModel/Complex.lean), tied bit-for-bit to libmpf/libmpc by the
  correspondence run of the check.
-/
import MpProofs.IntPart
import MpModel.Complex

namespace Mp

/-- `floor`: the exact integer when `prec = 0`, otherwise its correct rounding to `prec` bits -/
theorem C06_floor {s : Mpf} (hs : CanonFin s) {prec : Int} (hp : 0 ≤ prec) (rnd : Rnd) :
    ∃ r, mpf_floor s prec rnd = .ok r ∧ RoundOK prec rnd ((⌊val s⌋ : ℤ) : ℚ) r := mpf_floor_spec hs hp rnd

theorem C06_ceil {s : Mpf} (hs : CanonFin s) {prec : Int} (hp : 0 ≤ prec) (rnd : Rnd) :
    ∃ r, mpf_ceil s prec rnd = .ok r ∧ RoundOK prec rnd ((⌈val s⌉ : ℤ) : ℚ) r := mpf_ceil_spec hs hp rnd

/-- `nint`: the nearest integer, ties to the even integer (`IsNint`) -/
theorem C06_nint {s : Mpf} (hs : CanonFin s) {prec : Int} (hp : 0 ≤ prec) (rnd : Rnd) :
    ∃ (r : Mpf) (n : ℤ), mpf_nint s prec rnd = .ok r ∧
      (|val s - (n : ℚ)| ≤ 1 / 2 ∧ (|val s - (n : ℚ)| = 1 / 2 → n % 2 = 0)) ∧
      RoundOK prec rnd (n : ℚ) r := mpf_nint_spec hs hp rnd

/-- the nearest-even integer is unique -/
theorem C06_nint_unique {x : ℚ} {n m : ℤ} (hn : IsNint x n) (hm : IsNint x m) : n = m := hn.unique hm

/-- `frac(x) = x - ⌊x⌋`, rounded once; the exact value lies in `[0, 1)` -/
theorem C06_frac {s : Mpf} (hs : CanonFin s) {prec : Int} (hp : 0 ≤ prec) (rnd : Rnd) :
    ∃ r, mpf_frac s prec rnd = .ok r ∧ RoundOK prec rnd (val s - ((⌊val s⌋ : ℤ) : ℚ)) r ∧
      0 ≤ val s - ((⌊val s⌋ : ℤ) : ℚ) ∧ val s - ((⌊val s⌋ : ℤ) : ℚ) < 1 := by
  obtain ⟨r, hr, hok⟩ := mpf_frac_spec hs hp rnd
  exact ⟨r, hr, hok, (frac_range (val s)).1, (frac_range (val s)).2⟩

/-- `int(x)` truncates toward zero -/
theorem C06_to_int {s : Mpf} (hs : CanonFin s) :
    to_int s none = .ok (if 0 ≤ val s then ⌊val s⌋ else ⌈val s⌉) := to_int_spec hs

/-- `x % y` for every nonzero divisor: the correctly rounded value of `x - y⌊x/y⌋` -/
theorem C06_mod {s t : Mpf} (hs : CanonFin s) (ht : CanonFin t) (ht0 : t ≠ fzero) {prec : Int} (hp : 0 < prec)
    (rnd : Rnd) :
    ∃ r, mpf_mod s t prec rnd = .ok r ∧ RoundOK prec rnd (val s - val t * ((⌊val s / val t⌋ : ℤ) : ℚ)) r :=
  mpf_mod_spec hs ht ht0 hp rnd

/-- the exact remainder has the sign of the divisor, magnitude below `|y|`, and differs from `x` by an integer
multiple of `y` -/
theorem C06_mod_exact_properties (x : ℚ) {y : ℚ} (hy : y ≠ 0) :
    (0 < y → 0 ≤ modQ x y ∧ modQ x y < y) ∧ (y < 0 → y < modQ x y ∧ modQ x y ≤ 0) ∧
    |modQ x y| < |y| ∧ ∃ k : ℤ, x - modQ x y = (k : ℚ) * y := by
  unfold modQ
  have h1 := Int.floor_le (x / y)
  have h2 := Int.lt_floor_add_one (x / y)
  generalize (⌊x / y⌋ : ℤ) = q at *
  have hpos : 0 < y → 0 ≤ x - y * q ∧ x - y * q < y := by
    intro hy0
    rw [le_div_iff₀ hy0] at h1
    rw [div_lt_iff₀ hy0] at h2
    constructor <;> nlinarith
  have hneg : y < 0 → y < x - y * q ∧ x - y * q ≤ 0 := by
    intro hy0
    rw [le_div_iff_of_neg hy0] at h1
    rw [div_lt_iff_of_neg hy0] at h2
    constructor <;> nlinarith
  refine ⟨hpos, hneg, ?_, q, by ring⟩
  rcases lt_or_gt_of_ne hy with h | h
  · obtain ⟨a, b⟩ := hneg h
    rw [abs_of_nonpos b, abs_of_neg h]; linarith
  · obtain ⟨a, b⟩ := hpos h
    rw [abs_of_nonneg a, abs_of_pos h]; exact b

/-- `x % 0` raises ZeroDivisionError for every finite `x` (after the repair of the `0 < x < 1` shortcut) -/
theorem C06_mod_zero {s : Mpf} (hs : CanonFin s) (prec : Int) (rnd : Rnd) :
    mpf_mod s fzero prec rnd = .error .zeroDiv := by
  unfold mpf_mod
  have h0 : isSpecial fzero = false := rfl
  have h1 : fzero.man = 0 := rfl
  simp only [hs.finite, h0, h1, Bool.false_eq_true, or_self, if_false, if_true]

/-- complex floor / ceil / nint / frac are the real functions applied to each component -/
theorem C06_complex_componentwise (z : Mpc) (prec : Int) (rnd : Rnd) :
    mpc_floor z prec rnd = (do let a ← mpf_floor z.1 prec rnd; let b ← mpf_floor z.2 prec rnd; pure (a, b)) ∧
    mpc_ceil z prec rnd = (do let a ← mpf_ceil z.1 prec rnd; let b ← mpf_ceil z.2 prec rnd; pure (a, b)) ∧
    mpc_nint z prec rnd = (do let a ← mpf_nint z.1 prec rnd; let b ← mpf_nint z.2 prec rnd; pure (a, b)) ∧
    mpc_frac z prec rnd = (do let a ← mpf_frac z.1 prec rnd; let b ← mpf_frac z.2 prec rnd; pure (a, b)) :=
  ⟨rfl, rfl, rfl, rfl⟩

/-! non-vacuity: concrete values, including ties, |x| < 1 and operands longer than the precision -/
example : mpf_floor ⟨1, 5, -1, 3⟩ 0 .d = .ok ⟨1, 3, 0, 2⟩ := by decide          -- floor(-2.5) = -3
example : mpf_nint ⟨0, 5, -1, 3⟩ 0 .d = .ok ⟨0, 1, 1, 1⟩ := by decide            -- nint(2.5) = 2 (tie to even)
example : mpf_nint ⟨0, 7, -1, 3⟩ 0 .d = .ok ⟨0, 1, 2, 1⟩ := by decide            -- nint(3.5) = 4
example : mpf_nint ⟨1, 1, -1, 1⟩ 0 .d = .ok fzero := by decide                    -- nint(-0.5) = 0
example : mpf_ceil ⟨0, 1, -70, 1⟩ 0 .d = .ok fone := by decide                    -- ceil(2^-70) = 1
example : to_int ⟨1, 7, -1, 3⟩ none = .ok (-3) := by decide                       -- int(-3.5) = -3
example : mpf_mod ⟨0, 5, 0, 3⟩ ⟨1, 3, 0, 2⟩ 53 .n = .ok ⟨1, 1, 0, 1⟩ := by decide -- 5 % -3 = -1

end Mp

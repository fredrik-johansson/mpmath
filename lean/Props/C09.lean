/-
  Props/C09.lean — conversion to and from machine floats.
  Model: MpModel/Helpers.lean (`Dbl` = binary64 bit pattern split in sign / biased exponent / fraction,
  `from_float`, `to_float`, `mpc_to_complex`; C `ldexp` and CPython's int→float are modelled by `roundToDouble`,
  the correctly rounded conversion, validated against CPython by the harness incl. the subnormal range).
  `doubleVal d = (-1)^sign · sig · 2^qexp` is the rational value of a finite pattern
  (`sig = frac, qexp = -1074` for subnormals, `sig = 2^52 + frac, qexp = ex - 1075` otherwise).
-/
import MpProofs.HelpersFloat

namespace Mp
open H

/-- `from_float` is exact: for EVERY finite bit pattern (normal, subnormal, ±0), every `prec ≥ 53` and every
rounding mode the resulting mpf has exactly the value of the double. -/
theorem from_float_exact (d : Dbl) (hwf : d.WF) (hfin : d.ex < 2047) (prec : Int) (rnd : Rnd) (hp : 53 ≤ prec) :
    val (from_float d prec rnd) = doubleVal d := by
  unfold doubleVal
  by_cases hs : d.sig = 0
  · rw [from_float_zero d hfin hs prec rnd hp, hs, val_fzero]; simp
  · rw [from_float_shape d hwf hfin hs prec rnd hp, val_stripTrailing, mul_assoc, mul_assoc,
      show d.qexp + (bitcount d.sig : ℤ) - 53 = (bitcount d.sig : ℤ) - 53 + d.qexp by ring,
      norm53_val (bitcount_le_of_lt (Dbl.sig_lt d hwf))]

example : (Dbl.ofBits 0x0000000000000001).WF ∧ (Dbl.ofBits 0x0000000000000001).ex < 2047 ∧
    from_float (Dbl.ofBits 0x0000000000000001) = ⟨0, 1, -1074, 1⟩ ∧
    from_float (Dbl.ofBits 0xC004000000000000) = ⟨1, 5, -1, 3⟩ := by decide +kernel   -- 5e-324 and -2.5

/-- the non-finite patterns: +inf, -inf, and every nan payload; ±0 both give the (unsigned) mpf zero. -/
theorem from_float_specials (sign frac : Nat) (prec : Int) (rnd : Rnd) :
    from_float ⟨0, 2047, 0⟩ prec rnd = finf ∧ from_float ⟨1, 2047, 0⟩ prec rnd = fninf ∧
    (frac ≠ 0 → from_float ⟨sign, 2047, frac⟩ prec rnd = fnan) ∧
    (53 ≤ prec → from_float ⟨sign, 0, 0⟩ prec rnd = fzero) := by
  refine ⟨by simp [from_float, Dbl.isNan, Dbl.isInf], by simp [from_float, Dbl.isNan, Dbl.isInf], ?_, ?_⟩
  · intro h; simp [from_float, Dbl.isNan, h]
  · intro hp; exact from_float_zero _ (by simp) (by simp [Dbl.sig]) prec rnd hp

/-- `to_float ∘ from_float` is the identity on bit patterns: for every finite nonzero double (subnormals
included), every `prec ≥ 53`, every pair of rounding modes and both `strict` settings. -/
theorem to_float_from_float (d : Dbl) (hwf : d.WF) (hfin : d.ex < 2047) (hnz : d.sig ≠ 0)
    (prec : Int) (rnd rnd' : Rnd) (hp : 53 ≤ prec) (strict : Bool) :
    to_float (from_float d prec rnd) strict rnd' = .ok d := by
  have hk : bitcount d.sig ≤ 53 := bitcount_le_of_lt (Dbl.sig_lt d hwf)
  obtain ⟨hlo, hhi, _⟩ := norm53_bounds hnz hk
  rw [from_float_shape d hwf hfin hnz prec rnd hp,
    show d.qexp + (bitcount d.sig : ℤ) - 53 = (bitcount d.sig : ℤ) - 53 + d.qexp by ring]
  have hmag := stripTrailing_mag d.sign (d.sig * 2 ^ (53 - bitcount d.sig)) ((bitcount d.sig : ℤ) - 53 + d.qexp) 53
  rw [norm53_val hk] at hmag
  generalize d.sig * 2 ^ (53 - bitcount d.sig) = m at *
  -- the stripped mantissa is `m >>> trailing m ≤ m < 2^53`, the bit count 53 minus the stripped zeros
  have hle : m >>> trailing m ≤ m := by rw [Nat.shiftRight_eq_div_pow]; exact Nat.div_le_self _ _
  apply to_float_exact _ d (shiftRight_trailing_ne_zero (by omega)) hwf.1 _
    (bitcount_le_of_lt (by show m >>> trailing m < 2 ^ 53; omega)) hwf hfin rfl hmag
  show (if m >>> trailing m = 1 then (1 : ℤ) else 53 - (trailing m : ℤ)) ≤ 53
  split <;> omega

example : (Dbl.ofBits 0x800FFFFFFFFFFFFF).WF ∧ (Dbl.ofBits 0x800FFFFFFFFFFFFF).sig ≠ 0 := by decide

/-- zeros and the non-finite patterns: `+0.0 ↦ +0.0`, `±inf ↦ ±inf`, nan ↦ a nan. -/
theorem to_float_from_float_specials (prec : Int) (rnd rnd' : Rnd) (hp : 53 ≤ prec) (strict : Bool) (sign frac : Nat)
    (hfrac : frac ≠ 0) :
    to_float (from_float ⟨0, 0, 0⟩ prec rnd) strict rnd' = .ok ⟨0, 0, 0⟩ ∧
    to_float (from_float ⟨0, 2047, 0⟩ prec rnd) strict rnd' = .ok ⟨0, 2047, 0⟩ ∧
    to_float (from_float ⟨1, 2047, 0⟩ prec rnd) strict rnd' = .ok ⟨1, 2047, 0⟩ ∧
    (∃ n, to_float (from_float ⟨sign, 2047, frac⟩ prec rnd) strict rnd' = .ok n ∧ n.isNan = true) := by
  obtain ⟨h1, h2, h3, h4⟩ := from_float_specials sign frac prec rnd
  rw [h1, h2, h3 hfrac, (from_float_specials 0 0 prec rnd).2.2.2 hp]
  exact ⟨by simp [to_float, fzero, Dbl.zero], by simp [to_float, finf, fzero, Dbl.inf],
    by simp [to_float, fninf, finf, fzero, Dbl.inf], ⟨Dbl.nan, by simp [to_float, fnan, finf, fninf, fzero], by decide⟩⟩

/-- The sign of zero is NOT preserved (an mpf has no signed zero): `-0.0 ↦ fzero ↦ +0.0`.
So "to_float (from_float d) = d" is false of the code for the single pattern `0x8000000000000000`;
the values are equal. -/
theorem to_float_from_float_counterexample :
    to_float (from_float ⟨1, 0, 0⟩) = .ok ⟨0, 0, 0⟩ ∧ (⟨0, 0, 0⟩ : Dbl) ≠ ⟨1, 0, 0⟩ := by decide +kernel

/-- `float(x)` in the normal range.  Full statement (what C09 asks): for every canonical x with `2^-1022 ≤ |x|`,
`to_float x` under rounding mode n is the binary64 nearest to x, ties to even, and ±inf when that rounds to
`≥ 2^1024`.  Proved here modulo ONE named hypothesis, `normalize1_correct`: that `_normalize1 … 53 'n'`
returns the correctly rounded 53-bit value (`RoundOK`; discharged in Props/C09Full.lean by `normalize1_spec`); it is
only used when `x` has more than 53 bits.  Conclusion: with `r` the 53-bit round-to-nearest-even of `x`
(`IsRoundN 53 (val x) (val r)`):
* if `|r| < 2^1024` the result is a NORMAL double `d` (`1 ≤ ex ≤ 2046`) with `doubleVal d = val r` exactly,
  the same with `strict=True`;
* if `|r| ≥ 2^1024` the result is `±inf` with the sign of `x`, and `OverflowError` with `strict=True`. -/
theorem to_float_nearest_partial (x : Mpf) (hx : CanonFin x) (hm : x.man ≠ 0)
    (hlow : (2:ℚ) ^ (-1022 : ℤ) ≤ |val x|)
    (normalize1_correct : x.bc > 53 → RoundOK 53 .n (val x) (normalize1 x.sign x.man x.exp x.bc 53 .n)) :
    ∃ r : Mpf, IsRoundN 53 (val x) (val r) ∧
      (|val r| < (2:ℚ) ^ (1024 : ℤ) →
        ∃ d : Dbl, to_float x false .n = .ok d ∧ to_float x true .n = .ok d ∧ d.WF ∧ 1 ≤ d.ex ∧ d.ex ≤ 2046 ∧
          doubleVal d = val r) ∧
      ((2:ℚ) ^ (1024 : ℤ) ≤ |val r| →
        to_float x false .n = .ok (Dbl.inf x.sign) ∧ to_float x true .n = .error .overflow) := by
  have hxc : x.sign ≤ 1 ∧ x.man % 2 = 1 ∧ x.bc = (bitcount x.man : Int) :=
    hx.resolve_left (fun h => hm (h ▸ rfl))
  set r := if x.bc > 53 then normalize1 x.sign x.man x.exp x.bc 53 .n else x with hr
  obtain ⟨hN, hrsign, hrbc, hrcf⟩ : IsRoundN 53 (val x) (val r) ∧ r.sign = x.sign ∧ r.bc ≤ 53 ∧ CanonFin r := by
    rw [hr]
    split
    · obtain ⟨hcf, _, h3⟩ := normalize1_correct ‹_›
      exact ⟨(h3 (by norm_num)).1, normalize1_sign _ _ _ _ _ _ hm, (h3 (by norm_num)).2, hcf⟩
    · exact ⟨isRoundN_self (repb_val x (by omega)), rfl, by omega, Or.inr hxc⟩
  have hrlow := isRoundN_abs_lower 53 (by norm_num) _ _ _ hN hlow
  have hrc : r.sign ≤ 1 ∧ r.man % 2 = 1 ∧ r.bc = (bitcount r.man : Int) := by
    refine hrcf.resolve_left (fun h => ?_)
    rw [h, val_fzero, abs_zero] at hrlow
    exact absurd hrlow (not_le.mpr (zpow_pos (by norm_num) _))
  have hrm : r.man ≠ 0 := by omega
  have heq : ∀ strict, to_float x strict .n = to_float r strict .n :=
    fun strict => to_float_eq_of_round x r strict .n hm hr hrm hrbc
  refine ⟨r, hN, fun hhigh => ?_, fun hhigh => ?_⟩
  · obtain ⟨d, h1, h2, h3, h4, _, h6⟩ :=
      to_float_normal_range r hrm hrc.1 hrc.2.2 hrbc hrlow hhigh
    exact ⟨d, by rw [heq]; exact h1 false .n, by rw [heq]; exact h1 true .n, h2, h3, h4, h6⟩
  · obtain ⟨h1, h2⟩ := to_float_overflow r hrm hrc.1 hrc.2.2 hrbc hhigh .n
    exact ⟨by rw [heq, h1, hrsign], by rw [heq, h2]⟩

/-- non-vacuity and the thresholds, by evaluation: the largest double is exact, half an ulp above it (a tie,
the even neighbour is 2^1024) overflows to inf, just below the tie rounds down to the largest double;
a 54-bit tie goes to even. -/
example :
    to_float ⟨0, 2^53 - 1, 971, 53⟩ false .n = .ok (Dbl.ofBits 0x7FEFFFFFFFFFFFFF) ∧
    to_float ⟨0, 2^54 - 1, 970, 54⟩ false .n = .ok (Dbl.inf 0) ∧
    to_float ⟨1, 2^54 - 1, 970, 54⟩ true .n = .error .overflow ∧
    to_float ⟨0, 2^55 - 3, 969, 55⟩ false .n = .ok (Dbl.ofBits 0x7FEFFFFFFFFFFFFF) ∧
    to_float ⟨0, 2^53 + 1, 0, 54⟩ false .n = .ok (Dbl.ofBits 0x4340000000000000) ∧
    to_float ⟨0, 2^53 + 3, 0, 54⟩ false .n = .ok (Dbl.ofBits 0x4340000000000002) := by decide +kernel

/-- Below the normal range the property text makes no claim; the code rounds TWICE there (to 53 bits, then
`ldexp` to the subnormal grid), so the result is not always the nearest double: `x = 2^-1074·(1/2 + 2^-54)`
is above the midpoint between 0 and the least subnormal, yet `float(x) = 0.0`.  (Recorded, outside C09.) -/
theorem to_float_subnormal_double_rounding :
    to_float ⟨0, 2^53 + 1, -1128, 54⟩ false .n = .ok (Dbl.zero 0) ∧
    roundToDouble 0 (2^53 + 1) (-1128) = some ⟨0, 0, 1⟩ := by decide +kernel

/-- `complex(z)` converts the two parts independently with `to_float`. -/
theorem mpc_to_complex_spec (re im : Mpf) (strict : Bool) (rnd : Rnd) (a b : Dbl)
    (ha : to_float re strict rnd = .ok a) (hb : to_float im strict rnd = .ok b) :
    mpc_to_complex re im strict rnd = .ok (a, b) := by
  simp [mpc_to_complex, ha, hb, bind, Except.bind, pure, Except.pure]

end Mp

/-
  MpProofs/IntervalDiv.lean — containment for mpi_div when the denominator interval does not contain zero.
-/
import MpProofs.IntervalMore
import MpProofs.Div

namespace Mp

/-- a quotient rounded down and a quotient rounded up enclose whatever lies between the exact quotients; the nan
replacements of `mpi_div` never fire on finite operands -/
theorem div_pair_sound {p q u v : Mpf} (hp' : CanonFin p) (hq : CanonFin q) (hq0 : 0 < val q) (hu : CanonFin u)
    (hv : CanonFin v) (hv0 : 0 < val v) {prec : ℤ} (hp : 0 < prec) {z : ℚ}
    (hlo : val p * (val q)⁻¹ ≤ z) (hhi : z ≤ val u * (val v)⁻¹) (d1 d2 : Mpf) :
    ∃ r, (do let a ← mpf_div p q prec .f
             let b ← mpf_div u v prec .c
             pure (if a = fnan then d1 else a, if b = fnan then d2 else b) : Except Err Mpi) = .ok r ∧
      FinIv r ∧ MemIv z r := by
  obtain ⟨a, ea, ha⟩ := mpf_div_spec hp' hq (ne_fzero_of_val_ne_zero hq0.ne') hp .f
  obtain ⟨b, eb, hb⟩ := mpf_div_spec hu hv (ne_fzero_of_val_ne_zero hv0.ne') hp .c
  rw [div_eq_mul_inv] at ha hb
  refine ⟨(a, b), ?_, encl_of_round hp.le ha hb hlo hhi⟩
  rw [ea, eb]
  show Except.ok (if a = fnan then d1 else a, if b = fnan then d2 else b) = _
  rw [if_neg (roundOK_ne_nan ha), if_neg (roundOK_ne_nan hb)]

/-- division by a strictly positive interval: `x / y = x * y⁻¹` with `y⁻¹ ∈ [d⁻¹, c⁻¹]`, a positive interval -/
theorem mpi_div_pos_sound {s t : Mpi} (hs : FinIv s) (ht : FinIv t) (htpos : 0 < val t.1) {prec : ℤ}
    (hp : 0 < prec) {x y : ℚ} (hx : MemIv x s) (hy : MemIv y t) :
    ∃ r, mpi_div s t prec = .ok r ∧ FinIv r ∧ MemIv (x / y) r := by
  have hta1 := sign_of_val_pos ht.1 htpos
  have htb1 := sign_of_val_pos ht.2.1 (htpos.trans_le ht.2.2)
  by_cases hs0 : mpf_sign s.1 = mpf_sign s.2 ∧ mpf_sign s.2 = 0
  · refine ⟨(fzero, fzero), ?_, ?_⟩
    · rw [mpi_div_zero_num s t prec hs0, hta1, htb1]; rfl
    · rw [eq_zero_of_sign_zero hs hs0 hx, zero_div]; exact zero_encl
  obtain ⟨hsa, hsb, hsab⟩ := hs
  obtain ⟨hta, htb, htab⟩ := ht
  obtain ⟨hx1, hx2⟩ := hx
  obtain ⟨hy1, hy2⟩ := hy
  have htbpos : 0 < val t.2 := htpos.trans_le htab
  have hypos : 0 < y := htpos.trans_le hy1
  have hi1 : (val t.2)⁻¹ ≤ y⁻¹ := inv_anti₀ hypos hy2
  have hi2 : y⁻¹ ≤ (val t.1)⁻¹ := inv_anti₀ htpos hy1
  have hc : 0 ≤ (val t.2)⁻¹ := inv_nonneg.2 htbpos.le
  have hd : 0 ≤ (val t.1)⁻¹ := inv_nonneg.2 htpos.le
  rw [mpi_div, div_eq_mul_inv]
  rw [if_neg hs0, hta1, htb1, dif_neg (by decide), dif_neg (by decide), if_neg (by decide)]
  rcases sign_cases_iv hsa hsb with ⟨s1, ha⟩ | ⟨s1, s2, hb⟩ | ⟨s1, s2, ha, hb⟩
  · have B := mul_bounds_nonneg (ha.trans hx1) hx1 hx2 hi1 hi2
    rw [if_pos s1]
    exact div_pair_sound hsa htb htbpos hsb hta htpos hp (B.1.1 hc) (B.2.1 hd) _ _
  · have B := mul_bounds_nonpos (hx2.trans hb) hx1 hx2 hi1 hi2
    rw [if_neg s1, if_pos s2]
    exact div_pair_sound hsa hta htpos hsb htb htbpos hp (B.1.1 hd) (B.2.1 hc) _ _
  · -- numerator of both signs: the roles of the factors are exchanged, `0 ≤ y⁻¹` and `x ∈ [a, b] ∋ 0`
    have B := mul_bounds_nonneg (hc.trans hi1) hi1 hi2 hx1 hx2
    rw [if_neg s1, if_neg s2]
    exact div_pair_sound hsa hta htpos hsb hta htpos hp
      ((mul_comm _ _).trans_le ((B.1.2 ha).trans_eq (mul_comm _ _)))
      ((mul_comm _ _).trans_le ((B.2.1 hb).trans_eq (mul_comm _ _))) _ _

/-- division by a strictly negative interval: both operands are negated exactly, then the positive case applies -/
theorem mpi_div_neg_sound {s t : Mpi} (hs : FinIv s) (ht : FinIv t) (htneg : val t.2 < 0) {prec : ℤ}
    (hp : 0 < prec) {x y : ℚ} (hx : MemIv x s) (hy : MemIv y t) :
    ∃ r, mpi_div s t prec = .ok r ∧ FinIv r ∧ MemIv (x / y) r := by
  have hta := sign_of_val_neg ht.1 (ht.2.2.trans_lt htneg)
  have htb := sign_of_val_neg ht.2.1 htneg
  by_cases hs0 : mpf_sign s.1 = mpf_sign s.2 ∧ mpf_sign s.2 = 0
  · refine ⟨(fzero, fzero), ?_, ?_⟩
    · rw [mpi_div_zero_num s t prec hs0, hta, htb]; rfl
    · rw [eq_zero_of_sign_zero hs hs0 hx, zero_div]; exact zero_encl
  obtain ⟨hs', hxs⟩ := mpi_neg_sound hs (le_refl 0) hx
  obtain ⟨ht', hyt⟩ := mpi_neg_sound ht (le_refl 0) hy
  have hval : val (mpi_neg t 0).1 = -val t.2 := (mpf_neg_spec ht.2.1 (le_refl 0) .f).exact
  have hpos : 0 < val (mpi_neg t 0).1 := by rw [hval]; exact neg_pos.2 htneg
  obtain ⟨r, hr, hfin, hmem⟩ := mpi_div_pos_sound hs' ht' hpos hp hxs hyt
  rw [neg_div_neg_eq] at hmem
  rw [mpi_div_neg_den s t prec hs0 (by rw [hta]; decide) (by rw [htb]; decide)]
  exact ⟨r, hr, hfin, hmem⟩

end Mp

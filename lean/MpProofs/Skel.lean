/-
  MpProofs/Skel.lean — soundness of the syntactic check `okG`/`bracketed` of MpModel/Skel.lean
  with respect to the schedule semantics `exec`.  Core Lean only (no Mathlib needed).
-/
import MpModel.Skel

namespace Mp.Skel

/-! ### generic facts -/

theorem iter_preserve (Q : Cfg → Prop) (f : Cfg → Out × Cfg) (hf : ∀ c, Q c → Q (f c).2) :
    ∀ k c, Q c → Q (iter f k c).2 := by
  intro k
  induction k with
  | zero => intro c h; simpa [iter] using h
  | succ k ih =>
    intro c h
    have h1 := hf c h
    unfold iter
    dsimp only
    split
    · exact ih _ h1
    · exact ih _ h1
    · exact h1
    · exact h1

theorem mem_diff {S K : List Var} {v : Var} : v ∈ diff S K ↔ v ∈ S ∧ v ∉ K := by
  simp [diff]

theorem mem_inter {S T : List Var} {v : Var} : v ∈ inter S T ↔ v ∈ S ∧ v ∈ T := by
  simp [inter]

/-! ### what a statement leaves alone -/

/-- `exec s` changes the local variables only at the variables `s` assigns and the observations only by
`yield`: a quantity `g env obs` that is blind to both is kept. -/
theorem exec_frame {α : Type} (g : (Var → Int) → List St → α) : ∀ (s : Stmt),
    (∀ w ∈ kills s, ∀ env x obs, g (upd env w x) obs = g env obs) →
    (hasYield s = true → ∀ env σ obs, g env (σ :: obs) = g env obs) →
    ∀ c, g (exec s c).2.env (exec s c).2.obs = g c.env c.obs := by
  intro s
  induction s with
  | skip | call | callLeaky | ret | raise | brk | cont => intro _ _ c; rfl
  | yld => intro _ ho c; exact ho rfl _ _ _
  | save w f => intro he _ c; cases f <;> exact he w (by simp [kills]) _ _ _
  | assign w => intro he _ c; exact he w (by simp [kills]) _ _ _
  | setPrec s => intro _ _ c; cases s <;> rfl
  | setDps s => intro _ _ c; cases s <;> rfl
  | seq a b iha ihb =>
    intro he ho c
    simp only [kills, List.mem_append, or_imp, forall_and] at he
    simp only [hasYield, Bool.or_eq_true, or_imp] at ho
    simp only [exec]
    split
    · rw [ihb he.2 ho.2, iha he.1 ho.1]
    · exact iha he.1 ho.1 c
  | ite a b iha ihb =>
    intro he ho c
    simp only [kills, List.mem_append, or_imp, forall_and] at he
    simp only [hasYield, Bool.or_eq_true, or_imp] at ho
    simp only [exec]
    split
    · exact iha he.1 ho.1 c.pop
    · exact ihb he.2 ho.2 c.pop
  | loop b ih =>
    intro he ho c
    exact iter_preserve (fun c' => g c'.env c'.obs = g c.env c.obs) (exec b)
      (fun c' hc' => by rw [ih he ho]; exact hc') c.peek.toNat c.pop rfl
  | tryFinally b f ihb ihf =>
    intro he ho c
    simp only [kills, List.mem_append, or_imp, forall_and] at he
    simp only [hasYield, Bool.or_eq_true, or_imp] at ho
    simp only [exec]
    rw [ihf he.2 ho.2, ihb he.1 ho.1]
  | tryExcept b hd ihb ihh =>
    intro he ho c
    simp only [kills, List.mem_append, or_imp, forall_and] at he
    simp only [hasYield, Bool.or_eq_true, or_imp] at ho
    simp only [exec]
    split
    · split
      · rw [ihh he.2 ho.2]; exact ihb he.1 ho.1 c
      · exact ihb he.1 ho.1 c
    · exact ihb he.1 ho.1 c
  | withMgr m f b ih =>
    intro he ho c
    simp only [kills, List.mem_cons, or_imp, forall_and, forall_eq] at he
    simp only [exec]
    split
    · exact he.1 _ _ _
    · simp only []
      rw [ih he.2 ho]
      exact he.1 _ _ _

theorem env_noKill (s : Stmt) (c : Cfg) (v : Var) (h : v ∉ kills s) : (exec s c).2.env v = c.env v :=
  exec_frame (fun env _ => env v) s
    (fun w hw env x _ => by simp only [upd]; rw [if_neg]; rintro rfl; exact h hw) (fun _ _ _ _ => rfl) c

theorem obs_noYield (s : Stmt) (c : Cfg) (h : hasYield s = false) : (exec s c).2.obs = c.obs :=
  exec_frame (fun _ obs => obs) s (fun _ _ _ _ _ => rfl) (fun hy => by rw [h] at hy; cases hy) c
/-! ### effect-free skeletons pass the check (the functions the translator does not emit) -/

theorem effectFree_ok : ∀ (s : Stmt) (S : List Var), effectFree s = true → okG false S s = true := by
  intro s
  induction s with
  | seq a b iha ihb =>
    intro S h; simp only [effectFree, Bool.and_eq_true] at h
    simp only [okG, Bool.and_eq_true]; exact ⟨iha _ h.1, ihb _ h.2⟩
  | ite a b iha ihb =>
    intro S h; simp only [effectFree, Bool.and_eq_true] at h
    simp only [okG, Bool.and_eq_true]; exact ⟨iha _ h.1, ihb _ h.2⟩
  | tryFinally a b iha ihb =>
    intro S h; simp only [effectFree, Bool.and_eq_true] at h
    simp only [okG, Bool.or_eq_true, Bool.and_eq_true]; exact Or.inl ⟨iha _ h.1, ihb _ h.2⟩
  | tryExcept a b iha ihb =>
    intro S h; simp only [effectFree, Bool.and_eq_true] at h
    simp only [okG, Bool.and_eq_true]; exact ⟨iha _ h.1, ihb _ h.2⟩
  | loop b ih => intro S h; simp only [effectFree] at h; simp only [okG]; exact ih _ h
  | setPrec _ | setDps _ | callLeaky | withMgr _ _ _ _ => intro S h; simp [effectFree] at h
  | _ => intro S _; simp [okG]

/-! ### soundness of `okG` -/

/-- The invariant carried through a bracketed skeleton: `prec` is the entry precision `P`,
    `dps` is the entry `D` or what the `prec` setter recomputes from `P`. -/
def Inv (P D : Int) (s : St) : Prop := s.prec = P ∧ (s.dps = D ∨ s.dps = precToDps P)

theorem inv_restore (P D : Int) (hP : 1 ≤ P) (σ : St) : Inv P D (σ.setPrec P) := by
  refine ⟨?_, Or.inr rfl⟩
  show max 1 P = P
  omega

theorem env_diff (P : Int) (s : Stmt) (S : List Var) (c : Cfg) (h : ∀ v ∈ S, c.env v = P) :
    ∀ v ∈ diff S (kills s), (exec s c).2.env v = P := by
  intro v hv
  rw [mem_diff] at hv
  rw [env_noKill s c v hv.2]
  exact h v hv.1

theorem okG_sound (P D : Int) (hP : 1 ≤ P) : ∀ (s : Stmt) (dirty : Bool) (S : List Var) (c : Cfg),
    okG dirty S s = true → (∀ v ∈ S, c.env v = P) → (dirty = false → Inv P D c.st) →
    (∀ x ∈ c.obs, Inv P D x) →
    Inv P D (exec s c).2.st ∧ (∀ x ∈ (exec s c).2.obs, Inv P D x) ∧
      ((exec s c).1 = .normal → ∀ v ∈ after S s, (exec s c).2.env v = P) := by
  intro s
  induction s with
  | skip | ret | raise | brk | cont | call =>
    intro dirty S c hok henv hst hobs
    cases dirty
    · exact ⟨hst rfl, hobs, fun _ => henv⟩
    · simp [okG] at hok
  | callLeaky | setDps _ =>
    intro dirty S c hok; cases dirty <;> simp [okG] at hok
  | yld =>
    intro dirty S c hok henv hst hobs
    cases dirty
    · refine ⟨hst rfl, ?_, fun _ => henv⟩
      intro x hx
      simp only [exec, List.mem_cons] at hx
      rcases hx with rfl | hx
      · exact hst rfl
      · exact hobs x hx
    · simp [okG] at hok
  | save w f =>
    intro dirty S c hok henv hst hobs
    cases dirty
    · cases f
      · refine ⟨hst rfl, hobs, fun _ v hv => ?_⟩
        simp only [after, List.mem_cons] at hv
        simp only [exec, upd]
        split
        · exact (hst rfl).1
        · rcases hv with rfl | hv
          · contradiction
          · exact henv v hv
      · refine ⟨hst rfl, hobs, fun _ v hv => ?_⟩
        simp only [after, mem_diff, List.mem_singleton] at hv
        simp only [exec, upd, if_neg hv.2]
        exact henv v hv.1
    · simp [okG] at hok
  | assign w =>
    intro dirty S c hok henv hst hobs
    cases dirty
    · refine ⟨hst rfl, hobs, fun _ v hv => ?_⟩
      simp only [after, mem_diff, List.mem_singleton] at hv
      simp only [exec, upd, if_neg hv.2]
      exact henv v hv.1
    · simp [okG] at hok
  | setPrec src =>
    intro dirty S c hok henv hst hobs
    cases dirty
    · simp [okG] at hok
    · cases src with
      | other => simp [okG] at hok
      | saved v =>
        simp only [okG, List.contains_iff_mem] at hok
        refine ⟨?_, hobs, fun _ => henv⟩
        simp only [exec]
        rw [henv v hok]
        exact inv_restore P D hP _
  | seq a b iha ihb =>
    intro dirty S c hok henv hst hobs
    have key : ∀ d, okG d S a = true → okG false (after S a) b = true → (d = false → Inv P D c.st) →
        Inv P D (exec (.seq a b) c).2.st ∧ (∀ x ∈ (exec (.seq a b) c).2.obs, Inv P D x) ∧
        ((exec (.seq a b) c).1 = .normal → ∀ v ∈ after S (.seq a b), (exec (.seq a b) c).2.env v = P) := by
      intro d ha hb hd
      have A := iha d S c ha henv hd hobs
      simp only [exec, after]
      split
      · rename_i hn
        exact ihb false _ _ hb (A.2.2 hn) (fun _ => A.1) A.2.1
      · rename_i hn
        exact ⟨A.1, A.2.1, fun h => absurd h hn⟩
    cases dirty
    · simp only [okG, Bool.and_eq_true] at hok
      exact key false hok.1 hok.2 hst
    · simp only [okG, Bool.and_eq_true] at hok
      exact key true hok.1 hok.2 hst
  | ite a b iha ihb =>
    intro dirty S c hok henv hst hobs
    cases dirty
    · simp only [okG, Bool.and_eq_true] at hok
      have A := iha false S c.pop hok.1 henv hst hobs
      have B := ihb false S c.pop hok.2 henv hst hobs
      simp only [exec, after]
      split
      · exact ⟨A.1, A.2.1, fun h v hv => A.2.2 h v (mem_inter.1 hv).1⟩
      · exact ⟨B.1, B.2.1, fun h v hv => B.2.2 h v (mem_inter.1 hv).2⟩
    · simp [okG] at hok
  | loop b ih =>
    intro dirty S c hok henv hst hobs
    cases dirty
    · simp only [okG] at hok
      have hinv := iter_preserve
        (fun c' => Inv P D c'.st ∧ (∀ x ∈ c'.obs, Inv P D x) ∧ ∀ v ∈ diff S (kills b), c'.env v = P)
        (exec b)
        (fun c' hc' => by
          have A := ih false _ c' hok hc'.2.2 (fun _ => hc'.1) hc'.2.1
          refine ⟨A.1, A.2.1, fun v hv => ?_⟩
          rw [env_noKill b c' v (mem_diff.1 hv).2]
          exact hc'.2.2 v hv)
        c.peek.toNat c.pop
        ⟨hst rfl, hobs, fun v hv => henv v (mem_diff.1 hv).1⟩
      simp only [exec, after]
      exact ⟨hinv.1, hinv.2.1, fun _ => hinv.2.2⟩
    · simp [okG] at hok
  | tryFinally b f ihb ihf =>
    intro dirty S c hok henv hst hobs
    cases dirty
    · simp only [okG, Bool.or_eq_true, Bool.and_eq_true, Bool.not_eq_true'] at hok
      have henv1 := env_diff P b S c henv
      have fin : ∀ d, okG d (diff S (kills b)) f = true → (d = false → Inv P D (exec b c).2.st) →
          (∀ x ∈ (exec b c).2.obs, Inv P D x) →
          Inv P D (exec (.tryFinally b f) c).2.st ∧
          (∀ x ∈ (exec (.tryFinally b f) c).2.obs, Inv P D x) ∧
          ((exec (.tryFinally b f) c).1 = .normal →
            ∀ v ∈ after S (.tryFinally b f), (exec (.tryFinally b f) c).2.env v = P) := by
        intro d hf hd ho
        have B := ihf d _ (exec b c).2 hf henv1 hd ho
        simp only [exec, after]
        refine ⟨B.1, B.2.1, fun h => B.2.2 ?_⟩
        by_cases h2 : (exec f (exec b c).2).1 = .normal
        · exact h2
        · rw [if_neg h2] at h; exact absurd h h2
      rcases hok with hok | hok
      · have A := ihb false S c hok.1 henv hst hobs
        exact fin false hok.2 (fun _ => A.1) A.2.1
      · refine fin true hok.2 (fun h => by cases h) ?_
        rw [obs_noYield b c hok.1]; exact hobs
    · simp [okG] at hok
  | tryExcept b hd ihb ihh =>
    intro dirty S c hok henv hst hobs
    cases dirty
    · simp only [okG, Bool.and_eq_true] at hok
      have A := ihb false S c hok.1 henv hst hobs
      have henv1 := env_diff P b S c henv
      simp only [exec, after]
      split
      · rename_i hr
        split
        · have B := ihh false _ (exec b c).2.pop hok.2 henv1 (fun _ => A.1) A.2.1
          exact ⟨B.1, B.2.1, fun h v hv => B.2.2 h v (mem_inter.1 hv).2⟩
        · exact ⟨A.1, A.2.1, fun h => by cases h⟩
      · exact ⟨A.1, A.2.1, fun h v hv => A.2.2 h v (mem_inter.1 hv).1⟩
    · simp [okG] at hok
  | withMgr m f b _ =>
    intro dirty S c hok henv hst hobs
    cases dirty
    · simp only [okG, Bool.and_eq_true, Bool.not_eq_true', List.contains_eq_mem,
        decide_eq_false_iff_not] at hok
      simp only [exec, after]
      split
      · exact ⟨hst rfl, hobs, fun h => by cases h⟩
      · simp only []
        refine ⟨?_, ?_, fun _ v hv => ?_⟩
        · rw [env_noKill b _ m hok.1]
          simp only [Cfg.pop, upd, if_pos]
          rw [(hst rfl).1]
          exact inv_restore P D hP _
        · rw [obs_noYield b _ hok.2]; exact hobs
        · simp only [mem_diff, List.mem_cons, not_or] at hv
          rw [env_noKill b _ v hv.2.2]
          simp only [Cfg.pop, upd, if_neg hv.2.1]
          exact henv v hv.1
    · simp [okG] at hok

end Mp.Skel

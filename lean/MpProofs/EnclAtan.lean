/-
  MpProofs/EnclAtan.lean — soundness of `atanI` and `piI`
  (alternating arctan series, angle halving `arctan x = 2 arctan (x/(1+√(1+x²)))`, Machin's formula).
-/
import MpProofs.EnclArith
import Mathlib.Analysis.SpecialFunctions.Trigonometric.Arctan
import Mathlib.Analysis.SpecialFunctions.Complex.Arctan
import Mathlib.Analysis.SpecificLimits.Normed
import Mathlib.Analysis.Real.Pi.Bounds

namespace Mp.Encl
open Finset

/-- the `i`-th term (without sign) of the arctan series -/
noncomputable def atanF (x : ℝ) (i : ℕ) : ℝ := x ^ (2 * i + 1) / ((2 * i + 1 : ℕ) : ℝ)

theorem atanTerms_sound (wp : ℕ) (X X2 : DI) (x : ℝ) (hx : X.Mem x) (hx2 : X2.Mem (x ^ 2)) (n : ℕ) :
    (atanTerms wp X X2 n).1.Mem (x ^ (2 * n + 1)) ∧
    (atanTerms wp X X2 n).2.Mem (∑ i ∈ range n, (-1) ^ i * atanF x i) := by
  induction n with
  | zero => simpa [atanTerms] using And.intro hx DI.mem_zero
  | succ n ih =>
    rw [Finset.sum_range_succ, Nat.mul_succ, pow_succ (n := 2 * n + 2), pow_succ (n := 2 * n + 1), mul_assoc, ← sq]
    exact ⟨DI.mem_round (DI.mem_mul ih.1 hx2) wp,
      DI.mem_round (DI.mem_altAdd n ih.2 (DI.mem_divNat wp ih.1 (Nat.succ_pos _))) wp⟩

theorem atanF_antitone {x : ℝ} (h0 : 0 ≤ x) (h1 : x ≤ 1) : Antitone (atanF x) := by
  refine antitone_nat_of_succ_le fun n => ?_
  have hpos : (0 : ℝ) < ((2 * n + 1 : ℕ) : ℝ) := Nat.cast_pos.2 (Nat.succ_pos _)
  exact div_le_div₀ (pow_nonneg h0 _) (pow_le_pow_of_le_one h0 h1 (by omega)) hpos
    (Nat.cast_le.2 (by omega))

theorem atan_tendsto {x : ℝ} (h0 : 0 ≤ x) (h1 : x < 1) :
    Filter.Tendsto (fun n => ∑ i ∈ range n, (-1 : ℝ) ^ i * atanF x i) Filter.atTop
      (nhds (Real.arctan x)) := by
  have hs := Real.hasSum_arctan (x := x) (by rw [Real.norm_eq_abs, abs_of_nonneg h0]; exact h1)
  have := hs.tendsto_sum_nat
  have e : (fun n : ℕ => (-1 : ℝ) ^ n * x ^ (2 * n + 1) / ((2 * n + 1 : ℕ) : ℝ)) =
      fun i => (-1 : ℝ) ^ i * atanF x i := by
    funext i; unfold atanF; rw [mul_div_assoc]
  rw [e] at this
  exact this

theorem atanSmall_sound (wp k : ℕ) (X : DI) (x : ℝ) (hx : X.Mem x) (h0 : 0 ≤ x) (h1 : x ≤ 1 / 2) :
    (atanSmall wp k X).Mem (Real.arctan x) := by
  have hx2 : ((X.mul X).round wp).Mem (x ^ 2) := by
    rw [sq]; exact DI.mem_round (DI.mem_mul hx hx) wp
  obtain ⟨hp, hs⟩ := atanTerms_sound wp X _ x hx hx2 (2 * k)
  have hlim := atan_tendsto h0 (h1.trans_lt (by norm_num))
  have hanti := atanF_antitone h0 (h1.trans (by norm_num))
  have lower := hanti.alternating_series_le_tendsto hlim k
  have upper := hanti.tendsto_le_alternating_series hlim k
  rw [Finset.sum_range_succ] at upper
  rw [Even.neg_one_pow (even_two_mul k), one_mul] at upper
  have ht := DI.mem_divNat wp hp (show 0 < 2 * (2 * k) + 1 by omega)
  unfold atanSmall
  constructor
  · exact le_trans hs.1 lower
  · simp only [Dy.val_add]
    refine le_trans upper ?_
    unfold atanF
    exact add_le_add hs.2 ht.2

theorem piI_mem (wp : ℕ) : (piI wp).Mem Real.pi := by
  unfold piI
  simp only
  split
  · have ha : (DI.one.divNat (wp + 16) 5).Mem ((5 : ℝ)⁻¹) := by
      have := DI.mem_divNat (wp + 16) DI.mem_one (show 0 < 5 by norm_num)
      simpa using this
    have hb : (DI.one.divNat (wp + 16) 239).Mem ((239 : ℝ)⁻¹) := by
      have := DI.mem_divNat (wp + 16) DI.mem_one (show 0 < 239 by norm_num)
      simpa using this
    have hA := fun k => atanSmall_sound (wp + 16) k _ _ ha (by norm_num) (by norm_num)
    have hB := fun k => atanSmall_sound (wp + 16) k _ _ hb (by norm_num) (by norm_num)
    have e : (Real.arctan 5⁻¹ * (2 : ℝ) ^ (2 : ℤ) - Real.arctan 239⁻¹) * (2 : ℝ) ^ (2 : ℤ) = Real.pi := by
      have h4 : (2 : ℝ) ^ (2 : ℤ) = 4 := by norm_num
      rw [h4, mul_comm (Real.arctan _) 4, Real.four_mul_arctan_inv_5_sub_arctan_inv_239,
        div_mul_cancel₀ _ four_ne_zero]
    show DI.Mem _ Real.pi
    rw [← e]
    exact DI.mem_round (DI.mem_shift (DI.mem_sub (DI.mem_shift (hA _) 2) (hB _)) 2) wp
  · simp only [DI.Mem, Dy.val_ofInt]
    exact ⟨by push_cast; exact Real.pi_gt_three.le, by push_cast; exact Real.pi_le_four⟩

noncomputable def atanH (x : ℝ) : ℝ := x / (1 + Real.sqrt (1 + x ^ 2))

theorem arctan_half (x : ℝ) : Real.arctan x = 2 * Real.arctan (atanH x) := by
  unfold atanH
  set w := Real.sqrt (1 + x ^ 2) with hw
  have hx2 : x ^ 2 = w ^ 2 - 1 := by rw [hw, Real.sq_sqrt (by positivity)]; ring
  have hxw : |x| < w := by
    rw [hw, Real.lt_sqrt (abs_nonneg x), sq_abs]; exact lt_one_add _
  have hd : 0 < 1 + w := add_pos_of_pos_of_nonneg one_pos (Real.sqrt_nonneg _)
  have hy : |x / (1 + w)| < 1 := by
    rw [abs_div, abs_of_pos hd, div_lt_one hd]; exact hxw.trans (lt_one_add w)
  rw [abs_lt] at hy
  -- `1 - y² = 2/(1+w)` for `y = x/(1+w)`, since `x² = w² - 1 = (w-1)(w+1)`
  have h1 : 1 - (x / (1 + w)) ^ 2 = 2 / (1 + w) := by
    rw [div_pow, hx2]; field_simp; ring
  rw [Real.two_mul_arctan hy.1 hy.2, h1, mul_div_assoc, div_div_div_cancel_right₀ hd.ne', ← mul_div_assoc,
    mul_div_cancel_left₀ _ two_ne_zero]

theorem atanRed_sound (wp : ℕ) (X : DI) (x : ℝ) (hx : X.Mem x) : Encloses (atanRed wp X) (atanH x) := by
  unfold atanRed
  simp only
  split
  · rename_i hD
    refine .some (DI.mem_divPos wp hx (DI.mem_round (DI.mem_add DI.mem_one (sqrtI_sound _ _ _ ?_)) _) hD) trivial
    rw [sq]
    exact DI.mem_round (DI.mem_add DI.mem_one (DI.mem_mul hx hx)) _
  · exact .none

theorem atanRedN_sound (wp j : ℕ) : ∀ (X : DI) (x : ℝ), X.Mem x →
    Encloses (atanRedN wp j X) (atanH^[j] x) := by
  induction j with
  | zero => exact fun X x hx => .some hx trivial
  | succ j ih =>
    intro X x hx
    rw [Function.iterate_succ_apply]
    exact (atanRed_sound wp X x hx).bind fun Z hz _ => ih Z _ hz

theorem arctan_iter (j : ℕ) : ∀ x : ℝ, Real.arctan (atanH^[j] x) * (2 : ℝ) ^ (j : ℤ) = Real.arctan x := by
  induction j with
  | zero => intro x; simp
  | succ j ih =>
    intro x
    rw [Function.iterate_succ_apply, Nat.cast_succ, zpow_add_one₀ two_ne_zero, ← mul_assoc, ih, arctan_half x,
      mul_comm]

theorem atanPos_sound (wp : ℕ) (x : Dy) (hx : 0 ≤ x.m) : (atanPos wp x).Mem (Real.arctan x.val) := by
  have hfall : (DI.mk Dy.zero (Dy.ofInt 2)).Mem (Real.arctan x.val) := by
    constructor
    · simp only [Dy.val_zero]
      exact Real.arctan_nonneg.2 ((Dy.val_nonneg_iff x).2 hx)
    · simp only [Dy.val_ofInt]; push_cast; linarith [Real.arctan_lt_pi_div_two x.val, Real.pi_le_four]
  unfold atanPos
  simp only
  generalize (if Nat.sqrt wp / 2 + 1 ≤ x.lowBits then 0 else Nat.sqrt wp / 2 + 1 + 2) = j
  split
  · rename_i Y hY
    split
    · rename_i hc
      obtain ⟨hc0, hc1⟩ := hc
      have hy := (atanRedN_sound _ j _ _ (DI.mem_point x) Y hY).1
      have h0 : 0 ≤ atanH^[j] x.val := le_trans ((Dy.val_nonneg_iff _).2 hc0) hy.1
      have h1 : atanH^[j] x.val ≤ 1 / 2 := by
        rw [Dy.le_iff] at hc1
        refine le_trans hy.2 (le_trans hc1 ?_)
        simp [Dy.val]
      apply DI.mem_round
      rw [← arctan_iter j x.val]
      apply DI.mem_shift
      exact atanSmall_sound _ _ _ _ hy h0 h1
    · exact hfall
  · exact hfall

theorem atanPoint_sound (wp : ℕ) (x : Dy) : (atanPoint wp x).Mem (Real.arctan x.val) := by
  unfold atanPoint
  split
  · rename_i h
    have := DI.mem_neg (atanPos_sound wp x.neg (by simp [Dy.neg]; omega))
    rw [Dy.val_neg, Real.arctan_neg, neg_neg] at this
    exact this
  · rename_i h
    exact atanPos_sound wp x (by omega)

theorem atanI_mem (wp : ℕ) {I : DI} {x : ℝ} (hx : I.Mem x) : (atanI wp I).Mem (Real.arctan x) :=
  ⟨(atanPoint_sound wp I.lo).1.trans (Real.arctan_strictMono.monotone hx.1),
    (Real.arctan_strictMono.monotone hx.2).trans (atanPoint_sound wp I.hi).2⟩

end Mp.Encl

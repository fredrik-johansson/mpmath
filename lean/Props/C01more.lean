/-
  Props/C01more.lean — C01, further operations: sqrt, integer powers, floor / ceil / nint / frac and `%`:
  results are canonical finite tuples (zero, or sign in {0,1} with an odd mantissa and its exact bit count) for every
  canonical finite operand of any bit length, every precision and mode.  Corollaries of C02sqrt, C03, C06.
-/
import MpProofs.Sqrt
import MpProofs.Pow
import MpProofs.IntPart

namespace Mp

theorem C01_sqrt {s : Mpf} (hs : CanonFin s) (hsign : s.sign = 0) {prec : ℤ} (hp : 0 < prec) (rnd : Rnd) :
    ∃ r, mpf_sqrt s prec rnd = .ok r ∧ CanonFin r := by
  obtain ⟨r, hr, hc, _, _⟩ := mpf_sqrt_spec hs hsign hp rnd
  exact ⟨r, hr, hc⟩

theorem C01_pow_int {s : Mpf} (hs : CanonFin s) (n : ℤ) (h0 : s ≠ fzero ∨ 0 ≤ n) {prec : ℤ} (hp : 0 < prec) (rnd : Rnd) :
    ∃ r, mpf_pow_int s n prec rnd = .ok r ∧ CanonFin r := by
  obtain ⟨r, hr, hP, _⟩ := mpf_pow_int_spec hs n h0 hp rnd
  exact ⟨r, hr, hP.canon⟩

theorem C01_floor_ceil_nint_frac {s : Mpf} (hs : CanonFin s) {prec : ℤ} (hp : 0 ≤ prec) (rnd : Rnd) :
    (∃ r, mpf_floor s prec rnd = .ok r ∧ CanonFin r) ∧ (∃ r, mpf_ceil s prec rnd = .ok r ∧ CanonFin r) ∧
    (∃ r, mpf_nint s prec rnd = .ok r ∧ CanonFin r) ∧ (∃ r, mpf_frac s prec rnd = .ok r ∧ CanonFin r) := by
  obtain ⟨r1, h1, o1⟩ := mpf_floor_spec hs hp rnd
  obtain ⟨r2, h2, o2⟩ := mpf_ceil_spec hs hp rnd
  obtain ⟨r3, n, h3, _, o3⟩ := mpf_nint_spec hs hp rnd
  obtain ⟨r4, h4, o4⟩ := mpf_frac_spec hs hp rnd
  exact ⟨⟨r1, h1, o1.1⟩, ⟨r2, h2, o2.1⟩, ⟨r3, h3, o3.1⟩, ⟨r4, h4, o4.1⟩⟩

theorem C01_mod {s t : Mpf} (hs : CanonFin s) (ht : CanonFin t) (ht0 : t ≠ fzero) {prec : ℤ} (hp : 0 < prec) (rnd : Rnd) :
    ∃ r, mpf_mod s t prec rnd = .ok r ∧ CanonFin r := by
  obtain ⟨r, hr, o⟩ := mpf_mod_spec hs ht ht0 hp rnd
  exact ⟨r, hr, o.1⟩

end Mp

/-
  MpProofs/SpecRefHyper.lean — the C22 references: terminating hypergeometric sums as sums of Pochhammer
  quotients (`ascPochhammer`), three-term recurrences (`rec3`), Chebyshev polynomials.
-/
import MpProofs.SpecRefZeta
import Mathlib.RingTheory.Polynomial.Chebyshev

namespace Mp.SpecRef
open Mp.Encl
open scoped Nat

/-- the `k`-th term of `pFq(as; bs; z)`: `Π(a_i)_k / Π(b_j)_k · z^k / k!` -/
noncomputable def hypTermQ (as bs : List ℚ) (z : ℚ) (k : ℕ) : ℚ :=
  (as.map (fun a => (ascPochhammer ℚ k).eval a)).prod /
    (bs.map (fun b => (ascPochhammer ℚ k).eval b)).prod * z ^ k / (k ! : ℚ)

theorem prodShift_eq (l : List ℚ) (k : ℕ) : prodShift l k = (l.map (fun a => a + (k : ℚ))).prod := by
  unfold prodShift
  induction l with
  | nil => rfl
  | cons a l ih => simp only [List.foldr_cons, List.map_cons, List.prod_cons, ih]

theorem poch_prod_succ (l : List ℚ) (k : ℕ) :
    (l.map (fun a => (ascPochhammer ℚ (k + 1)).eval a)).prod =
      (l.map (fun a => (ascPochhammer ℚ k).eval a)).prod * prodShift l k := by
  rw [prodShift_eq]
  induction l with
  | nil => simp
  | cons a l ih =>
    rw [List.map_cons, List.prod_cons, ih, List.map_cons, List.prod_cons, List.map_cons, List.prod_cons,
      ascPochhammer_succ_eval]
    ring

theorem hypSum_spec (as bs : List ℚ) (z : ℚ) (k : ℕ) :
    (hypSum as bs z k).1 = hypTermQ as bs z k ∧
    (hypSum as bs z k).2 = ∑ j ∈ Finset.range k, hypTermQ as bs z j := by
  induction k with
  | zero => simp [hypSum, hypTermQ]
  | succ k ih =>
    obtain ⟨h1, h2⟩ := ih
    refine ⟨?_, ?_⟩
    · simp only [hypSum]
      rw [h1]
      unfold hypTermQ
      rw [poch_prod_succ as k, poch_prod_succ bs k, Nat.factorial_succ, pow_succ]
      push_cast
      simp only [div_eq_mul_inv, mul_inv]
      ring
    · simp only [hypSum]
      rw [h1, h2, Finset.sum_range_succ]

theorem termIndex_none (as : List ℚ) (h : termIndex as = none) : ∀ b ∈ as, isNpInt b = false := by
  induction as with
  | nil => intro b hb; simp at hb
  | cons a as ih =>
    rw [termIndex] at h
    split at h
    · split at h <;> simp at h
    · rename_i ha
      intro b hb
      rcases List.mem_cons.1 hb with rfl | hb'
      · simpa using ha
      · exact ih h b hb'

theorem termIndex_spec (as : List ℚ) (n : ℕ) (h : termIndex as = some n) :
    (∃ a ∈ as, isNpInt a = true ∧ (-a.num).toNat = n) ∧
    (∀ a ∈ as, isNpInt a = true → n ≤ (-a.num).toNat) := by
  induction as generalizing n with
  | nil => cases h
  | cons a as ih =>
    rw [termIndex] at h
    simp only [List.mem_cons, exists_eq_or_imp, forall_eq_or_imp]
    split at h
    · rename_i ha
      cases ht : termIndex as with
      | none =>
        rw [ht] at h
        obtain rfl := Option.some.inj h
        exact ⟨.inl ⟨ha, rfl⟩, fun _ => le_rfl, fun b hb hnb => by simp [termIndex_none as ht b hb] at hnb⟩
      | some m =>
        rw [ht] at h
        obtain rfl := Option.some.inj h
        obtain ⟨⟨b, hb, hnb, rfl⟩, hmin⟩ := ih _ ht
        refine ⟨?_, fun _ => min_le_left _ _, fun c hc hnc => (min_le_right _ _).trans (hmin c hc hnc)⟩
        rcases le_total (-a.num).toNat (-b.num).toNat with hle | hle
        · exact .inl ⟨ha, (min_eq_left hle).symm⟩
        · exact .inr ⟨b, hb, hnb, (min_eq_right hle).symm⟩
    · rename_i ha
      obtain ⟨hex, hmin⟩ := ih n h
      exact ⟨.inr hex, fun hc => absurd hc ha, hmin⟩

theorem isNpInt_iff (q : ℚ) : isNpInt q = true ↔ ∃ m : ℕ, q = -(m : ℚ) := by
  unfold isNpInt
  simp only [Bool.and_eq_true, decide_eq_true_eq]
  constructor
  · rintro ⟨h1, h2⟩
    obtain ⟨m, hm⟩ : ∃ m : ℕ, q.num = -(m : ℤ) := ⟨(-q.num).toNat, by omega⟩
    refine ⟨m, ?_⟩
    have hq : q = ((q.num : ℤ) : ℚ) := by
      conv_lhs => rw [← Rat.num_div_den q, h1]
      simp
    calc q = ((q.num : ℤ) : ℚ) := hq
      _ = ((-(m : ℤ) : ℤ) : ℚ) := by rw [hm]
      _ = -(m : ℚ) := by push_cast; rfl
  · rintro ⟨m, rfl⟩
    have : (-(m : ℚ)) = ((-(m : ℤ) : ℤ) : ℚ) := by push_cast; rfl
    rw [this]
    refine ⟨Rat.den_intCast _, ?_⟩
    rw [Rat.num_intCast]; omega

theorem num_neg_natCast (m : ℕ) : (-(m : ℚ)).num = -(m : ℤ) := by
  rw [show (-(m : ℚ)) = ((-(m : ℤ) : ℤ) : ℚ) by push_cast; rfl, Rat.num_intCast]

theorem rec3_eq (p0 p1 : ℚ) (A B C : ℕ → ℚ) (P : ℕ → ℚ) (h0 : P 0 = p0) (h1 : P 1 = p1)
    (hrec : ∀ k, P (k + 2) = (B (k + 1) * P (k + 1) - C (k + 1) * P k) / A (k + 1)) :
    ∀ n r, rec3 p0 p1 A B C n = some r → r = (P n, P (n + 1)) := by
  intro n
  induction n with
  | zero => intro r h; simp only [rec3, Option.some.injEq] at h; rw [← h, h0, h1]
  | succ n ih =>
    intro r h
    rw [rec3] at h
    cases hr : rec3 p0 p1 A B C n with
    | none => rw [hr] at h; simp at h
    | some ab =>
      rw [hr] at h
      obtain ⟨a, b⟩ := ab
      have := ih (a, b) hr
      simp only [Prod.mk.injEq] at this
      obtain ⟨ha, hb⟩ := this
      simp only at h
      split at h
      · simp at h
      · simp only [Option.some.injEq] at h
        rw [← h, ha, hb, hrec n]

theorem chebytQ_spec (x : ℚ) (n : ℕ) :
    chebytQ x n = some ((Polynomial.Chebyshev.T ℚ n).eval x, (Polynomial.Chebyshev.T ℚ (n + 1)).eval x) := by
  unfold chebytQ
  induction n with
  | zero => simp [rec3]
  | succ n ih =>
    rw [rec3, ih]
    simp only [one_ne_zero, if_false, div_one, one_mul]
    have := Polynomial.Chebyshev.T_add_two ℚ (n : ℤ)
    have h2 := congrArg (Polynomial.eval x) this
    simp only [Polynomial.eval_sub, Polynomial.eval_mul, Polynomial.eval_ofNat, Polynomial.eval_X] at h2
    congr 2
    push_cast
    rw [show ((n : ℤ) + 1 + 1) = (n : ℤ) + 2 by ring, h2]

theorem chebyuQ_spec (x : ℚ) (n : ℕ) :
    chebyuQ x n = some ((Polynomial.Chebyshev.U ℚ n).eval x, (Polynomial.Chebyshev.U ℚ (n + 1)).eval x) := by
  unfold chebyuQ
  induction n with
  | zero => simp [rec3]
  | succ n ih =>
    rw [rec3, ih]
    simp only [one_ne_zero, if_false, div_one, one_mul]
    have := Polynomial.Chebyshev.U_add_two ℚ (n : ℤ)
    have h2 := congrArg (Polynomial.eval x) this
    simp only [Polynomial.eval_sub, Polynomial.eval_mul, Polynomial.eval_ofNat, Polynomial.eval_X] at h2
    congr 2
    push_cast
    rw [show ((n : ℤ) + 1 + 1) = (n : ℤ) + 2 by ring, h2]

end Mp.SpecRef

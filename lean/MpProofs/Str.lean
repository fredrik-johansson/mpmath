/-
  MpProofs/Str.lean — helper lemmas for the decimal string conversions (C07, C08):
  the value `decValue` of a decimal literal, the shape of accepted literals, and the evaluation of
  the model parser `strToManExp` on such shapes.
-/
import MpModel.Str
import MpProofs.Spec
import Mathlib.Data.List.Basic
import Mathlib.Data.List.TakeWhile
import Batteries.Data.Char.Basic
import Mathlib.Tactic.Ring
import Mathlib.Tactic.Linarith
import Mathlib.Tactic.NormNum
import Mathlib.Tactic.FieldSimp
import Mathlib.Tactic.Push

namespace Mp

/-! ### generic list lemmas for the Python string helpers -/

theorem rstripL_eq_self_of_forall {p : Char → Bool} {l : List Char}
    (h : ∀ c ∈ l, p c = false) : rstripL p l = l := by
  unfold rstripL
  have : l.reverse.dropWhile p = l.reverse := by
    cases hr : l.reverse with
    | nil => rfl
    | cons a t =>
      have : a ∈ l := by
        have : a ∈ l.reverse := by rw [hr]; exact List.mem_cons_self
        exact List.mem_reverse.mp this
      simp [h a this]
  rw [this, List.reverse_reverse]

theorem rstripL_concat_of_neg {p : Char → Bool} (l : List Char) {c : Char} (h : p c = false) :
    rstripL p (l ++ [c]) = l ++ [c] := by
  unfold rstripL
  simp [h]

theorem dropWhile_eq_self_of_forall {p : Char → Bool} {l : List Char}
    (h : ∀ c ∈ l, p c = false) : l.dropWhile p = l := by
  cases l with
  | nil => rfl
  | cons a t => simp [h a List.mem_cons_self]

theorem stripL_eq_self_of_forall {p : Char → Bool} {l : List Char}
    (h : ∀ c ∈ l, p c = false) : stripL p l = l := by
  unfold stripL
  rw [dropWhile_eq_self_of_forall h, rstripL_eq_self_of_forall h]

theorem rstripL_spec (p : Char → Bool) (l : List Char) :
    ∃ suf, l = rstripL p l ++ suf ∧ ∀ c ∈ suf, p c = true := by
  refine ⟨(l.reverse.takeWhile p).reverse, ?_, ?_⟩
  · unfold rstripL
    rw [← List.reverse_append, List.takeWhile_append_dropWhile, List.reverse_reverse]
  · intro c hc
    exact List.mem_takeWhile_imp (List.mem_reverse.mp hc)

theorem splitOnC_of_not_mem {c : Char} {l : List Char} (h : c ∉ l) : splitOnC c l = [l] := by
  induction l with
  | nil => rfl
  | cons x xs ih =>
    have hx : x ≠ c := fun e => h (e ▸ List.mem_cons_self)
    have hxs : c ∉ xs := fun e => h (List.mem_cons_of_mem _ e)
    simp [splitOnC, hx, ih hxs]

theorem splitOnC_append_cons {c : Char} {a : List Char} (b : List Char) (h : c ∉ a) :
    splitOnC c (a ++ c :: b) = a :: splitOnC c b := by
  induction a with
  | nil => simp [splitOnC]
  | cons x xs ih =>
    have hx : x ≠ c := fun e => h (e ▸ List.mem_cons_self)
    have hxs : c ∉ xs := fun e => h (List.mem_cons_of_mem _ e)
    simp [splitOnC, hx, ih hxs]

/-! ### characters -/

theorem isDigitC_iff (c : Char) : isDigitC c = true ↔ 48 ≤ c.toNat ∧ c.toNat ≤ 57 := by
  unfold isDigitC; simp

theorem isDigitC_ne {c x : Char} (hc : isDigitC c = true) (hx : isDigitC x = false) : c ≠ x := by
  rintro rfl
  rw [hc] at hx
  cases hx

/-- the characters that occur in a plain decimal literal -/
def LitChar (c : Char) : Prop :=
  isDigitC c = true ∨ c = '+' ∨ c = '-' ∨ c = '.' ∨ c = 'e'

theorem lowerC_digit {c : Char} (h : isDigitC c = true) : lowerC c = c := by
  rw [isDigitC_iff] at h
  unfold lowerC; rw [if_neg]; omega

theorem LitChar.ne_l {c : Char} (h : LitChar c) : c ≠ 'l' := by
  rcases h with h | rfl | rfl | rfl | rfl
  · exact isDigitC_ne h (by decide)
  all_goals decide

theorem LitChar.not_space {c : Char} (h : LitChar c) : isSpaceNum c = false := by
  rcases h with h | rfl | rfl | rfl | rfl
  · rw [isDigitC_iff] at h; unfold isSpaceNum; simp; omega
  all_goals decide

theorem LitChar.not_spaceStrip {c : Char} (h : LitChar c) : isSpaceStrip c = false := by
  rcases h with h | rfl | rfl | rfl | rfl
  · rw [isDigitC_iff] at h; unfold isSpaceStrip isSpaceNum; simp; omega
  all_goals decide

theorem LitChar.ascii {c : Char} (h : LitChar c) : c.toNat < 128 := by
  rcases h with h | rfl | rfl | rfl | rfl
  · rw [isDigitC_iff] at h; omega
  all_goals decide

theorem LitChar.ne_underscore {c : Char} (h : LitChar c) : c ≠ '_' := by
  rcases h with h | rfl | rfl | rfl | rfl
  · exact isDigitC_ne h (by decide)
  all_goals decide

theorem LitChar.ne_slash {c : Char} (h : LitChar c) : c ≠ '/' := by
  rcases h with h | rfl | rfl | rfl | rfl
  · exact isDigitC_ne h (by decide)
  all_goals decide

theorem LitChar.lower {c : Char} (h : LitChar c) : lowerC c = c := by
  rcases h with h | rfl | rfl | rfl | rfl
  · exact lowerC_digit h
  all_goals decide


/-! ### digit strings -/

def Digits (l : List Char) : Prop := ∀ c ∈ l, isDigitC c = true

def SignStr (sg : List Char) : Prop := sg = [] ∨ sg = ['+'] ∨ sg = ['-']

def signVal (sg : List Char) : Int := if sg = ['-'] then -1 else 1

theorem foldl_digits (acc : Nat) (l : List Char) :
    l.foldl (fun a c => 10 * a + digitVal c) acc = acc * 10 ^ l.length + natOfDigits l := by
  unfold natOfDigits
  induction l generalizing acc with
  | nil => simp
  | cons x xs ih =>
    simp only [List.foldl_cons, List.length_cons]
    rw [ih (10 * acc + digitVal x), ih (10 * 0 + digitVal x)]
    ring

theorem natOfDigits_append (a b : List Char) :
    natOfDigits (a ++ b) = natOfDigits a * 10 ^ b.length + natOfDigits b := by
  unfold natOfDigits
  rw [List.foldl_append, foldl_digits]
  rfl

theorem natOfDigits_zeros {z : List Char} (h : ∀ c ∈ z, (c == '0') = true) : natOfDigits z = 0 := by
  induction z with
  | nil => rfl
  | cons x xs ih =>
    have hx : x = '0' := by simpa using h x List.mem_cons_self
    have := ih (fun c hc => h c (List.mem_cons_of_mem _ hc))
    change natOfDigits ([x] ++ xs) = 0
    rw [natOfDigits_append, this, hx]
    simp [natOfDigits, digitVal]

theorem Digits.litChar {l : List Char} (h : Digits l) : ∀ c ∈ l, LitChar c :=
  fun c hc => Or.inl (h c hc)

theorem SignStr.litChar {sg : List Char} (h : SignStr sg) : ∀ c ∈ sg, LitChar c := by
  rcases h with rfl | rfl | rfl <;> intro c hc <;> simp at hc <;> subst hc
  · exact Or.inr (Or.inl rfl)
  · exact Or.inr (Or.inr (Or.inl rfl))

theorem underscoresOK_of_none {prev : Char} {l : List Char} (hp : prev ≠ '_')
    (h : ∀ c ∈ l, c ≠ '_') : underscoresOK prev l = true := by
  induction l generalizing prev with
  | nil => simp [underscoresOK, hp]
  | cons x xs ih =>
    have hx : x ≠ '_' := h x List.mem_cons_self
    simp [underscoresOK, hx, hp, ih hx (fun c hc => h c (List.mem_cons_of_mem _ hc))]

theorem isAscii_of_litChar {l : List Char} (h : ∀ c ∈ l, LitChar c) : isAscii l = true := by
  unfold isAscii
  simp only [List.all_eq_true, decide_eq_true_eq]
  exact fun c hc => (h c hc).ascii

theorem filter_underscore_of_litChar {l : List Char} (h : ∀ c ∈ l, LitChar c) :
    l.filter (· != '_') = l := by
  rw [List.filter_eq_self]
  intro c hc
  simpa using (h c hc).ne_underscore

theorem Digits.head_ne_sign {ds : List Char} (hd : Digits ds) :
    ∀ c r, ds = c :: r → c ≠ '+' ∧ c ≠ '-' := by
  rintro c r rfl
  have hc := hd c List.mem_cons_self
  exact ⟨isDigitC_ne hc (by decide), isDigitC_ne hc (by decide)⟩

theorem takeSign_append {sg rest : List Char} (hs : SignStr sg)
    (hr : ∀ c r, rest = c :: r → c ≠ '+' ∧ c ≠ '-') : takeSign (sg ++ rest) = (decide (sg = ['-']), rest) := by
  rcases hs with rfl | rfl | rfl
  · cases rest with
    | nil => rfl
    | cons c r =>
      obtain ⟨h1, h2⟩ := hr c r rfl
      simp only [List.nil_append]
      unfold takeSign
      split
      · rename_i heq; exact absurd (List.cons.inj heq).1 h2
      · rename_i heq; exact absurd (List.cons.inj heq).1 h1
      · rfl
  · rfl
  · rfl

/-- `int()` on an optional sign followed by a non-empty digit string (no digit-count limit) -/
theorem pyInt_sign_digits {sg ds : List Char} (hs : SignStr sg) (hd : Digits ds) (hne : ds ≠ []) :
    pyInt (sg ++ ds) 0 = .ok (signVal sg * (natOfDigits ds : Int)) := by
  have hall : ∀ c ∈ sg ++ ds, LitChar c := by
    intro c hc
    rcases List.mem_append.mp hc with h | h
    · exact hs.litChar c h
    · exact hd.litChar c h
  have hfil : ds.filter (· != '_') = ds := filter_underscore_of_litChar hd.litChar
  have hus : underscoresOK '\x00' ds = true :=
    underscoresOK_of_none (by decide) (fun c hc => (hd.litChar c hc).ne_underscore)
  have hdall : ds.all isDigitC = true := by rw [List.all_eq_true]; exact hd
  have hemp : ds.isEmpty = false := by cases ds <;> simp_all
  unfold pyInt
  rw [isAscii_of_litChar hall, stripL_eq_self_of_forall (fun c hc => (hall c hc).not_space)]
  simp only [takeSign_append hs hd.head_ne_sign]
  by_cases hm : sg = ['-'] <;> simp [hm, hfil, hus, hdall, hemp, signVal]

/-! ### the shape of a plain decimal literal and the parser on it -/

/-- `t` is empty or starts with a character that is not a digit -/
def NoDigitHead (t : List Char) : Prop := ∀ c r, t = c :: r → isDigitC c = false

theorem takeWhile_digits_append {a t : List Char} (ha : Digits a) (ht : NoDigitHead t) :
    (a ++ t).takeWhile isDigitC = a ∧ (a ++ t).dropWhile isDigitC = t := by
  have h1 : t.takeWhile isDigitC = [] := by
    cases t with
    | nil => rfl
    | cons c r => simp [ht c r rfl]
  have h2 : t.dropWhile isDigitC = t := by
    cases t with
    | nil => rfl
    | cons c r => simp [ht c r rfl]
  constructor
  · rw [List.takeWhile_append_of_pos ha, h1, List.append_nil]
  · rw [List.dropWhile_append_of_pos ha, h2]

/-- `dropSign` and `signZ` read the same optional sign as `takeSign` -/
theorem dropSign_eq_takeSign (l : List Char) : dropSign l = (takeSign l).2 := by
  unfold dropSign takeSign
  split <;> simp

theorem dropSign_append {sg rest : List Char} (hs : SignStr sg)
    (hr : ∀ c r, rest = c :: r → c ≠ '+' ∧ c ≠ '-') : dropSign (sg ++ rest) = rest := by
  rw [dropSign_eq_takeSign, takeSign_append hs hr]

/-- the fraction part of a literal: `.fp` or nothing -/
def dotStr (dot : Bool) (fp : List Char) : List Char := if dot then '.' :: fp else []

/-- the exponent part of a (lower-case) literal: `e`, sign, digits, or nothing -/
def expStr (eo : Option (List Char × List Char)) : List Char :=
  match eo with
  | none => []
  | some (es, ed) => 'e' :: (es ++ ed)

/-- the literal `sg ip [. fp] [e es ed]` -/
def litL (sg ip : List Char) (dot : Bool) (fp : List Char) (eo : Option (List Char × List Char)) :
    List Char :=
  sg ++ (ip ++ (dotStr dot fp ++ expStr eo))

/-- well-formedness of the parts of a literal -/
structure LitOK (sg ip : List Char) (dot : Bool) (fp : List Char)
    (eo : Option (List Char × List Char)) : Prop where
  sign : SignStr sg
  ipd : Digits ip
  fpd : Digits fp
  nodot : dot = false → fp = []
  nonempty : ip ≠ [] ∨ fp ≠ []
  exp : ∀ es ed, eo = some (es, ed) → SignStr es ∧ Digits ed ∧ ed ≠ []

def expVal (eo : Option (List Char × List Char)) : Int :=
  match eo with
  | none => 0
  | some (es, ed) => signVal es * (natOfDigits ed : Int)

theorem expStr_noDigitHead (eo : Option (List Char × List Char)) : NoDigitHead (expStr eo) := by
  intro c r h
  cases eo with
  | none => simp [expStr] at h
  | some p => obtain ⟨es, ed⟩ := p; simp only [expStr, List.cons.injEq] at h; rw [← h.1]; decide

theorem dotExp_noDigitHead (dot : Bool) (fp : List Char) (eo : Option (List Char × List Char)) :
    NoDigitHead (dotStr dot fp ++ expStr eo) := by
  cases dot with
  | false => simpa [dotStr] using expStr_noDigitHead eo
  | true =>
    intro c r h
    simp only [dotStr, if_true, List.cons_append, List.cons.injEq] at h
    rw [← h.1]; decide

theorem fracPart_dotExp {dot : Bool} {fp : List Char} (eo : Option (List Char × List Char))
    (hfp : Digits fp) (hnd : dot = false → fp = []) :
    fracPart (dotStr dot fp ++ expStr eo) = (fp, expStr eo) := by
  cases dot with
  | true =>
    simp only [dotStr, if_true, List.cons_append, fracPart]
    obtain ⟨h1, h2⟩ := takeWhile_digits_append hfp (expStr_noDigitHead eo)
    rw [h1, h2]
  | false =>
    rw [hnd rfl]
    simp only [dotStr, Bool.false_eq_true, if_false, List.nil_append]
    cases eo with
    | none => rfl
    | some p => rfl

theorem all_digits_of {l : List Char} (h : Digits l) : l.all isDigitC = true := by
  rw [List.all_eq_true]; exact h

theorem expPartOK_expStr {eo : Option (List Char × List Char)}
    (h : ∀ es ed, eo = some (es, ed) → SignStr es ∧ Digits ed ∧ ed ≠ []) :
    expPartOK (expStr eo) = true := by
  cases eo with
  | none => rfl
  | some p =>
    obtain ⟨es, ed⟩ := p
    obtain ⟨hs, hd, hne⟩ := h es ed rfl
    simp only [expStr, expPartOK, dropSign_append hs hd.head_ne_sign]
    cases ed with
    | nil => exact absurd rfl hne
    | cons c r => simp [all_digits_of hd]

theorem litL_litChar {sg ip : List Char} {dot : Bool} {fp : List Char}
    {eo : Option (List Char × List Char)} (h : LitOK sg ip dot fp eo) :
    ∀ c ∈ litL sg ip dot fp eo, LitChar c := by
  intro c hc
  simp only [litL, List.mem_append] at hc
  rcases hc with hc | hc | hc | hc
  · exact h.sign.litChar c hc
  · exact h.ipd.litChar c hc
  · cases dot with
    | false => simp [dotStr] at hc
    | true =>
      simp only [dotStr, if_true, List.mem_cons] at hc
      rcases hc with rfl | hc
      · exact Or.inr (Or.inr (Or.inr (Or.inl rfl)))
      · exact h.fpd.litChar c hc
  · cases eo with
    | none => simp [expStr] at hc
    | some p =>
      obtain ⟨es, ed⟩ := p
      obtain ⟨hs, hd, _⟩ := h.exp es ed rfl
      simp only [expStr, List.mem_cons, List.mem_append] at hc
      rcases hc with rfl | hc | hc
      · exact Or.inr (Or.inr (Or.inr (Or.inr rfl)))
      · exact hs.litChar c hc
      · exact hd.litChar c hc

theorem litL_body_head {ip : List Char} {dot : Bool} {fp : List Char}
    {eo : Option (List Char × List Char)} (hip : Digits ip) (hnd : dot = false → fp = [])
    (hne : ip ≠ [] ∨ fp ≠ []) :
    ∃ c r, ip ++ (dotStr dot fp ++ expStr eo) = c :: r ∧ (isDigitC c = true ∨ c = '.') := by
  cases ip with
  | cons c r => exact ⟨c, _, rfl, Or.inl (hip c List.mem_cons_self)⟩
  | nil =>
    cases dot with
    | true => exact ⟨'.', _, rfl, Or.inr rfl⟩
    | false => rcases hne with h | h; exact absurd rfl h; exact absurd (hnd rfl) h

theorem LitOK.body_head_ne_sign {sg ip : List Char} {dot : Bool} {fp : List Char}
    {eo : Option (List Char × List Char)} (h : LitOK sg ip dot fp eo) :
    ∀ c r, ip ++ (dotStr dot fp ++ expStr eo) = c :: r → c ≠ '+' ∧ c ≠ '-' := by
  obtain ⟨c, r, hcr, hc⟩ := litL_body_head (eo := eo) h.ipd h.nodot h.nonempty
  intro c' r' h'
  rw [hcr] at h'
  rw [← (List.cons.inj h').1]
  rcases hc with hc | rfl
  · exact ⟨isDigitC_ne hc (by decide), isDigitC_ne hc (by decide)⟩
  · decide

theorem dropSign_litL {sg ip : List Char} {dot : Bool} {fp : List Char}
    {eo : Option (List Char × List Char)} (h : LitOK sg ip dot fp eo) :
    dropSign (litL sg ip dot fp eo) = ip ++ (dotStr dot fp ++ expStr eo) :=
  dropSign_append h.sign h.body_head_ne_sign

theorem plainFloatOK_litL {sg ip : List Char} {dot : Bool} {fp : List Char}
    {eo : Option (List Char × List Char)} (h : LitOK sg ip dot fp eo) :
    plainFloatOK (litL sg ip dot fp eo) = true := by
  obtain ⟨c, r, hcr, hc⟩ := litL_body_head (eo := eo) h.ipd h.nodot h.nonempty
  have hds := dropSign_litL h
  obtain ⟨h1, h2⟩ := takeWhile_digits_append h.ipd (dotExp_noDigitHead dot fp eo)
  unfold plainFloatOK
  simp only [hds, h1, h2, fracPart_dotExp eo h.fpd h.nodot, expPartOK_expStr h.exp]
  have hsp : (ip ++ (dotStr dot fp ++ expStr eo) = "inf".toList ||
      ip ++ (dotStr dot fp ++ expStr eo) = "infinity".toList ||
      ip ++ (dotStr dot fp ++ expStr eo) = "nan".toList) = false := by
    rw [hcr]
    rcases hc with hc | rfl
    · simp [isDigitC_ne hc (show isDigitC 'i' = false by decide),
        isDigitC_ne hc (show isDigitC 'n' = false by decide)]
    · simp
  rw [hsp]
  have : (ip.isEmpty && fp.isEmpty) = false := by
    rcases h.nonempty with h | h
    · cases ip <;> simp_all
    · cases fp <;> simp_all
  simp [this]

theorem floatOK_litL {sg ip : List Char} {dot : Bool} {fp : List Char}
    {eo : Option (List Char × List Char)} (h : LitOK sg ip dot fp eo) :
    floatOK (litL sg ip dot fp eo) = true := by
  have hall := litL_litChar h
  unfold floatOK
  rw [isAscii_of_litChar hall, stripL_eq_self_of_forall (fun c hc => (hall c hc).not_space)]
  simp only [filter_underscore_of_litChar hall, plainFloatOK_litL h,
    underscoresOK_of_none (show ('\x00' : Char) ≠ '_' by decide) (fun c hc => (hall c hc).ne_underscore),
    Bool.and_self]

theorem Digits.not_mem {l : List Char} (h : Digits l) {c : Char} (hc : isDigitC c = false) : c ∉ l :=
  fun hm => by rw [h c hm] at hc; exact Bool.noConfusion hc

theorem SignStr.not_mem {sg : List Char} (h : SignStr sg) {c : Char} (h1 : c ≠ '+') (h2 : c ≠ '-') :
    c ∉ sg := by
  rcases h with rfl | rfl | rfl <;> simp [h1, h2]

theorem not_mem_sign_digits {sg ds : List Char} (hs : SignStr sg) (hd : Digits ds) {x : Char}
    (hx : isDigitC x = false) (h1 : x ≠ '+') (h2 : x ≠ '-') : x ∉ sg ++ ds :=
  fun hmem => (List.mem_append.mp hmem).elim (hs.not_mem h1 h2) (hd.not_mem hx)

theorem Digits.append {a b : List Char} (ha : Digits a) (hb : Digits b) : Digits (a ++ b) := by
  intro c hc
  rcases List.mem_append.mp hc with h | h
  · exact ha c h
  · exact hb c h

theorem Digits.rstrip {l : List Char} (h : Digits l) (p : Char → Bool) : Digits (rstripL p l) := by
  obtain ⟨suf, hs, _⟩ := rstripL_spec p l
  intro c hc
  apply h c
  rw [hs]
  exact List.mem_append_left _ hc

theorem map_lowerC_of_litChar {l : List Char} (h : ∀ c ∈ l, LitChar c) : l.map lowerC = l := by
  induction l with
  | nil => rfl
  | cons x xs ih =>
    rw [List.map_cons, (h x List.mem_cons_self).lower, ih (fun c hc => h c (List.mem_cons_of_mem _ hc))]

theorem padEmpty_sign_digits {sg ds : List Char} (hs : SignStr sg) (hd : Digits ds) :
    ∃ ds', Digits ds' ∧ ds' ≠ [] ∧ padEmpty (sg ++ ds) = sg ++ ds' ∧ natOfDigits ds' = natOfDigits ds := by
  cases ds with
  | nil =>
    refine ⟨['0'], by intro c hc; simp at hc; rw [hc]; decide, by simp, ?_, by decide⟩
    rcases hs with rfl | rfl | rfl <;> simp [padEmpty]
  | cons c r =>
    have hc : isDigitC c = true := hd c List.mem_cons_self
    have h1 : c ≠ '+' := isDigitC_ne hc (by decide)
    have h2 : c ≠ '-' := isDigitC_ne hc (by decide)
    refine ⟨c :: r, hd, by simp, ?_, rfl⟩
    rcases hs with rfl | rfl | rfl <;> simp [padEmpty, h1, h2]

theorem manExpOfMantissa_mant {sg ip : List Char} {dot : Bool} {fp : List Char} (e : Int)
    (hs : SignStr sg) (hip : Digits ip) (hfp : Digits fp) (hnd : dot = false → fp = [])
    (hne : ip ≠ [] ∨ fp ≠ []) :
    manExpOfMantissa (sg ++ (ip ++ dotStr dot fp)) e 0 =
      .ok (signVal sg * (natOfDigits (ip ++ rstripL (· == '0') fp) : Int),
           e - ((rstripL (· == '0') fp).length : Int)) := by
  have hdotnd : isDigitC '.' = false := by decide
  cases dot with
  | true =>
    have hsplit : splitOnC '.' (sg ++ (ip ++ dotStr true fp)) = [sg ++ ip, fp] := by
      have : sg ++ (ip ++ dotStr true fp) = (sg ++ ip) ++ '.' :: fp := by simp [dotStr]
      rw [this, splitOnC_append_cons]
      · rw [splitOnC_of_not_mem (hfp.not_mem hdotnd)]
      · exact not_mem_sign_digits hs hip hdotnd (by decide) (by decide)
    obtain ⟨ds', hd', hne', hpad, hval⟩ := padEmpty_sign_digits hs (hip.append (hfp.rstrip (· == '0')))
    unfold manExpOfMantissa
    rw [hsplit]
    simp only [List.append_assoc]
    rw [hpad, pyInt_sign_digits hs hd' hne', hval]
  | false =>
    have hfp0 : fp = [] := hnd rfl
    subst hfp0
    have hm : ip ≠ [] := by rcases hne with h | h; exact h; exact absurd rfl h
    have hr : rstripL (· == '0') ([] : List Char) = [] := rfl
    rw [hr]
    have hsplit : splitOnC '.' (sg ++ (ip ++ dotStr false [])) = [sg ++ (ip ++ dotStr false [])] := by
      apply splitOnC_of_not_mem
      simp only [dotStr, Bool.false_eq_true, if_false, List.append_nil]
      exact not_mem_sign_digits hs hip hdotnd (by decide) (by decide)
    unfold manExpOfMantissa
    rw [hsplit]
    simp only [dotStr, Bool.false_eq_true, if_false, List.append_nil]
    rw [pyInt_sign_digits hs hip hm]
    simp

theorem e_not_mem_mantissa {sg ip : List Char} {dot : Bool} {fp : List Char} (hs : SignStr sg)
    (hip : Digits ip) (hfp : Digits fp) : 'e' ∉ sg ++ (ip ++ dotStr dot fp) := by
  have hedig : isDigitC 'e' = false := by decide
  rw [← List.append_assoc]
  intro hmem
  rcases List.mem_append.mp hmem with hx | hx
  · exact not_mem_sign_digits hs hip hedig (by decide) (by decide) hx
  · cases dot with
    | false => simp [dotStr] at hx
    | true =>
      simp only [dotStr, if_true, List.mem_cons] at hx
      rcases hx with hx | hx
      · revert hx; decide
      · exact hfp.not_mem hedig hx

/-- The split-and-convert part of the parser on a well-formed lower-case literal (no digit-count limit). -/
theorem strToManExpCore_litL {sg ip : List Char} {dot : Bool} {fp : List Char}
    {eo : Option (List Char × List Char)} (h : LitOK sg ip dot fp eo) :
    strToManExpCore (litL sg ip dot fp eo) 0 =
      .ok (signVal sg * (natOfDigits (ip ++ rstripL (· == '0') fp) : Int),
           expVal eo - ((rstripL (· == '0') fp).length : Int)) := by
  unfold strToManExpCore
  cases eo with
  | none =>
    have hl : litL sg ip dot fp none = sg ++ (ip ++ dotStr dot fp) := by simp [litL, expStr]
    have hsplit : splitOnC 'e' (litL sg ip dot fp none) = [litL sg ip dot fp none] := by
      apply splitOnC_of_not_mem
      rw [hl]
      exact e_not_mem_mantissa h.sign h.ipd h.fpd
    rw [hsplit]
    simp only [hl, expVal]
    exact manExpOfMantissa_mant 0 h.sign h.ipd h.fpd h.nodot h.nonempty
  | some p =>
    obtain ⟨es, ed⟩ := p
    obtain ⟨hes, hed, hne⟩ := h.exp es ed rfl
    have hl : litL sg ip dot fp (some (es, ed)) = (sg ++ (ip ++ dotStr dot fp)) ++ 'e' :: (es ++ ed) := by
      simp [litL, expStr]
    have hsplit : splitOnC 'e' (litL sg ip dot fp (some (es, ed))) =
        [sg ++ (ip ++ dotStr dot fp), es ++ ed] := by
      rw [hl, splitOnC_append_cons]
      · rw [splitOnC_of_not_mem (not_mem_sign_digits hes hed (by decide) (by decide) (by decide))]
      · exact e_not_mem_mantissa h.sign h.ipd h.fpd
    rw [hsplit]
    simp only [pyInt_sign_digits hes hed hne, expVal]
    exact manExpOfMantissa_mant _ h.sign h.ipd h.fpd h.nodot h.nonempty

/-! ### digit group separators -/

theorem toNat_lowerC_upper {c : Char} (h : 65 ≤ c.toNat ∧ c.toNat ≤ 90) :
    (lowerC c).toNat = c.toNat + 32 := by
  unfold lowerC
  rw [if_pos h, Char.toNat_ofNat, if_pos]; left; omega

theorem lowerC_eq_underscore (c : Char) : lowerC c = '_' ↔ c = '_' := by
  by_cases h : 65 ≤ c.toNat ∧ c.toNat ≤ 90
  · have h1 := toNat_lowerC_upper h
    constructor
    · intro he; rw [he] at h1; have : ('_' : Char).toNat = 95 := by decide
      omega
    · rintro rfl; exact absurd h (by decide)
  · unfold lowerC; rw [if_neg h]

theorem isDigitC_lowerC (c : Char) : isDigitC (lowerC c) = isDigitC c := by
  by_cases h : 65 ≤ c.toNat ∧ c.toNat ≤ 90
  · have h1 := toNat_lowerC_upper h
    have a : isDigitC (lowerC c) = false := by
      rw [Bool.eq_false_iff, ne_eq, isDigitC_iff]; omega
    have b : isDigitC c = false := by
      rw [Bool.eq_false_iff, ne_eq, isDigitC_iff]; omega
    rw [a, b]
  · unfold lowerC; rw [if_neg h]

theorem bne_lowerC_underscore (c : Char) : (lowerC c != '_') = (c != '_') := by
  by_cases h : c = '_'
  · subst h; decide
  · have : lowerC c ≠ '_' := fun e => h ((lowerC_eq_underscore c).mp e)
    rw [bne_iff_ne.mpr this, bne_iff_ne.mpr h]

theorem underscoresOK_map_lower (prev : Char) (l : List Char) :
    underscoresOK (lowerC prev) (l.map lowerC) = underscoresOK prev l := by
  induction l generalizing prev with
  | nil => exact bne_lowerC_underscore prev
  | cons x xs ih =>
    simp only [List.map_cons, underscoresOK, ih, isDigitC_lowerC, bne_lowerC_underscore,
      lowerC_eq_underscore]

theorem filter_map_lower (l : List Char) :
    (l.map lowerC).filter (· != '_') = (l.filter (· != '_')).map lowerC := by
  rw [List.filter_map]
  congr 1
  apply List.filter_congr
  intro c _
  simp only [Function.comp, bne_lowerC_underscore]

/-- a string that is a literal once the separators are removed consists of separators and literal characters -/
theorem sep_or_litChar {m sg ip : List Char} {dot : Bool} {fp : List Char}
    {eo : Option (List Char × List Char)} (h : LitOK sg ip dot fp eo)
    (hfil : m.filter (· != '_') = litL sg ip dot fp eo) : ∀ c ∈ m, c = '_' ∨ LitChar c := by
  intro c hc
  by_cases hu : c = '_'
  · exact Or.inl hu
  · exact Or.inr (litL_litChar h c (hfil ▸ List.mem_filter.mpr ⟨hc, by simpa using hu⟩))

/-- such characters survive `rstrip('l')` and `strip()` and are ASCII -/
theorem sep_or_litChar_inert {c : Char} (h : c = '_' ∨ LitChar c) :
    (c == 'l') = false ∧ isSpaceNum c = false ∧ isSpaceStrip c = false ∧ c.toNat < 128 := by
  rcases h with rfl | hl
  · decide
  · exact ⟨by simpa using hl.ne_l, hl.not_space, hl.not_spaceStrip, hl.ascii⟩

/-- The whole parser on a string that is, after removal of the separators and lower-casing, a
well-formed literal, and whose separators are placed as `float()` demands. -/
theorem strToManExp_of_shape {l : List Char} (hus : underscoresOK '\x00' l = true)
    {sg ip : List Char} {dot : Bool} {fp : List Char} {eo : Option (List Char × List Char)}
    (h : LitOK sg ip dot fp eo) (hmap : (l.filter (· != '_')).map lowerC = litL sg ip dot fp eo) :
    strToManExp l 0 =
      .ok (signVal sg * (natOfDigits (ip ++ rstripL (· == '0') fp) : Int),
           expVal eo - ((rstripL (· == '0') fp).length : Int)) := by
  have hfil : (l.map lowerC).filter (· != '_') = litL sg ip dot fp eo := by rw [filter_map_lower, hmap]
  have hin := fun c hc => sep_or_litChar_inert (sep_or_litChar h hfil c hc)
  have hus' : underscoresOK '\x00' (l.map lowerC) = true := by
    rw [← hus, ← underscoresOK_map_lower '\x00' l]
    rfl
  have hfloat : floatOK (l.map lowerC) = true := by
    unfold floatOK
    rw [show isAscii (l.map lowerC) = true from List.all_eq_true.2 fun c hc => decide_eq_true (hin c hc).2.2.2,
      stripL_eq_self_of_forall fun c hc => (hin c hc).2.1]
    simp only [hus', hfil, plainFloatOK_litL h, Bool.and_self]
  unfold strToManExp
  simp only [rstripL_eq_self_of_forall fun c hc => (hin c hc).1,
    stripL_eq_self_of_forall fun c hc => (hin c hc).2.2.1, hfloat, Bool.not_true, Bool.false_eq_true,
    if_false, hfil]
  exact strToManExpCore_litL h


/-! ### the value of a decimal literal -/

/-- sign factor of an optional leading sign character -/
def signZ (l : List Char) : ℤ :=
  match l with
  | '-' :: _ => -1
  | _ => 1

theorem signZ_eq_takeSign (l : List Char) : signZ l = if (takeSign l).1 then -1 else 1 := by
  unfold signZ takeSign
  split
  · simp
  · split <;> simp_all

theorem signZ_append {sg rest : List Char} (hs : SignStr sg)
    (hr : ∀ c r, rest = c :: r → c ≠ '+' ∧ c ≠ '-') : signZ (sg ++ rest) = signVal sg := by
  rw [signZ_eq_takeSign, takeSign_append hs hr, signVal]
  by_cases hm : sg = ['-'] <;> simp [hm]

/-- The rational value of a decimal literal `[+-] digits [. digits] [(e|E) [+-] digits]` (at least one
mantissa digit), read digit by digit (`natOfDigits` is the left fold `a ↦ 10·a + digit`);
`none` for any other string. -/
def decValueL (l : List Char) : Option ℚ :=
  let body := dropSign l
  let ip := body.takeWhile isDigitC
  let fr := fracPart (body.dropWhile isDigitC)
  if ip = [] ∧ fr.1 = [] then none else
  let mant : ℚ := (natOfDigits ip : ℚ) + (natOfDigits fr.1 : ℚ) / 10 ^ fr.1.length
  match fr.2 with
  | [] => some (signZ l * mant)
  | c :: r =>
    if (c = 'e' ∨ c = 'E') ∧ dropSign r ≠ [] ∧ (dropSign r).all isDigitC = true then
      some (signZ l * mant * (10 : ℚ) ^ (signZ r * (natOfDigits (dropSign r) : ℤ)))
    else none

/-- The value of a decimal literal in the grammar of Python's `float()`: digit group separators `_`
(each one between two digits) are dropped, then the plain literal is read by `decValueL`. -/
def decValueU (l : List Char) : Option ℚ :=
  if underscoresOK '\x00' l = true then decValueL (l.filter (· != '_')) else none

def decValue (s : String) : Option ℚ := decValueU s.toList

theorem sign_split (l : List Char) :
    ∃ sg, SignStr sg ∧ l = sg ++ dropSign l ∧ signZ l = signVal sg := by
  by_cases h1 : ∃ r, l = '+' :: r
  · obtain ⟨r, rfl⟩ := h1
    exact ⟨['+'], Or.inr (Or.inl rfl), rfl, by simp [signZ, signVal]⟩
  by_cases h2 : ∃ r, l = '-' :: r
  · obtain ⟨r, rfl⟩ := h2
    exact ⟨['-'], Or.inr (Or.inr rfl), rfl, by simp [signZ, signVal]⟩
  have hd : dropSign l = l := by
    unfold dropSign
    split
    · exact absurd ⟨_, rfl⟩ h1
    · exact absurd ⟨_, rfl⟩ h2
    · rfl
  have hz : signZ l = 1 := by
    unfold signZ
    split
    · exact absurd ⟨_, rfl⟩ h2
    · rfl
  exact ⟨[], Or.inl rfl, by rw [hd]; rfl, by rw [hz]; simp [signVal]⟩

theorem digits_takeWhile (l : List Char) : Digits (l.takeWhile isDigitC) :=
  fun _ hc => List.mem_takeWhile_imp hc

/-- what `fracPart` splits off is `.fp` or nothing -/
theorem fracPart_shape (t : List Char) :
    ∃ dot fp rest, fracPart t = (fp, rest) ∧ t = dotStr dot fp ++ rest ∧ Digits fp ∧
      (dot = false → fp = []) := by
  unfold fracPart
  split
  · next r' =>
    exact ⟨true, r'.takeWhile isDigitC, r'.dropWhile isDigitC, rfl,
      by simp [dotStr, List.takeWhile_append_dropWhile], digits_takeWhile r', by simp⟩
  · exact ⟨false, [], _, rfl, by simp [dotStr], by intro c hc; simp at hc, fun _ => rfl⟩

/-- every character list with a `decValueL` is, up to the case of the exponent marker, a well-formed literal -/
theorem decValueL_shape {l : List Char} {v : ℚ} (h : decValueL l = some v) :
    ∃ sg ip dot fp eo, LitOK sg ip dot fp eo ∧ l.map lowerC = litL sg ip dot fp eo ∧
      v = (signVal sg : ℚ) * ((natOfDigits ip : ℚ) + (natOfDigits fp : ℚ) / 10 ^ fp.length) *
            (10 : ℚ) ^ expVal eo := by
  obtain ⟨sg, hsg, hl, hsv⟩ := sign_split l
  unfold decValueL at h
  dsimp only at h
  set body := dropSign l with hbody
  set ip := body.takeWhile isDigitC with hip
  have hbd : body = ip ++ body.dropWhile isDigitC := (List.takeWhile_append_dropWhile).symm
  have hipd : Digits ip := digits_takeWhile body
  obtain ⟨dot, fp, rest, hfr, hrest, hfpd, hnd⟩ := fracPart_shape (body.dropWhile isDigitC)
  rw [hfr] at h
  dsimp only at h
  by_cases hne : ip = [] ∧ fp = []
  · rw [if_pos hne] at h; cases h
  rw [if_neg hne] at h
  have hne' : ip ≠ [] ∨ fp ≠ [] := by
    by_cases hi : ip = []
    · right; intro hf; exact hne ⟨hi, hf⟩
    · left; exact hi
  have hmapd : ∀ {d : List Char}, Digits d → d.map lowerC = d :=
    fun hd => map_lowerC_of_litChar hd.litChar
  have hmaps : sg.map lowerC = sg := map_lowerC_of_litChar hsg.litChar
  have hmapdot : (dotStr dot fp).map lowerC = dotStr dot fp := by
    cases dot with
    | false => simp [dotStr]
    | true => simp only [dotStr, if_true, List.map_cons, hmapd hfpd]; rfl
  cases rest with
  | nil =>
    dsimp only at h
    refine ⟨sg, ip, dot, fp, none, ⟨hsg, hipd, hfpd, hnd, hne', by intro _ _ h; cases h⟩, ?_, ?_⟩
    · rw [hl]
      conv_lhs => rw [hbd, hrest]
      simp only [List.map_append, hmaps, hmapd hipd, hmapdot, litL, expStr, List.map_nil]
    · have := Option.some.inj h
      rw [← this, hsv]
      simp [expVal]
  | cons c r =>
    dsimp only at h
    by_cases hc : (c = 'e' ∨ c = 'E') ∧ dropSign r ≠ [] ∧ (dropSign r).all isDigitC = true
    · rw [if_pos hc] at h
      obtain ⟨hce, hedne, hedall⟩ := hc
      obtain ⟨es, hes, hrl, hesv⟩ := sign_split r
      have hedd : Digits (dropSign r) := by
        intro x hx; exact (List.all_eq_true.mp hedall) x hx
      have hmapes : es.map lowerC = es := map_lowerC_of_litChar hes.litChar
      have hclow : lowerC c = 'e' := by rcases hce with rfl | rfl <;> decide
      refine ⟨sg, ip, dot, fp, some (es, dropSign r),
        ⟨hsg, hipd, hfpd, hnd, hne', ?_⟩, ?_, ?_⟩
      · intro es' ed' he
        cases he
        exact ⟨hes, hedd, hedne⟩
      · rw [hl]
        conv_lhs => rw [hbd, hrest, hrl]
        simp only [List.map_append, List.map_cons, hmaps, hmapd hipd, hmapdot, hmapes, hmapd hedd,
          hclow, litL, expStr]
      · have := Option.some.inj h
        rw [← this, hsv, hesv]
        simp [expVal]
    · rw [if_neg hc] at h; cases h

theorem natOfDigits_rstrip_zeros (fp : List Char) :
    ∃ k : ℕ, natOfDigits fp = natOfDigits (rstripL (· == '0') fp) * 10 ^ k ∧
      fp.length = (rstripL (· == '0') fp).length + k := by
  obtain ⟨suf, hs, hz⟩ := rstripL_spec (· == '0') fp
  refine ⟨suf.length, ?_, ?_⟩
  · conv_lhs => rw [hs]
    rw [natOfDigits_append, natOfDigits_zeros hz]; simp
  · conv_lhs => rw [hs]
    simp

theorem strToManExp_lower (x : List Char) (lim : Nat) :
    strToManExp (x.map lowerC) lim = strToManExp x lim := by
  have hid : ∀ c, lowerC (lowerC c) = lowerC c := by
    intro c
    unfold lowerC
    by_cases h : 65 ≤ c.toNat ∧ c.toNat ≤ 90
    · rw [if_pos h]
      have h1 : c.toNat + 32 < 0xd800 := by omega
      have : (Char.ofNat (c.toNat + 32)).toNat = c.toNat + 32 := by
        rw [Char.toNat_ofNat, if_pos]; left; omega
      rw [if_neg]; omega
    · rw [if_neg h, if_neg h]
  unfold strToManExp
  have : (x.map lowerC).map lowerC = x.map lowerC := by
    rw [List.map_map]; apply List.map_congr_left; intro c _; exact hid c
  rw [this]

theorem decValueU_eq_some {l : List Char} {v : ℚ} :
    decValueU l = some v ↔ underscoresOK '\x00' l = true ∧ decValueL (l.filter (· != '_')) = some v := by
  unfold decValueU
  by_cases hus : underscoresOK '\x00' l = true
  · rw [if_pos hus]; exact ⟨fun h => ⟨hus, h⟩, fun h => h.2⟩
  · rw [if_neg hus]; exact ⟨nofun, fun h => absurd h.1 hus⟩

/-- **The parser computes the value of the literal.** For every string with a `decValue` (including
separators, `.0`-style mantissas, either case of the exponent marker) the model of `str_to_man_exp`
(without digit-count limit) returns `(man, exp)` with `man · 10^exp` equal to that value. -/
theorem strToManExp_value {l : List Char} {v : ℚ} (h : decValueU l = some v) :
    ∃ man exp, strToManExp l 0 = .ok (man, exp) ∧ (man : ℚ) * (10 : ℚ) ^ exp = v := by
  obtain ⟨hus, h⟩ := decValueU_eq_some.1 h
  obtain ⟨sg, ip, dot, fp, eo, hok, hmap, hv⟩ := decValueL_shape h
  obtain ⟨k, hk1, hk2⟩ := natOfDigits_rstrip_zeros fp
  set fp' := rstripL (· == '0') fp with hfp'
  refine ⟨signVal sg * (natOfDigits (ip ++ fp') : Int), expVal eo - (fp'.length : Int),
    strToManExp_of_shape hus hok hmap, ?_⟩
  rw [hv, hk1, hk2]
  have h10 : (10 : ℚ) ≠ 0 := by norm_num
  rw [zpow_sub₀ h10, zpow_natCast, natOfDigits_append]
  push_cast
  rw [pow_add]
  field_simp

theorem decValueU_chars {l : List Char} {v : ℚ} (h : decValueU l = some v) :
    ∀ c ∈ l.map lowerC, c = '_' ∨ LitChar c := by
  obtain ⟨sg, ip, dot, fp, eo, hok, hmap, -⟩ := decValueL_shape (decValueU_eq_some.1 h).2
  exact sep_or_litChar hok (by rw [filter_map_lower, hmap])

theorem decValueU_of_decValueL {l : List Char} {v : ℚ} (h : decValueL l = some v) : decValueU l = some v := by
  obtain ⟨sg, ip, dot, fp, eo, hok, hmap, -⟩ := decValueL_shape h
  have hall := litL_litChar hok
  have hno : ∀ c ∈ l, c ≠ '_' := by
    intro c hc hu
    have : lowerC c ∈ l.map lowerC := List.mem_map_of_mem hc
    rw [hmap, hu, (lowerC_eq_underscore '_').mpr rfl] at this
    exact (hall _ this).ne_underscore rfl
  have : l.filter (· != '_') = l := by
    rw [List.filter_eq_self]; intro c hc; simpa using hno c hc
  exact decValueU_eq_some.2 ⟨underscoresOK_of_none (by decide) hno, by rw [this, h]⟩

end Mp

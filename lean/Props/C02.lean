/-
  Props/C02.lean — C02: basic real arithmetic is correctly rounded in every rounding mode.

  Vocabulary (MpProofs/Spec.lean): `val x : ℚ` the exact value of a finite raw mpf;
  `CanonFin x`: finite canonical encoding (zero, or odd mantissa with exact bit count);
  `RoundOK prec rnd x r`: `r` is canonical, equals `x` exactly when `prec = 0`, and otherwise is THE
  correctly rounded `prec`-bit value of `x` in mode `rnd` (relational definition, five modes, ties to
  even) with at most `prec` mantissa bits.  All statements are for mantissas of any length, exponents
  of any size, every precision and all five rounding modes.
-/
import MpProofs.Div

namespace Mp

/-- `_normalize` (the rounding kernel every operation ends in) is correct rounding. -/
theorem C02_normalize {sign : Nat} (hs : sign ≤ 1) (man : Nat) (exp : Int) {prec : Int} (hp : 0 < prec)
    (rnd : Rnd) :
    RoundOK prec rnd ((-1 : ℚ) ^ sign * ((man : ℚ) * 2 ^ exp)) (normalize sign man exp (bitcount man) prec rnd) :=
  normalize_spec hs man exp hp rnd

/-- `_normalize1` under its documented precondition (odd or zero mantissa). -/
theorem C02_normalize1 {sign : Nat} (hs : sign ≤ 1) {man : Nat} (hodd : man % 2 = 1 ∨ man = 0) (exp : Int)
    {prec : Int} (hp : 0 < prec) (rnd : Rnd) :
    RoundOK prec rnd ((-1 : ℚ) ^ sign * ((man : ℚ) * 2 ^ exp)) (normalize1 sign man exp (bitcount man) prec rnd) :=
  normalize1_spec hs hodd exp hp rnd

/-- construction from a signed mantissa/exponent pair and from an integer (exact for `prec = 0`). -/
theorem C02_from_man_exp (Z e : ℤ) {prec : ℤ} (hp : 0 ≤ prec) (rnd : Rnd) :
    RoundOK prec rnd ((Z : ℚ) * 2 ^ e) (from_man_exp Z e prec rnd) := from_man_exp_spec Z e hp rnd

theorem C02_from_int (n : ℤ) {prec : ℤ} (hp : 0 ≤ prec) (rnd : Rnd) :
    RoundOK prec rnd (n : ℚ) (from_int n prec rnd) := from_int_spec n hp rnd

/-- unary plus, negation, absolute value. -/
theorem C02_pos {s : Mpf} (hs : CanonFin s) {prec : ℤ} (hp : 0 ≤ prec) (rnd : Rnd) :
    RoundOK prec rnd (val s) (mpf_pos s prec rnd) := mpf_pos_spec hs hp rnd

theorem C02_neg {s : Mpf} (hs : CanonFin s) {prec : ℤ} (hp : 0 ≤ prec) (rnd : Rnd) :
    RoundOK prec rnd (-val s) (mpf_neg s prec rnd) := mpf_neg_spec hs hp rnd

theorem C02_abs {s : Mpf} (hs : CanonFin s) {prec : ℤ} (hp : 0 ≤ prec) (rnd : Rnd) :
    RoundOK prec rnd |val s| (mpf_abs s prec rnd) := mpf_abs_spec hs hp rnd

/-- addition and subtraction — every branch of `mpf_add`, including the far-apart-exponent
perturbation shortcut (after the repair of defect D1) and exact mode `prec = 0`. -/
theorem C02_add {s t : Mpf} (hs : CanonFin s) (ht : CanonFin t) {prec : ℤ} (hp : 0 ≤ prec) (rnd : Rnd) :
    RoundOK prec rnd (val s + val t) (mpf_add s t prec rnd) := by
  simpa using mpf_add_spec hs ht hp rnd false

theorem C02_sub {s t : Mpf} (hs : CanonFin s) (ht : CanonFin t) {prec : ℤ} (hp : 0 ≤ prec) (rnd : Rnd) :
    RoundOK prec rnd (val s - val t) (mpf_sub s t prec rnd) := mpf_sub_spec hs ht hp rnd

/-- multiplication (the pure-Python variant with the fast bit-count update). -/
theorem C02_mul {s t : Mpf} (hs : CanonFin s) (ht : CanonFin t) {prec : ℤ} (hp : 0 ≤ prec) (rnd : Rnd) :
    RoundOK prec rnd (val s * val t) (mpf_mul s t prec rnd) := mpf_mul_spec hs ht hp rnd

theorem C02_mul_int {s : Mpf} (hs : CanonFin s) (n : ℤ) {prec : ℤ} (hp : 0 < prec) (rnd : Rnd) :
    RoundOK prec rnd (val s * n) (mpf_mul_int s n prec rnd) := mpf_mul_int_spec hs n hp rnd

/-- division by a nonzero divisor gives the correctly rounded quotient (a zero divisor raises: `C02_div_zero`). -/
theorem C02_div {s t : Mpf} (hs : CanonFin s) (ht : CanonFin t) (ht0 : t ≠ fzero) {prec : ℤ} (hp : 0 < prec)
    (rnd : Rnd) : ∃ r, mpf_div s t prec rnd = .ok r ∧ RoundOK prec rnd (val s / val t) r :=
  mpf_div_spec hs ht ht0 hp rnd

theorem C02_div_zero {s : Mpf} (hs : CanonFin s) (prec : ℤ) (rnd : Rnd) :
    mpf_div s fzero prec rnd = .error .zeroDiv := mpf_div_zero hs prec rnd

theorem C02_rdiv_int (n : ℤ) {t : Mpf} (ht : CanonFin t) (ht0 : t ≠ fzero) {prec : ℤ} (hp : 0 < prec)
    (rnd : Rnd) : ∃ r, mpf_rdiv_int n t prec rnd = .ok r ∧ RoundOK prec rnd ((n : ℚ) / val t) r :=
  mpf_rdiv_int_spec n ht ht0 hp rnd

/-- construction from a rational `p/q` (the `Fraction`/`mpq` operand path). -/
theorem C02_from_rational (p q : ℤ) (hq : q ≠ 0) {prec : ℤ} (hp : 0 < prec) (rnd : Rnd) :
    ∃ r, from_rational p q prec rnd = .ok r ∧ RoundOK prec rnd ((p : ℚ) / q) r :=
  from_rational_spec p q hq hp rnd

/-- The correctly rounded value is unique: two results meeting `RoundOK` for the same input have
the same value. This is what makes the bit-exact comparison of the implementation with the
(proved) model a *decision* of the property. -/
theorem C02_round_unique {prec : ℤ} (hp : 0 < prec) {rnd : Rnd} {x : ℚ} {r r' : Mpf}
    (h : RoundOK prec rnd x r) (h' : RoundOK prec rnd x r') : val r = val r' :=
  isRound_unique (h.isRound hp) (h'.isRound hp)

/-! non-vacuity: the hypotheses are met by concrete non-trivial operands -/
example : CanonFin (⟨0, 5, -3, 3⟩ : Mpf) ∧ CanonFin (⟨1, 0x1fffffffffffff, 100, 53⟩ : Mpf) ∧
    (⟨0, 5, -3, 3⟩ : Mpf) ≠ fzero := by decide

end Mp

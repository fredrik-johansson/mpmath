/-
  Props/C24.lean — property C24 "function evaluations terminate" (PARTIAL: loop skeletons).

  What is proved: for every loop CLASS into which `tools/loop_extract.py` abstracts the `while` loops of
  /repo/mpmath, a termination theorem with an explicit iteration bound, quantified over every start state and
  every environment (the values the skeleton does not record are adversarial).  `Gen/LoopSkel.lean`
  (regenerated from the working tree on every run) applies `Cls.terminates_of_check` (here `skeleton_terminates`)
  to every extracted loop whose class carries a theorem; loops of class `tol` / `unknown` are listed there as open.

  What is NOT proved: (1) that the translator's classification is right (it is syntactic; the dynamic part of the
  check confirms it), (2) the numeric preconditions of the classes (`v ≥ 0`, `0 ≤ r ≤ 2^b < 2^prec`, `n ≥ 0`) at the
  call sites, (3) anything about loops of class `tol` / `unknown`: `tol_may_diverge` and `tol_class_is_open` show
  that their skeleton alone does not terminate, so they are listed as OPEN obligations and attacked dynamically.

  Full-strength statement (not provable from skeletons; kept for the record):
    ∀ f ∈ elementary ∪ special functions, ∀ finite x with |x| ≤ 10^6, ∀ prec ∈ [10, few thousand],
      eval f x prec returns or raises a documented exception after boundedly many steps.
-/
import MpProofs.LoopSkel

namespace Mp
namespace C24
open LoopSkel

/-- `while i < n: …; i += c` (n not assigned in the body, every increment ≥ step ≥ 1) executes at most
    ⌈(n − i)/step⌉ bodies. -/
theorem counter_terminates (step : Nat) (hstep : 1 ≤ step) (n i : Int) (inc : Nat → Nat)
    (hinc : ∀ k, step ≤ inc k) :
    (counterLoop n inc).ExitsWithin i (((n - i).toNat + step - 1) / step) :=
  LoopSkel.counter_terminates step hstep n i inc hinc

example : ∀ k : Nat, 2 ≤ (fun _ : Nat => 2) k := fun _ => Nat.le_refl _
example : (counterLoop 7 (fun _ => 2)).run 4 0 0 = some (4, 8) := by decide

/-- `while n: …; n -= 1` entered with `n ≥ 0` executes exactly-at-most `n` bodies … -/
theorem countdown_terminates (n : Int) (hn : 0 ≤ n) : countdownLoop.ExitsWithin n n.toNat :=
  LoopSkel.countdown_terminates n hn

/-- … and never exits when entered with `n < 0` (the precondition is necessary). -/
theorem countdown_negative_counterexample (n : Int) (hn : n < 0) : countdownLoop.Diverges n := by
  apply countdownLoop.diverges_of_invariant (fun v => v < 0)
  · intro k s hs; simp only [countdownLoop]; omega
  · intro s hs; simp only [countdownLoop, bne_iff_ne, ne_eq]; omega
  · exact hn

/-- `while n: …; n //= d` / `n >>= s` (d = 2^s ≥ 2; includes binary powering) entered with `n ≥ 0` reaches 0 within
    `bitcount n` bodies. -/
theorem halving_terminates (d : Nat) (hd : 2 ≤ d) (n : Int) (hn : 0 ≤ n) :
    (divLoop d).ExitsWithin n (bitcount n.toNat) :=
  LoopSkel.halving_terminates d hd n hn

example : (divLoop 2).run 4 0 13 = some (4, 0) := by decide

/-- Python floor semantics: entered with `n < 0` the same loop sticks at −1 and never exits. -/
theorem halving_negative_counterexample (d : Nat) (hd : 1 ≤ d) (n : Int) (hn : n < 0) : (divLoop d).Diverges n := by
  apply (divLoop d).diverges_of_invariant (fun v => v < 0)
  · intro k s hs
    simp only [divLoop]
    exact Int.ediv_neg_of_neg_of_pos hs (by omega)
  · intro s hs; simp only [divLoop, bne_iff_ne, ne_eq]; omega
  · exact hn

example : (divLoop 2).run 50 0 (-13) = none := by decide

/-- `while not n % p: n //= p` (`while not man & 255: man >>= 8` is p = 256) with `n ≠ 0` executes at most
    `bitcount n` bodies; with `n = 0` it never exits. -/
theorem strip_terminates (p : Nat) (hp : 2 ≤ p) (n : Nat) (hn : n ≠ 0) :
    (stripLoop p).ExitsWithin n (bitcount n) :=
  LoopSkel.strip_terminates p hp n hn

theorem strip_zero_counterexample (p : Nat) : (stripLoop p).Diverges 0 := by
  apply (stripLoop p).diverges_of_invariant (fun v => v = 0)
  · intro k s hs; subst hs; simp [stripLoop]
  · intro s hs; subst hs; simp [stripLoop]
  · rfl

/-- Euclid's loop `while b: a, b = b, a % b` (Python `%`) executes at most `|b|` bodies for all signs. -/
theorem euclid_terminates (a b : Int) : euclidLoop.ExitsWithin (a, b) b.natAbs := LoopSkel.euclid_terminates a b

/-- **fixdecay.** `while abs(v) > m:` whose body updates `v` only by `v = (v*r) >> prec` (at least once) and `v //= d`,
    entered with `v ≥ 0`, multipliers `0 ≤ r ≤ 2^b` with `b < prec` and divisors `d ≥ 1` (all may change from
    iteration to iteration), exits within `K` bodies for every `K` with `bitcount v ≤ (prec − b)·K`. -/
theorem fixdecay_terminates {p b : Nat} (hb : b < p) (ops : List DecayOp) (m : Nat)
    (env : Nat → Nat → Int × Int) (henv : EnvOK p b 1 env)
    (hpure : ops.all DecayOp.isPure = true) (hmul : ops.contains .mulShift = true)
    (v : Int) (hv : 0 ≤ v) (K : Nat) (hK : bitcount v.toNat ≤ (p - b) * K) :
    (decayLoop p ops m env).ExitsWithin v K :=
  LoopSkel.fixdecay_terminates_rate hb ops m env henv hpure hmul v hv K hK

-- non-vacuity: the body of `log_taylor` (`v = (v*v4) >> 10`) with v4 = 2^8, v = 1000: 10 = bitcount 1000 ≤ 2·5
example : EnvOK 10 8 1 (fun _ _ => (256, 1)) := fun _ _ => by
  refine ⟨?_, ?_, ?_⟩ <;> simp only <;> decide
example : (decayLoop 10 [.mulShift] 0 (fun _ _ => (256, 1))).run 5 0 1000 = some (5, 0) := by decide

/-- **the signed trap.** The same loop (test `while v:`) entered with `v < 0` and multipliers ≥ 1 never exits:
    `(v*r) >> prec` is a floor and sticks at −1. -/
theorem fixdecay_negative_counterexample (p : Nat) (ops : List DecayOp) (env : Nat → Nat → Int × Int)
    (henv : ∀ k j, 1 ≤ (env k j).1 ∧ 1 ≤ (env k j).2) (hpure : ops.all DecayOp.isPure = true)
    (v : Int) (hv : v < 0) : (decayLoop p ops 0 env).Diverges v := by
  apply (decayLoop p ops 0 env).diverges_of_invariant (fun v => v < 0)
  · intro k s hs
    exact applyOps_pure_neg (env k) (henv k) ops 0 s hpure hs
  · intro s hs
    simp only [decayLoop, decide_eq_true_eq]; omega
  · exact hv

example : (decayLoop 10 [.mulShift] 0 (fun _ _ => (256, 1))).run 100 0 (-1000) = none := by decide

/-- **fixdecay, the sign-alternating body of `cos_sin_basecase`**
    (`a //= k; a = (a*x) >> prec; a //= k; a = -((a*x) >> prec)`, `0 ≤ x ≤ 2^b`, `b < prec`, `k ≥ 2`):
    exits from ANY start, of either sign, within `2|a| + 1` bodies. -/
theorem fixdecay_alt_terminates {p b : Nat} (hb : b < p) (m : Nat) (env : Nat → Nat → Int × Int)
    (henv : EnvOK p b 2 env) (v : Int) :
    (decayLoop p cosSinOps m env).ExitsWithin v (2 * v.natAbs + 1) :=
  LoopSkel.fixdecay_alt_terminates hb m env henv v

example : (decayLoop 10 cosSinOps 0 (fun _ _ => (700, 2))).run 9 0 (-1000) = some (4, 0) := by decide

/-- the loop of `giant_steps(start, target, n)` (`while L[-1] > start*n: L += [L[-1]//n + 2]`) executes at most
    `target` bodies when `n ≥ 2`, `start ≥ 1` and `start·n ≥ 3`. -/
theorem giant_steps_finite (start n : Nat) (hn : 2 ≤ n) (hs : 1 ≤ start) (h3 : 3 ≤ start * n) (target : Nat) :
    (giantLoop start n).ExitsWithin target target :=
  LoopSkel.giant_steps_finite start n hn hs h3 target

example : giantSteps 50 2 1000 [1000] = some [66, 128, 253, 502, 1000] := by decide

/-- `giant_steps(1, target)` (default `n = 2`) never returns for any `target ≥ 3`: the hypothesis `start·n ≥ 3`
    cannot be dropped.  (All callers in /repo use start ≥ 8.) -/
theorem giant_steps_start1_counterexample (target : Nat) (ht : 3 ≤ target) : (giantLoop 1 2).Diverges target := by
  apply (giantLoop 1 2).diverges_of_invariant (fun x => 3 ≤ x)
  · intro k s hs; simp only [giantLoop]; omega
  · intro s hs; simp only [giantLoop, decide_eq_true_eq]; omega
  · exact ht

/-- **tolOrDiverge.** `if k > k0 and (|term| <= eps or term >= prev): break` exits on every sequence of term
    magnitudes that is eventually ≤ eps or eventually non-decreasing (strict guard: eventually increasing). -/
theorem tolOrDiverge_terminates (a : Nat → Nat) (eps k0 : Nat) (strict : Bool)
    (h : EventuallyLE a eps ∨ (if strict then EventuallyIncreasing a else EventuallyNondecreasing a)) :
    ∃ N, (tolOrDivLoop a (some eps) k0 strict).ExitsWithin 0 N :=
  LoopSkel.tolOrDiverge_terminates a eps k0 strict h

example : EventuallyNondecreasing (unimodal 3) := ⟨10, fun k hk => by unfold unimodal; split_ifs <;> omega⟩

/-- the guard of `mpf_psi0` (`if k > 2 and term >= prev: break`, integer terms) exits on EVERY sequence, within
    `k0 + a(k0) + 1` bodies: natural numbers cannot decrease forever. -/
theorem divGuard_terminates (a : Nat → Nat) (k0 : Nat) :
    (tolOrDivLoop a none k0 false).ExitsWithin 0 (k0 + a k0 + 1) :=
  LoopSkel.divGuard_terminates a k0

/-- **tol.** A loop that exits ONLY on `|term| <= eps` (`mpc_psi0`, `mpc_psi`, …) never exits on the unimodal
    sequence `eps+1+|k−10|` — the shape of an asymptotic series used where its smallest term exceeds eps. -/
theorem tol_may_diverge (eps k0 : Nat) : (tolLoop (unimodal eps) eps k0).Diverges 0 :=
  LoopSkel.tol_may_diverge eps k0

example : (tolLoop (unimodal 5) 5 2).run 200 0 0 = none := by decide
example : (tolOrDivLoop (unimodal 5) (some 5) 2 false).run 200 0 0 = some (11, 11) := by decide

/-- hence the class statement is false for `tol`: those loops are OPEN obligations -/
theorem tol_class_is_open : ¬ Cls.tol.Terminates := by
  intro h
  obtain ⟨N, hN⟩ := h (unimodal 0) 0 0
  exact Loop.not_exits_of_diverges (LoopSkel.tol_may_diverge 0 0) N hN

/-- a tolerance loop with an iteration cap (`if k > maxit: raise NoConvergence`) executes at most `maxit+1−k` more
    bodies whatever the tolerance test says. -/
theorem bounded_terminates (done : Nat → Bool) (maxit k : Nat) :
    (boundedLoop done maxit).ExitsWithin k (maxit + 1 - k) :=
  LoopSkel.bounded_terminates done maxit k

/-- **hypsum.** `while 1: if extraprec > maxprec: raise; …; if accurate: break; extraprec = 2*extraprec + 5`
    breaks or raises within `log2 maxprec + 1` retries, whatever the summations report. -/
theorem hypsum_prec_bounded (enough : Nat → Bool) (maxprec e : Nat) (he : 1 ≤ e) :
    (retryLoop enough hypsumGrow maxprec).ExitsWithin (0, e) (Nat.log2 maxprec + 1) :=
  LoopSkel.retry_doubling_terminates enough hypsumGrow maxprec e he hypsumGrow_double

example : (retryLoop (fun _ => false) hypsumGrow 6000).run 20 0 (0, 25) = some (8, 8, 7675) := by decide

/-- **hypercomb / autoprec-style retry** with any strictly increasing precision schedule: at most
    `maxprec + 1 − e` retries. -/
theorem retry_prec_bounded (enough : Nat → Bool) (grow : Nat → Nat) (maxprec e : Nat) (hg : ∀ x, x < grow x) :
    (retryLoop enough grow maxprec).ExitsWithin (0, e) (maxprec + 1 - e) :=
  LoopSkel.retry_incr_terminates enough grow maxprec e hg

/-- the executable small-step semantics returns whenever `ExitsWithin` holds (fuel = the bound) -/
theorem run_returns_of_exitsWithin {σ : Type} (L : Loop σ) (s : σ) (N : Nat) (h : L.ExitsWithin s N) :
    (L.run N 0 s).isSome := by
  obtain ⟨k, hk, hc⟩ := h
  exact L.run_isSome_aux s N 0 ⟨k, hk, by simpa using hc⟩

/-- a skeleton whose extracted parameters pass the syntactic check satisfies the termination statement of its
    class (the generated obligations apply `Cls.terminates_of_check`, of which this is the property-level name) -/
theorem skeleton_terminates (c : Cls) (h : c.check = true) : c.Terminates :=
  Cls.terminates_of_check c h

end C24
end Mp

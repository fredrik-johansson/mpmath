/-
  Props/C29.lean — property C29: root finders return genuine roots, in the documented order.

  What is proved here (helper lemmas: MpProofs/RootCert.lean, MpProofs/RootOrder.lean):
  * the inclusion theorem over ℂ and the soundness of the executable certificate checkers of
    MpModel/RootCert.lean that decide every root returned by `polyroots` / `findroot` in the harness;
  * the ordering produced by the post-processing of `polyroots`.  Of the sort by `(|Im|, Re)` alone (model
    `polyrootsOrder`): real roots first and sorted; conjugates adjacent only under a hypothesis on the keys,
    not in general (counterexample D13).  Of the sort followed by the pairing pass (model
    `polyrootsOrderPatched`, the code of `polyroots`): permutation and shape, unconditionally;
  * the decision logic of `findroot`'s verify test, `multiplicity`'s loop and the two candidate rules for
    `MNewton`'s derivative keyword selection (`mnewtonD2f` reads `kwargs['df']`, `mnewtonD2fFixed` reads
    `kwargs['d2f']` as `MNewton.__init__` does).
  Not proved: convergence of any solver (checked per returned value by the harness).
-/
import MpProofs.RootCert
import MpProofs.RootOrder

open Polynomial

namespace Mp
open RootCert

/-! ### inclusion radius -/

/-- **rootIncl_sound.** For a complex polynomial `P` of degree `n ≥ 1` (more generally `natDegree P ≤ n`)
and any `r` with `P'(r) ≠ 0`, some root `z` of `P` satisfies `|z − r| ≤ n·|P(r)|/|P'(r)|`. -/
theorem rootIncl_sound (P : ℂ[X]) (n : ℕ) (hn : P.natDegree ≤ n) (r : ℂ)
    (hd : P.derivative.eval r ≠ 0) :
    ∃ z : ℂ, P.IsRoot z ∧ ‖z - r‖ ≤ n * ‖P.eval r‖ / ‖P.derivative.eval r‖ :=
  rootIncl_complex P n hn r hd

example : ∃ z : ℂ, (X ^ 2 - C 2 : ℂ[X]).IsRoot z ∧
    ‖z - 1‖ ≤ (2 : ℕ) * ‖(X ^ 2 - C 2 : ℂ[X]).eval 1‖ / ‖(derivative (X ^ 2 - C 2 : ℂ[X])).eval 1‖ :=
  rootIncl_sound _ 2 natDegree_X_pow_sub_C.le 1 (by
    -- `P'(1) = 2`
    rw [derivative_sub, derivative_C, sub_zero, derivative_X_pow, eval_mul, eval_C, eval_pow, eval_X,
      one_pow, mul_one]
    exact Nat.cast_ne_zero.2 two_ne_zero)

/-- **squared comparison.** On fractions denoting `b², c², a²` with `a, b, c ≥ 0` the executable test
`sqrtSumLt` decides `b + c < a` exactly (no square root is computed, nothing is rounded). -/
theorem sqrtSumLt_iff (B C A : Q) (b c a : ℝ) (hb : 0 ≤ b) (hc : 0 ≤ c) (ha : 0 ≤ a)
    (hB : B.toReal = b ^ 2) (hC : C.toReal = c ^ 2) (hA : A.toReal = a ^ 2) :
    sqrtSumLt B C A = true ↔ b + c < a :=
  sqrtSumLt_eq_true_iff B C A b c a hb hc ha hB hC hA

example : sqrtSumLt (Q.ofInt 1) (Q.ofInt 4) (Q.ofInt 10) = true := by decide
example : sqrtSumLt (Q.ofInt 1) (Q.ofInt 4) (Q.ofInt 9) = false := by decide

/-- **the executable radius is the real radius squared**: `rootInclSq cs r` (Gaussian rationals, Horner)
denotes `(n·|P(r)|/|P'(r)|)²` for `P = polyOf cs`, `n = len(cs) − 1`. -/
theorem rootInclSq_cast (cs : List GQ) (r : GQ) :
    (rootInclSq cs r).toReal =
      ((degOf cs : ℝ) * ‖(polyOf cs).eval r.toC‖ / ‖(polyOf cs).derivative.eval r.toC‖) ^ 2 :=
  rootInclSq_toReal cs r

/-- **polyrootsCheck, per-root part (b).** If the report says `incl = ok`, every returned root has a
genuine complex root of the input polynomial within `tol`. -/
theorem polyrootsCheck_incl_sound (cs roots : List GQ) (tol : Q)
    (h : (polyrootsReport cs roots tol).incl = .ok) :
    ∀ r ∈ roots, ∃ z : ℂ, (polyOf cs).IsRoot z ∧ ‖z - r.toC‖ ≤ tol.toReal :=
  fun r hr => (incl_ok_sound h r hr).2

/-- **polyrootsCheck_sound.** Verdict `ok` means: exactly `len(cs) − 1 ≥ 1` roots were returned, and
the multiset of ALL complex roots of the polynomial (with multiplicity) can be listed as `zs` with
`zs[i]` within `tol` of the `i`-th returned root — the returned roots are matched one-to-one with the
true roots. -/
theorem polyrootsCheck_sound (cs roots : List GQ) (tol : Q) (h : polyrootsCheck cs roots tol = .ok) :
    roots.length = degOf cs ∧ 1 ≤ degOf cs ∧
    ∃ zs : List ℂ, (polyOf cs).roots = (zs : Multiset ℂ) ∧
      List.Forall₂ (fun z r => ‖z - r.toC‖ ≤ tol.toReal) zs roots := by
  obtain ⟨hcount, hincl, hmatch⟩ := polyrootsCheck_ok h
  simp only [polyrootsReport, Bool.and_eq_true, decide_eq_true_eq, ite_eq_left_iff, reduceCtorEq,
    imp_false, Decidable.not_not] at hcount hmatch
  obtain ⟨zs, hz1, hz2⟩ := matching_sound cs roots hcount.1 hmatch.1 hmatch.2
  exact ⟨hcount.1, hcount.2, zs, hz1,
    forall₂_radius_le cs tol zs roots hz2 fun r hr => (incl_ok_sound hincl r hr).1⟩

/-- non-vacuity: `x² − 2` with the returned roots `±1.4142` and tolerance `10⁻³` is accepted -/
example : polyrootsCheck [GQ.ofQ (Q.ofInt 1), GQ.zero, GQ.ofQ (Q.ofInt (-2))]
    [GQ.ofQ (Q.mk' 14142 10000), GQ.ofQ (Q.mk' (-14142) 10000)] (Q.mk' 1 1000) = .ok := by decide +kernel

/-- a double root is reported `undecided`, not `ok`: `(x−1)²` with returned roots `1 ± 10⁻⁴` -/
example : polyrootsCheck [GQ.ofQ (Q.ofInt 1), GQ.ofQ (Q.ofInt (-2)), GQ.ofQ (Q.ofInt 1)]
    [GQ.ofQ (Q.mk' 10001 10000), GQ.ofQ (Q.mk' 9999 10000)] (Q.mk' 1 1000) = .undecided := by decide +kernel

/-! ### findroot -/

/-- **findrootCheck, residual.** Verdict `ok`: every component `f_i = N_i/D_i` has `D_i(x) ≠ 0` and
`|f_i(x)|² ≤ tol` at the returned point — i.e. `max_i |f_i(x)|² ≤ tol`, the exact form of
`norm(f(x))**2 <= tol` with the max-norm used by `findroot`. -/
theorem findrootCheck_residual_sound (fs : List RatFun) (xs : List GQ) (tol : Q) (br : Option (Q × Q))
    (h : (findrootCheck fs xs tol br).residual = .ok) :
    ∀ f ∈ fs, mpolyC f.denom (xs.map GQ.toC) ≠ 0 ∧
      ‖mpolyC f.numer (xs.map GQ.toC) / mpolyC f.denom (xs.map GQ.toC)‖ ^ 2 ≤ tol.toReal := by
  intro f hf
  have := combineIncl_ok h (residualVerdict tol xs f) (List.mem_map.2 ⟨f, hf, rfl⟩)
  exact residualVerdict_sound tol xs f this

/-- **findrootCheck, bracket.** Verdict `ok` for a bracket `(a, b)`: the result is a single real number
between the bracket ends (in either order). -/
theorem findrootCheck_bracket_sound (fs : List RatFun) (xs : List GQ) (tol : Q) (a b : Q)
    (h : (findrootCheck fs xs tol (some (a, b))).bracket = .ok) :
    ∃ x, xs = [x] ∧ x.toC.im = 0 ∧ min a.toReal b.toReal ≤ x.toC.re ∧ x.toC.re ≤ max a.toReal b.toReal := by
  unfold findrootCheck at h
  simp only at h
  split at h
  · rename_i a' b' x heq
    simp only [Option.some.injEq, Prod.mk.injEq] at heq
    obtain ⟨rfl, rfl⟩ := heq
    split at h
    · rename_i hb; exact ⟨x, rfl, inBracket_sound _ _ x hb⟩
    · exact absurd h (by decide)
  · exact absurd h (by decide)
  · exact absurd h (by decide)

/-- **verify_spec.** If `findroot(..., verify=True)` returns (the model of its last test does not raise),
then the comparison it performed is `normSq ≤ tol` on the values of the two mpf numbers
(`normSq = norm(f(x))**2` as computed at the working precision, `tol` the tolerance). -/
theorem verify_spec {normSq tol : Mpf} (hn : CanonFin normSq) (ht : CanonFin tol)
    (h : findrootVerify true normSq tol = .ok ()) : val normSq ≤ val tol := by
  unfold findrootVerify at h
  rw [mpf_gt_spec hn ht] at h
  by_contra hc
  have : val normSq > val tol := lt_of_not_ge hc
  simp [this] at h

example : findrootVerify true fone ftwo = .ok () := by decide
example : findrootVerify true ftwo fone = .error .value := by decide

/-! ### ordering of `polyroots` -/

/-- **sortKey_real_first.** For canonical finite inputs and working precision ≥ 1, in the list produced by
the sort of `polyroots` no root with nonzero imaginary part precedes a real root, and the real roots
are in non-decreasing order of value. -/
theorem sortKey_real_first {wp : ℤ} (hp : 0 < wp) (roots : List Root) (hwf : ∀ r ∈ roots, r.WF) :
    (polyrootsOrder wp roots).Pairwise (fun a b =>
      (b.imag = fzero → a.imag = fzero) ∧ (a.imag = fzero → b.imag = fzero → val a.re ≤ val b.re)) := by
  have hmem : ∀ r ∈ polyrootsOrder wp roots, r.WF := fun r hr =>
    hwf r ((polyrootsOrder_perm wp roots).mem_iff.1 hr)
  refine (List.Pairwise.and_mem.1 (polyrootsOrder_sorted hp.le roots hwf)).imp ?_
  rintro a b ⟨ha, -, hab⟩
  constructor
  · -- a non-real `a` has first key component `> 0`, a real `b` has `0`
    intro hb0
    by_contra ha0
    have hpos := mpf_abs_val_pos (hmem a ha).imag ha0 hp
    rw [keyVal_real hb0, keyVal, Prod.Lex.toLex_le_toLex] at hab
    exact hab.elim (lt_asymm hpos) fun h => hpos.ne' h.1
  · intro ha0 hb0
    rw [keyVal_real ha0, keyVal_real hb0, Prod.Lex.toLex_le_toLex] at hab
    exact hab.elim (fun h => absurd h (lt_irrefl _)) fun h => h.2

/-- **sortKey_conj_adjacent_partial.** Conjugates end up adjacent PROVIDED the two members `a`, `b` of the
pair have identical keys (identical `Re`, identical rounded `|Im|`) and no other root of the list has
that key.  The sort alone does not give "for real-coefficient polynomials complex roots are listed as
adjacent conjugate pairs" (`sortKey_conj_adjacent_counterexample`): the computed `|Im|` of two conjugates
are NOT identical in general. -/
theorem sortKey_conj_adjacent_partial {wp : ℤ} (hp : 0 ≤ wp) (roots rest : List Root) (a b : Root)
    (hwf : ∀ r ∈ roots, r.WF) (hperm : roots.Perm (a :: b :: rest))
    (hab : keyVal wp b = keyVal wp a) (hrest : ∀ c ∈ rest, keyVal wp c ≠ keyVal wp a) :
    ∃ l1 l2, polyrootsOrder wp roots = l1 ++ [a, b] ++ l2 ∨ polyrootsOrder wp roots = l1 ++ [b, a] ++ l2 := by
  classical
  have hs := polyrootsOrder_sorted hp roots hwf
  have hpo := (polyrootsOrder_perm wp roots).trans hperm
  generalize polyrootsOrder wp roots = out at hs hpo
  have h := sorted_three_parts (keyVal wp) (keyVal wp a) out hs
  -- the `= key a` part holds exactly `a` and `b`
  have hmid : (out.filter fun x => decide (keyVal wp x = keyVal wp a)).Perm [a, b] := by
    refine (hpo.filter _).trans ?_
    have hr : rest.filter (fun x => decide (keyVal wp x = keyVal wp a)) = [] :=
      List.filter_eq_nil_iff.2 fun c hc => by simp [hrest c hc]
    simp [hab, hr]
  rcases List.perm_pair.1 hmid with h' | h'
  · exact ⟨_, _, Or.inl (by rw [List.append_assoc, ← h']; exact h)⟩
  · exact ⟨_, _, Or.inr (by rw [List.append_assoc, ← h']; exact h)⟩

/-- non-vacuity of `sortKey_conj_adjacent_partial`: the list `[1+i, 3, 1−i]` at 63 bits -/
example : ∃ l1 l2, polyrootsOrder 63 [C29c fone fone, ⟨false, ⟨0, 3, 0, 2⟩, fzero⟩, C29c fone fnone]
      = l1 ++ [C29c fone fone, C29c fone fnone] ++ l2 ∨
    polyrootsOrder 63 [C29c fone fone, ⟨false, ⟨0, 3, 0, 2⟩, fzero⟩, C29c fone fnone]
      = l1 ++ [C29c fone fnone, C29c fone fone] ++ l2 := by
  have h1 : mpf_abs (C29c fone fnone).imag 63 .n = fone := by decide +kernel
  have h2 : mpf_abs (C29c fone fone).imag 63 .n = fone := by decide +kernel
  have h3 : mpf_abs (⟨false, ⟨0, 3, 0, 2⟩, fzero⟩ : Root).imag 63 .n = fzero := by decide +kernel
  refine sortKey_conj_adjacent_partial (by norm_num) _ [⟨false, ⟨0, 3, 0, 2⟩, fzero⟩] _ _ (by decide) ?_ ?_ ?_
  · exact List.Perm.cons _ (List.Perm.swap _ _ [])
  · unfold keyVal; rw [h1, h2]; rfl
  · intro c hc
    simp only [List.mem_singleton] at hc
    subst hc
    unfold keyVal
    rw [h3, h2]
    intro h
    have := congrArg (fun p : ℚ ×ₗ ℚ => (ofLex p).1) h
    simp [val, fzero, fone] at this

example : ∀ r ∈ C29d13, r.WF := by decide
example : (0 : ℤ) < 63 := by norm_num

/-- **sortKey_conj_adjacent_counterexample (D13).** On the values the iteration of `polyroots` holds for
`(x²−2x+2)(x²+2x+2)(x²−4x+5)` at 53 bits, a post-processing that only sorts (`polyPost`: cleanup, sort,
rounding to 53 bits) returns `[2+i, −1−i, −1+i, 1−i, 1+i, 2−i]`: after rounding the roots are three exact
conjugate pairs, yet they are not listed as adjacent pairs. -/
theorem sortKey_conj_adjacent_counterexample :
    (polyPost 63 53 true C29d13).toOption = some C29d13Out ∧ realsThenConjPairs C29d13Out = false ∧
    (∃ l, l.Perm C29d13Out ∧ realsThenConjPairs l = true) := by
  refine ⟨by decide +kernel, by decide +kernel, ?_⟩
  refine ⟨[C29c ftwo fone, C29c ftwo fnone, C29c fnone fnone, C29c fnone fone, C29c fone fnone, C29c fone fone],
    ?_, by decide +kernel⟩
  decide +kernel

/-- **sort and pairing pass, permutation** (unconditional): the ordering step of `polyroots` (the sort
followed by the pairing of upper with lower half plane roots) returns a permutation of the roots. -/
theorem patched_perm (wp : Int) (roots out : List Root) (h : polyrootsOrderPatched wp roots = .ok out) :
    out.Perm roots := by
  obtain ⟨us, ls, paired, hp, rfl, hU, hL, -, -⟩ := polyrootsOrderPatched_ok h
  have h1 := pairUp_perm _ _ _ _ hp
  rw [List.map_append, hU, hL] at h1
  refine (List.Perm.append_left _ h1).trans ?_
  refine (List.Perm.append_left _ (List.filter_append_perm _ _)).trans ?_
  exact (List.filter_append_perm _ _).trans (polyrootsOrder_perm wp roots)

/-- **sort and pairing pass, shape** (unconditional — no hypothesis on equal or distinct imaginary parts):
the output is the real roots in the order of the sort followed by a block without real roots;
when as many roots have positive as have negative imaginary part (always the case for a real polynomial
whose non-real roots were all resolved), that block is a sequence of pairs each consisting of one root of
the upper and one of the lower half plane (an upper root and the remaining lower root closest to its
conjugate, by construction of `pairUp`, in the order in which the two appear after the sort — so a sorted
list that already lists adjacent conjugate pairs is left as it is). -/
theorem patched_shape (wp : Int) (roots out : List Root) (h : polyrootsOrderPatched wp roots = .ok out) :
    ∃ paired, out = (polyrootsOrder wp roots).filter (fun r => r.imag == fzero) ++ paired ∧
      (∀ r ∈ paired, r.imag ≠ fzero) ∧
      (((roots.filter (fun r => !(r.imag == fzero))).filter (fun r => mpfPos r.imag)).length =
        ((roots.filter (fun r => !(r.imag == fzero))).filter (fun r => !mpfPos r.imag)).length →
        oppositePairs paired = true) := by
  obtain ⟨us, ls, paired, hp, rfl, hU, hL, hu, hl⟩ := polyrootsOrderPatched_ok h
  refine ⟨paired, rfl, fun r hr => ?_, fun hlen => pairUp_opposite _ _ _ _ hp ?_ hu hl⟩
  · have := (pairUp_perm _ _ _ _ hp).mem_iff.1 hr
    rw [List.map_append, hU, hL, List.mem_append] at this
    rcases this with h | h <;> simpa using (List.mem_filter.1 (List.mem_filter.1 h).1).2
  · have hperm := polyrootsOrder_perm wp roots
    rw [← List.length_map (·.2) (as := us), ← List.length_map (·.2) (as := ls), hU, hL,
      ((hperm.filter _).filter _).length_eq, ((hperm.filter _).filter _).length_eq]
    exact hlen

/-- with the pairing pass the post-processing of the D13 values returns `2+i, 2−i, −1−i, −1+i, 1−i, 1+i`:
the documented order -/
theorem patched_d13 :
    (polyPostPatched 63 53 true C29d13).toOption =
      some [C29c ftwo fone, C29c ftwo fnone, C29c fnone fnone, C29c fnone fone, C29c fone fnone, C29c fone fone] ∧
    ((polyPostPatched 63 53 true C29d13).toOption.map realsThenConjPairs = some true) := by
  have h : (polyPostPatched 63 53 true C29d13).toOption = some [C29c ftwo fone, C29c ftwo fnone,
      C29c fnone fnone, C29c fnone fone, C29c fone fnone, C29c fone fone] := by decide +kernel
  refine ⟨h, ?_⟩
  rw [h]
  decide +kernel

/-! ### multiplicity, mnewton -/

/-- **multiplicity loop.** If the tests `abs(d^i f(root)) < tol` succeed for `i < m` and fail at `i = m`,
and `m < maxsteps`, the loop of `multiplicity` returns `m`. -/
theorem multLoop_spec (small : Nat → Bool) (m maxsteps : Nat) (hm : m < maxsteps)
    (h1 : ∀ i < m, small i = true) (h2 : small m = false) : multLoop small maxsteps = .ok m := by
  unfold multLoop
  have hne : maxsteps ≠ 0 := by omega
  simp only [hne, if_false]
  congr 1
  have : ∀ (fuel i : Nat), i ≤ m → m < i + fuel → multLoopAux small fuel i = m := by
    intro fuel
    induction fuel with
    | zero => intro i h1 h2; omega
    | succ fuel ih =>
      intro i hi hlt
      simp only [multLoopAux]
      rcases Nat.lt_or_eq_of_le hi with h | h
      · rw [h1 i h]; simp only [if_true]; exact ih (i + 1) (by omega) (by omega)
      · subst h; rw [h2]; simp
  exact this maxsteps 0 (by omega) (by omega)

/-- when every test succeeds (multiplicity ≥ maxsteps) the loop returns `maxsteps − 1`, NOT the multiplicity -/
theorem multLoop_saturates (maxsteps : Nat) (h : 0 < maxsteps) :
    multLoop (fun _ => true) maxsteps = .ok (maxsteps - 1) := by
  unfold multLoop
  have hne : maxsteps ≠ 0 := by omega
  simp only [hne, if_false]
  congr 1
  have : ∀ (fuel i : Nat), multLoopAux (fun _ => true) fuel i = i + fuel - 1 := by
    intro fuel
    induction fuel with
    | zero => intro i; simp [multLoopAux]
    | succ fuel ih => intro i; simp only [multLoopAux, if_true]; rw [ih]; omega
  rw [this]; omega

example : multLoop (fun i => decide (i < 3)) 10 = .ok 3 := by decide

/-- **mnewton keyword selection, counterexample.** The rule `mnewtonD2f` (`d2f = kwargs['df']` when the
keyword `d2f` is present) does not make a user-supplied `d2f` the second derivative: with both `df` and `d2f`
given, `df` is installed; with only `d2f` given the constructor raises `KeyError`.  It differs from
`mnewtonD2fFixed` (`d2f = kwargs['d2f']`, the rule of `MNewton.__init__`). -/
theorem mnewton_d2f_honoured_counterexample :
    mnewtonD2f true true = .userDf ∧ mnewtonD2f false true = .keyError ∧
    mnewtonD2f true true ≠ mnewtonD2fFixed true true := by decide

/-- **mnewton update.** In exact arithmetic the update raises `ZeroDivisionError` exactly when
`f(x) ≠ 0` and (`f'(x) = 0` or `f'(x) − f(x)f''(x)/f'(x) = 0`); it stops when `f(x) = 0`. -/
theorem mnewtonStep_zeroDiv (x fx dfx d2fx : Q) :
    mnewtonStep x fx dfx d2fx = .error .zeroDiv ↔
      fx.isZero = false ∧ (dfx.isZero = true ∨ (dfx - Q.div (fx * d2fx) dfx).isZero = true) := by
  unfold mnewtonStep
  by_cases h1 : fx.isZero = true
  · simp [h1]
  · by_cases h2 : dfx.isZero = true
    · simp [h1, h2]
    · by_cases h3 : (dfx - Q.div (fx * d2fx) dfx).isZero = true
      · simp [h1, h2, h3]
      · simp [h1, h2, h3]

end Mp

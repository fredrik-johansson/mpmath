/-
  Props/C03.lean — C03: integer powers are never rounded past the exact value.

  `mpf_pow_int` (libmpf.py) for every finite canonical base, every integer exponent, every precision ≥ 1 and
  every rounding mode:
    * directed modes: the result is never on the wrong side of the exact power (`OnSide`);
    * exact results are returned exactly;
    * nearest mode: the result is a faithful rounding (one of the two neighbours of the exact power, so the
      error is below one unit in the last place);
    * results whose exact value needs few bits (`n ≤ 2`, power-of-two base, or `bc·n < 1000`) are correctly rounded;
    * `0 ** negative` raises, and the special values follow the documented table.
  The statements are about the model `Mp.mpf_pow_int` (MpModel/Core.lean), tied bit-for-bit to the Python function
  by the correspondence run of the check (op `pow_int`).
-/
import MpProofs.Pow

namespace Mp

/-- **C03, main statement.**  For a finite canonical base `s`, an integer exponent `n` (any sign and size), a precision
`prec ≥ 1` and any rounding mode, `mpf_pow_int` returns a canonical value of at most `prec` bits which
(1) is not on the wrong side of the exact power for a directed mode, (2) is a faithful rounding of it in nearest mode,
(3) equals it whenever the exact power is representable with `prec` bits.  (`0 ** n` with `n < 0` is excluded:
it raises, see `C03_zero_to_negative_raises`.) -/
theorem C03_pow_int {s : Mpf} (hs : CanonFin s) (n : Int) (h0 : s ≠ fzero ∨ 0 ≤ n) {prec : Int} (hp : 0 < prec)
    (rnd : Rnd) :
    ∃ r, mpf_pow_int s n prec rnd = .ok r ∧ CanonFin r ∧ r.bc ≤ prec ∧
      OnSide rnd (val s ^ n) (val r) ∧
      (rnd = .n → Faithful prec.toNat (val s ^ n) (val r)) ∧
      (Repb prec.toNat (val s ^ n) → val r = val s ^ n) := by
  obtain ⟨r, hr, hP, hexact⟩ := mpf_pow_int_spec hs n h0 hp rnd
  exact ⟨r, hr, hP.canon, hP.bc_le, hP.side, hP.faithful, hexact⟩

/-- the meaning of `OnSide`, mode by mode -/
theorem C03_onSide_floor {x y : ℚ} (h : OnSide .f x y) : y ≤ x := h
theorem C03_onSide_ceiling {x y : ℚ} (h : OnSide .c x y) : x ≤ y := h
theorem C03_onSide_down {x y : ℚ} (h : OnSide .d x y) : |y| ≤ |x| ∧ 0 ≤ x * y := by
  rcases le_total 0 x with hx | hx
  · obtain ⟨h1, h2⟩ := h.1 hx
    exact ⟨by rw [abs_of_nonneg h1, abs_of_nonneg hx]; exact h2, mul_nonneg hx h1⟩
  · obtain ⟨h1, h2⟩ := h.2 hx
    exact ⟨by rw [abs_of_nonpos h2, abs_of_nonpos hx]; linarith, mul_nonneg_of_nonpos_of_nonpos hx h2⟩
theorem C03_onSide_up {x y : ℚ} (h : OnSide .u x y) : |x| ≤ |y| := by
  rcases le_total 0 x with hx | hx
  · have := h.1 hx
    rw [abs_of_nonneg hx, abs_of_nonneg (le_trans hx this)]; exact this
  · have := h.2 hx
    rw [abs_of_nonpos hx, abs_of_nonpos (le_trans this hx)]; linarith

/-- a faithful rounding is within one unit in the last place: relative error at most `2^(1-p)` -/
theorem C03_faithful_one_ulp {p : ℕ} (hp : 0 < p) {x y : ℚ} (h : Faithful p x y) :
    |y - x| ≤ |x| * 2 ^ (1 - (p : ℤ)) := h.relerr hp

/-- **small exact powers are correctly rounded** (all five modes): `n ≤ 2`, a power-of-two base, or `bc·n < 1000`. -/
theorem C03_small_correctly_rounded {s : Mpf} (hs : CanonFin s) {n : Nat}
    (h : n ≤ 2 ∨ s.man = 1 ∨ s.bc * n < 1000) {prec : Int} (hp : 0 < prec) (rnd : Rnd) :
    ∃ r, mpf_pow_int s n prec rnd = .ok r ∧ RoundOK prec rnd (val s ^ n) r :=
  ⟨_, mpf_pow_int_natCast hs.finite n prec rnd, powIntPos_small_spec hs h hp rnd⟩

/-- `0 ** n` raises ZeroDivisionError for every negative `n` -/
theorem C03_zero_to_negative_raises {n : Int} (hn : n < 0) (prec : Int) (rnd : Rnd) :
    mpf_pow_int fzero n prec rnd = .error .zeroDiv := by
  obtain ⟨m, rfl⟩ : ∃ m : ℕ, n = -(m : ℤ) := ⟨(-n).toNat, by omega⟩
  rw [mpf_pow_int_neg rfl (by omega)]
  have : (if m = 1 then fzero else powIntPos fzero m (prec + 5) (reciprocalRnd rnd)) = fzero := by
    split
    · rfl
    · exact powIntPos_fzero (by omega) _ _
  rw [this]
  exact mpf_div_zero canonFin_fone prec rnd

/-- special values: `inf**n`, `(-inf)**n`, `nan**n` -/
theorem C03_specials (n : Int) (prec : Int) (rnd : Rnd) :
    mpf_pow_int finf n prec rnd = .ok (if n > 0 then finf else if n = 0 then fnan else fzero) ∧
    mpf_pow_int fninf n prec rnd =
      .ok (if n > 0 then (if n % 2 = 0 then finf else fninf) else if n = 0 then fnan else fzero) ∧
    mpf_pow_int fnan n prec rnd = .ok fnan := by
  refine ⟨?_, ?_, ?_⟩ <;> simp [mpf_pow_int, isSpecial, finf, fninf, fnan]

/-- the mode swap for negative exponents is the one that keeps the direction -/
theorem C03_reciprocal_mode_swap :
    reciprocalRnd .f = .c ∧ reciprocalRnd .c = .f ∧ reciprocalRnd .d = .u ∧ reciprocalRnd .u = .d ∧
    reciprocalRnd .n = .n := ⟨rfl, rfl, rfl, rfl, rfl⟩

/-- the bit-count bookkeeping of the loop (`bc = b1 + b2 - 2; bc += bctable[P >> bc]`) is exact -/
theorem C03_loop_bitcount {m1 m2 : Nat} (h1 : m1 ≠ 0) (h2 : m2 ≠ 0) :
    (bitcount m1 : Int) + bitcount m2 - 2 +
      (bitcount ((m1 * m2) >>> ((bitcount m1 : Int) + bitcount m2 - 2).toNat) : Int) = (bitcount (m1 * m2) : Int) :=
  prod_bc (WB.of_bitcount h1) (WB.of_bitcount h2)

/-! non-vacuity: the hypotheses are met by concrete inputs in the binary-exponentiation regime, and the
computed results are on the stated side -/
example : CanonFin ⟨0, 3, 0, 2⟩ ∧ ¬ ((⟨0, 3, 0, 2⟩ : Mpf).bc * (1000 : Nat) < 1000) := by decide
example : CanonFin ⟨1, 7, -2, 3⟩ ∧ (⟨1, 7, -2, 3⟩ : Mpf) ≠ fzero := by decide
example : mpf_pow_int ⟨0, 3, 0, 2⟩ 5 53 .f = .ok ⟨0, 243, 0, 8⟩ := by decide
example : mpf_pow_int ⟨1, 3, 0, 2⟩ (-1) 4 .f = .ok ⟨1, 11, -5, 4⟩ ∧ mpf_pow_int ⟨1, 3, 0, 2⟩ (-1) 4 .c = .ok ⟨1, 5, -4, 3⟩ := by
  decide

end Mp

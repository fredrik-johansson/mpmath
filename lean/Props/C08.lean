/-
  Props/C08.lean — "Printed numbers round-trip and are nearest decimal approximations".

  Model: MpModel/Str.lean (`to_digits_exp`, `to_str` = digit rounding `roundDigits` + `layoutDigits`,
  `repr_dps`, …). Strings are `List Char`; `decValueL l` is the value of the decimal literal `l`,
  `floatOK l` the model of "Python's `float()` accepts `l`", `strToManExp l 0` mpmath's own parser.
  `natOfDigits` reads a digit string as a natural number, `signVal sg` is `-1` for `"-"` and `1` otherwise.
-/
import MpProofs.StrFmt
import MpProofs.StrRepr

namespace Mp

/-- **Digit rounding = arithmetic half-up rounding.** The string surgery of `to_str` (look at digit
number `dps`, propagate the carry through the 9s, on all-9s produce `10…0` and bump the exponent) on a
digit string longer than `dps ≥ 1` yields exactly `dps` digits `out` and a bump `b ∈ {0, 1}` with
`out · 10^b = ⌊(digits + 5·10^(k-1)) / 10^k⌋`, where `k` is the number of dropped digits. -/
theorem round_digits_spec (digits : List Char) (dps : Nat) (hd : Digits digits) (hdps : 1 ≤ dps)
    (hlen : dps < digits.length) :
    Digits (roundDigits digits dps).1 ∧ (roundDigits digits dps).1.length = dps ∧
    ((roundDigits digits dps).2 = 0 ∨ (roundDigits digits dps).2 = 1) ∧
    natOfDigits (roundDigits digits dps).1 * 10 ^ (roundDigits digits dps).2.toNat =
      (natOfDigits digits + 5 * 10 ^ (digits.length - dps - 1)) / 10 ^ (digits.length - dps) :=
  roundDigits_spec hd hdps hlen

example : roundDigits "129996".toList 4 = ("1300".toList, 0) := by decide +kernel
example : roundDigits "999951".toList 4 = ("1000".toList, 1) := by decide +kernel
example : roundDigits "123449".toList 4 = ("1234".toList, 0) := by decide +kernel

/-- **Every printed finite number is a literal, with the intended value.**
Let `to_digits_exp s (dps+3)` return `(sign, digits, exponent)` with more than `dps` digits
(hypothesis `hlen`; the call returns about `dps+6` digits — observed in T1, not proved here).
Then for all formatting options `to_str` returns a string `out` such that
* `out` is accepted by Python's `float()` grammar and by mpmath's own `str_to_man_exp`,
* the value of `out` as a decimal literal, and the value `man·10^exp` the parser assigns to it, are both
  `± R · 10^(exponent + b - dps + 1)`, where `(R, b) = roundDigits digits dps` is the half-up rounded
  digit string (see `round_digits_spec`): fixed and scientific layout, zero padding, stripping of zeros
  and the exponent suffix do not change the value. -/
theorem format_parse (s : Mpf) (dps : Nat) (ln2 ln10 : Mpf) (strip : Bool) (mn mx : Option Bound)
    (showz : Bool) (hman : s.man ≠ 0) (hdps : 1 ≤ dps) (sign digits : List Char) (exponent : Int)
    (h : toDigitsExp s (dps + 3) ln2 ln10 = .ok (sign, digits, exponent))
    (hlen : dps < digits.length) :
    ∃ out, toStr s dps ln2 ln10 strip mn mx showz = .ok out ∧
      floatOK out = true ∧
      decValueL out = some ((signVal sign : ℚ) * (natOfDigits (roundDigits digits dps).1 : ℚ) *
        (10 : ℚ) ^ (exponent + (roundDigits digits dps).2 - dps + 1)) ∧
      ∃ man exp, strToManExp out 0 = .ok (man, exp) ∧
        (man : ℚ) * (10 : ℚ) ^ exp = (signVal sign : ℚ) * (natOfDigits (roundDigits digits dps).1 : ℚ) *
          (10 : ℚ) ^ (exponent + (roundDigits digits dps).2 - dps + 1) := by
  obtain ⟨hsg, hdig⟩ := toDigitsExp_wf h
  obtain ⟨hD, hDlen, -, -⟩ := roundDigits_spec hdig hdps hlen
  obtain ⟨ip, fp, eo, hok, hne, hl, hv⟩ := layoutDigits_value (exponent + (roundDigits digits dps).2)
    strip (mn.getD (.fin (min (-((dps / 3 : Nat) : Int)) (-5)))) (mx.getD (.fin dps)) showz hsg hD hDlen hdps
  refine ⟨_, toStr_finite strip mn mx showz hman (by omega) h, ?_, ?_, ?_⟩
  · rw [hl]; exact floatOK_litL hok
  · rw [hl, decValueL_litL hok, hv]
  · have hdv := decValueL_litL hok
    rw [hv] at hdv
    rw [hl]
    exact strToManExp_value (decValueU_of_decValueL hdv)

example : toDigitsExp ⟨1, 5, -2, 3⟩ (3 + 3) fzero fzero = .ok ("-".toList, "125000000".toList, 0) ∧
    toStr ⟨1, 5, -2, 3⟩ 3 fzero fzero = .ok "-1.25".toList := by decide +kernel

/-- special values print as `+inf`, `-inf`, `nan`; zero as `0.0` (any `dps ≥ 1`, any options) -/
theorem to_str_specials (dps : Nat) (ln2 ln10 : Mpf) (strip : Bool) (mn mx : Option Bound) (showz : Bool) :
    toStr finf dps ln2 ln10 strip mn mx showz = .ok "+inf".toList ∧
    toStr fninf dps ln2 ln10 strip mn mx showz = .ok "-inf".toList ∧
    toStr fnan dps ln2 ln10 strip mn mx showz = .ok "nan".toList ∧
    (1 ≤ dps → toStr fzero dps ln2 ln10 strip mn mx false = .ok "0.0".toList) := by
  have m1 : finf.man = 0 := rfl
  have m2 : fninf.man = 0 := rfl
  have m3 : fnan.man = 0 := rfl
  have m4 : fzero.man = 0 := rfl
  have n1 : finf ≠ fzero := by decide
  have n2 : fninf ≠ fzero := by decide
  have n3 : fninf ≠ finf := by decide
  have n4 : fnan ≠ fzero := by decide
  have n5 : fnan ≠ finf := by decide
  have n6 : fnan ≠ fninf := by decide
  refine ⟨?_, ?_, ?_, ?_⟩
  · unfold toStr; simp only [m1, n1, if_true, if_false]
  · unfold toStr; simp only [m2, n2, n3, if_true, if_false]
  · unfold toStr; simp only [m3, n4, n5, n6, if_true, if_false]
  · intro h
    have hd : dps ≠ 0 := by omega
    unfold toStr
    simp only [m4, hd, if_true, if_false, ne_eq, not_false_eq_true, Bool.false_eq_true]

/-! ### nearest-decimal is false for long mantissas: D5 -/

/-- the 999-bit number next above 0.15 on the grid 2^-1002, as a normalized raw mpf -/
def aboveFifteenHundredths : Mpf := ⟨0, (15 * 2 ^ 1002 / 100 + 1) / 2, -1001, 999⟩

/- Full statement (FALSE of the code): for every finite x and n ≥ 1, `to_str x n` denotes a decimal
   with n significant digits nearest to x. -/

/-- **D5.** `nstr(x, 1)` for the binary number just above 0.15 prints `0.1`, although `0.2` is nearer:
`to_digits_exp` truncates `x` to a fixed-point number with a few guard bits (losing the bit that puts `x`
above the tie) before the digits are rounded. Replayed on the real code. -/
theorem nstr_nearest_counterexample :
    from_man_exp (15 * 2 ^ 1002 / 100 + 1) (-1002) = aboveFifteenHundredths ∧
    toStr aboveFifteenHundredths 1 fzero fzero = .ok "0.1".toList ∧
    decValueL "0.1".toList = some (1 / 10) ∧
    |val aboveFifteenHundredths - 2 / 10| < |val aboveFifteenHundredths - 1 / 10| := by
  refine ⟨by decide +kernel, by decide +kernel, by decide +kernel, ?_⟩
  have hx : (15 : ℚ) / 100 < val aboveFifteenHundredths := by
    have hn : 15 * 2 ^ 1001 < 100 * ((15 * 2 ^ 1002 / 100 + 1) / 2) := by decide +kernel
    have hq : (15 : ℚ) * 2 ^ 1001 < 100 * (((15 * 2 ^ 1002 / 100 + 1) / 2 : ℕ) : ℚ) := by exact_mod_cast hn
    unfold val aboveFifteenHundredths
    simp only [pow_zero, one_mul]
    rw [show ((-1001 : ℤ)) = -((1001 : ℕ) : ℤ) by norm_num, zpow_neg, zpow_natCast,
      ← div_eq_mul_inv, lt_div_iff₀ (by positivity)]
    linarith
  rw [abs_of_pos (by linarith : (0 : ℚ) < val aboveFifteenHundredths - 1 / 10), abs_lt]
  constructor <;> linarith

/-! ### repr round trip: digit count -/

/-- **`reprDpsOK`.** For every precision `1 ≤ p ≤ 20000` the number of digits used by `repr` satisfies
`10^(repr_dps p - 1) > 2^p` — the Matula/Goldberg condition under which printing a `p`-bit binary number
to that many correctly rounded digits and converting back with correct rounding is the identity.
(`repr_dps` contains float arithmetic, modelled by the binary64 model validated against CPython.)
Before the repair c03e100 this was false at exactly `p = 54` (`repr_dps 54` was 17 and `10^16 < 2^54`;
witness `x = -11537171455164529·2^249`, whose 17-digit print `-1.0436821770958033e+91` converts back to
a different number). -/
theorem reprDpsOK : ∀ p, 1 ≤ p → p ≤ 20000 → 2 ^ p < 10 ^ (repr_dps p - 1) := by
  intro p h1 h2
  rcases repr_dps_lower (n := p) (by omega) (by omega) with ⟨h17, h53⟩ | hlow
  · rw [h17]
    calc 2 ^ p ≤ 2 ^ 53 := Nat.pow_le_pow_right (by decide) h53
      _ < 10 ^ (17 - 1) := by decide
  · have := allBelow_range (P := fun p => Nat.blt (2 ^ p) (10 ^ (p <<< 51 / F64.log2_10.m + 1)))
      two_pow_lt_ten_pow_sweep p h1 (by omega)
    rw [Nat.blt_eq] at this
    exact Nat.lt_of_lt_of_le this (Nat.pow_le_pow_right (by decide) hlow)

/-- the pre-repair witness now round-trips: 18 digits at 54 bits -/
example : repr_dps 54 = 18 ∧
    toStr ⟨1, 11537171455164529, 249, 54⟩ (repr_dps 54) fzero fzero =
      .ok "-1.04368217709580335e+91".toList ∧
    fromStr "-1.04368217709580335e+91".toList 54 .n = .ok ⟨1, 11537171455164529, 249, 54⟩ := by
  decide +kernel

/-- what the old digit count did (17 digits at 54 bits): the print converts back to another number -/
example : toStr ⟨1, 11537171455164529, 249, 54⟩ 17 fzero fzero = .ok "-1.0436821770958033e+91".toList ∧
    fromStr "-1.0436821770958033e+91".toList 54 .n = .ok ⟨1, 721073215947783, 253, 50⟩ ∧
    ¬ (2 ^ 54 < 10 ^ (17 - 1)) := by decide +kernel

end Mp

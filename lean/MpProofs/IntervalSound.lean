/-
  MpProofs/IntervalSound.lean — containment theorems for real interval arithmetic (finite endpoints), on top of the
  proved core.  Every containment proof has the same two halves: which exact bounds the branch of the code taken
  computes, and that rounding the lower one down and the upper one up keeps the value enclosed.
  At the end: `mulSpecial` on an infinite operand, and products of rectangles.
-/
import MpProofs.Cmp
import MpProofs.Div
import MpModel.Interval
import MpProofs.Interval

namespace Mp

/-- an interval with finite canonical endpoints in the right order -/
def FinIv (I : Mpi) : Prop := CanonFin I.1 ∧ CanonFin I.2 ∧ val I.1 ≤ val I.2

/-- membership of a rational in a finite interval -/
def MemIv (x : ℚ) (I : Mpi) : Prop := val I.1 ≤ x ∧ x ≤ val I.2

theorem roundOK_f_c_le {prec : ℤ} (hp : 0 ≤ prec) {x y : ℚ} {r s : Mpf} (hxy : x ≤ y)
    (h1 : RoundOK prec .f x r) (h2 : RoundOK prec .c y s) : val r ≤ val s :=
  le_trans (roundOK_f_le hp h1) (le_trans hxy (roundOK_c_ge hp h2))

/-- The step every containment proof ends with: a lower bound of `z` rounded down and an upper bound rounded up
are the endpoints of a well-formed interval containing `z`. -/
theorem encl_of_round {prec : ℤ} (hp : 0 ≤ prec) {lo hi z : ℚ} {a b : Mpf}
    (ha : RoundOK prec .f lo a) (hb : RoundOK prec .c hi b) (h1 : lo ≤ z) (h2 : z ≤ hi) :
    FinIv (a, b) ∧ MemIv z (a, b) :=
  have la := (roundOK_f_le hp ha).trans h1
  have lb := h2.trans (roundOK_c_ge hp hb)
  ⟨⟨ha.1, hb.1, la.trans lb⟩, la, lb⟩

theorem zero_encl : FinIv (fzero, fzero) ∧ MemIv 0 (fzero, fzero) :=
  ⟨⟨canonFin_fzero, canonFin_fzero, le_refl _⟩, val_fzero.le, val_fzero.ge⟩

theorem one_encl : FinIv (fone, fone) ∧ MemIv 1 (fone, fone) :=
  have c : CanonFin fone := by decide
  have v : val fone = 1 := by simp [val, fone]
  ⟨⟨c, c, le_refl _⟩, v.le, v.ge⟩

theorem mpi_add_sound {s t : Mpi} (hs : FinIv s) (ht : FinIv t) {prec : ℤ} (hp : 0 ≤ prec) {x y : ℚ}
    (hx : MemIv x s) (hy : MemIv y t) : FinIv (mpi_add s t prec) ∧ MemIv (x + y) (mpi_add s t prec) := by
  have ha : RoundOK prec .f (val s.1 + val t.1) _ := mpf_add_spec hs.1 ht.1 hp .f false
  have hb : RoundOK prec .c (val s.2 + val t.2) _ := mpf_add_spec hs.2.1 ht.2.1 hp .c false
  rw [mpi_add_of_ne_nan s t prec (roundOK_ne_nan ha) (roundOK_ne_nan hb)]
  exact encl_of_round hp ha hb (add_le_add hx.1 hy.1) (add_le_add hx.2 hy.2)

theorem mpi_sub_sound {s t : Mpi} (hs : FinIv s) (ht : FinIv t) {prec : ℤ} (hp : 0 ≤ prec) {x y : ℚ}
    (hx : MemIv x s) (hy : MemIv y t) : FinIv (mpi_sub s t prec) ∧ MemIv (x - y) (mpi_sub s t prec) := by
  have ha := mpf_sub_spec hs.1 ht.2.1 hp .f
  have hb := mpf_sub_spec hs.2.1 ht.1 hp .c
  rw [mpi_sub_of_ne_nan s t prec (roundOK_ne_nan ha) (roundOK_ne_nan hb)]
  exact encl_of_round hp ha hb (sub_le_sub hx.1 hy.2) (sub_le_sub hx.2 hy.1)

theorem mpi_neg_sound {s : Mpi} (hs : FinIv s) {prec : ℤ} (hp : 0 ≤ prec) {x : ℚ} (hx : MemIv x s) :
    FinIv (mpi_neg s prec) ∧ MemIv (-x) (mpi_neg s prec) :=
  encl_of_round hp (mpf_neg_spec hs.2.1 hp .f) (mpf_neg_spec hs.1 hp .c) (neg_le_neg hx.2) (neg_le_neg hx.1)

theorem mpi_pos_sound {s : Mpi} (hs : FinIv s) {prec : ℤ} (hp : 0 ≤ prec) {x : ℚ} (hx : MemIv x s) :
    FinIv (mpi_pos s prec) ∧ MemIv x (mpi_pos s prec) :=
  encl_of_round hp (mpf_pos_spec hs.1 hp .f) (mpf_pos_spec hs.2.1 hp .c) hx.1 hx.2

theorem mpf_sign_cases {s : Mpf} (hs : CanonFin s) :
    (val s < 0 ∧ mpf_sign s = -1) ∨ (val s = 0 ∧ mpf_sign s = 0) ∨ (0 < val s ∧ mpf_sign s = 1) := by
  rw [mpf_sign_canon hs]
  rcases lt_trichotomy (val s) 0 with h | h | h
  · exact .inl ⟨h, cmpQ_lt h⟩
  · exact .inr (.inl ⟨h, by rw [h]; rfl⟩)
  · exact .inr (.inr ⟨h, cmpQ_gt h⟩)

theorem sign_nonneg_iff {s : Mpf} (hs : CanonFin s) : mpf_sign s ≥ 0 ↔ 0 ≤ val s := by
  rcases mpf_sign_cases hs with ⟨h, e⟩ | ⟨h, e⟩ | ⟨h, e⟩ <;> rw [e]
  · exact iff_of_false (by decide) (not_le.2 h)
  · exact iff_of_true (by decide) h.ge
  · exact iff_of_true (by decide) h.le

theorem sign_nonpos_iff {s : Mpf} (hs : CanonFin s) : mpf_sign s ≤ 0 ↔ val s ≤ 0 := by
  rcases mpf_sign_cases hs with ⟨h, e⟩ | ⟨h, e⟩ | ⟨h, e⟩ <;> rw [e]
  · exact iff_of_true (by decide) h.le
  · exact iff_of_true (by decide) h.le
  · exact iff_of_false (by decide) (not_le.2 h)

theorem sign_zero_iff {s : Mpf} (hs : CanonFin s) : mpf_sign s = 0 ↔ val s = 0 := by
  rcases mpf_sign_cases hs with ⟨h, e⟩ | ⟨h, e⟩ | ⟨h, e⟩ <;> rw [e]
  · exact iff_of_false (by decide) h.ne
  · exact iff_of_true rfl h
  · exact iff_of_false (by decide) h.ne'

theorem canonFin_ne_specials {s : Mpf} (hs : CanonFin s) : s ≠ fninf ∧ s ≠ finf ∧ s ≠ fnan := by
  rcases hs.cases with rfl | ⟨hm, _⟩
  · decide
  · refine ⟨?_, ?_, ?_⟩ <;> intro h <;> rw [h] at hm <;> exact hm rfl

/-- The three sign cases that `mpi_mul`, `mpi_div` and `mpi_pow_int` distinguish for an interval `[a, b]` by the tests
`sign a ≥ 0` and `sign b ≤ 0`, each with what it says about the values. -/
theorem sign_cases_iv {a b : Mpf} (ha : CanonFin a) (hb : CanonFin b) :
    (mpf_sign a ≥ 0 ∧ 0 ≤ val a) ∨ (¬ mpf_sign a ≥ 0 ∧ mpf_sign b ≤ 0 ∧ val b ≤ 0) ∨
    (¬ mpf_sign a ≥ 0 ∧ ¬ mpf_sign b ≤ 0 ∧ val a ≤ 0 ∧ 0 ≤ val b) := by
  by_cases h1 : mpf_sign a ≥ 0
  · exact .inl ⟨h1, (sign_nonneg_iff ha).1 h1⟩
  by_cases h2 : mpf_sign b ≤ 0
  · exact .inr (.inl ⟨h1, h2, (sign_nonpos_iff hb).1 h2⟩)
  · exact .inr (.inr ⟨h1, h2, (not_le.1 (mt (sign_nonneg_iff ha).2 h1)).le, (not_le.1 (mt (sign_nonpos_iff hb).2 h2)).le⟩)

/-- the test for the degenerate interval `[0, 0]` used by `mpi_mul` and `mpi_div` -/
theorem eq_zero_of_sign_zero {s : Mpi} (hs : FinIv s) (h : mpf_sign s.1 = mpf_sign s.2 ∧ mpf_sign s.2 = 0) {x : ℚ}
    (hx : MemIv x s) : x = 0 :=
  le_antisymm (hx.2.trans ((sign_zero_iff hs.2.1).1 h.2).le) (((sign_zero_iff hs.1).1 (h.1.trans h.2)).ge.trans hx.1)

theorem sign_of_val_pos {s : Mpf} (hs : CanonFin s) (h : 0 < val s) : mpf_sign s = 1 :=
  (mpf_sign_canon hs).trans (cmpQ_gt h)

theorem sign_of_val_neg {s : Mpf} (hs : CanonFin s) (h : val s < 0) : mpf_sign s = -1 :=
  (mpf_sign_canon hs).trans (cmpQ_lt h)

/-- Bounds of `x * y` for `0 ≤ x ∈ [a, b]` and `y ∈ [c, d]`.  As `x * c ≤ x * y ≤ x * d`, the lower bound is a corner
product with `c`, which one depends on the sign of `c` alone; likewise above with `d`. -/
theorem mul_bounds_nonneg {a b c d x y : ℚ} (hx : 0 ≤ x) (hx1 : a ≤ x) (hx2 : x ≤ b) (hy1 : c ≤ y) (hy2 : y ≤ d) :
    ((0 ≤ c → a * c ≤ x * y) ∧ (c ≤ 0 → b * c ≤ x * y)) ∧ ((0 ≤ d → x * y ≤ b * d) ∧ (d ≤ 0 → x * y ≤ a * d)) :=
  have lo : x * c ≤ x * y := mul_le_mul_of_nonneg_left hy1 hx
  have hi : x * y ≤ x * d := mul_le_mul_of_nonneg_left hy2 hx
  ⟨⟨fun h => (mul_le_mul_of_nonneg_right hx1 h).trans lo, fun h => (mul_le_mul_of_nonpos_right hx2 h).trans lo⟩,
   ⟨fun h => hi.trans (mul_le_mul_of_nonneg_right hx2 h), fun h => hi.trans (mul_le_mul_of_nonpos_right hx1 h)⟩⟩

theorem mul_bounds_nonpos {a b c d x y : ℚ} (hx : x ≤ 0) (hx1 : a ≤ x) (hx2 : x ≤ b) (hy1 : c ≤ y) (hy2 : y ≤ d) :
    ((0 ≤ d → a * d ≤ x * y) ∧ (d ≤ 0 → b * d ≤ x * y)) ∧ ((0 ≤ c → x * y ≤ b * c) ∧ (c ≤ 0 → x * y ≤ a * c)) := by
  have := (mul_bounds_nonneg (neg_nonneg.2 hx) (neg_le_neg hx2) (neg_le_neg hx1) hy1 hy2).symm
  simpa only [neg_mul, neg_le_neg_iff] using this

/-- extremes of a bilinear form on a box are attained at the corners -/
theorem mul_box_bounds {a b c d x y : ℚ} (hx1 : a ≤ x) (hx2 : x ≤ b) (hy1 : c ≤ y) (hy2 : y ≤ d) :
    min (min (a*c) (a*d)) (min (b*c) (b*d)) ≤ x*y ∧ x*y ≤ max (max (a*c) (a*d)) (max (b*c) (b*d)) := by
  rcases le_total 0 x with hx | hx
  · have B := mul_bounds_nonneg hx hx1 hx2 hy1 hy2
    constructor
    · rcases le_total 0 c with h | h
      · exact min_le_of_left_le (min_le_of_left_le (B.1.1 h))
      · exact min_le_of_right_le (min_le_of_left_le (B.1.2 h))
    · rcases le_total 0 d with h | h
      · exact le_max_of_le_right (le_max_of_le_right (B.2.1 h))
      · exact le_max_of_le_left (le_max_of_le_right (B.2.2 h))
  · have B := mul_bounds_nonpos hx hx1 hx2 hy1 hy2
    constructor
    · rcases le_total 0 d with h | h
      · exact min_le_of_left_le (min_le_of_right_le (B.1.1 h))
      · exact min_le_of_right_le (min_le_of_right_le (B.1.2 h))
    · rcases le_total 0 c with h | h
      · exact le_max_of_le_right (le_max_of_le_left (B.2.1 h))
      · exact le_max_of_le_left (le_max_of_le_left (B.2.2 h))

/-- a product rounded down and a product rounded up enclose whatever lies between the exact products; the nan
replacements of `mpi_mul` never fire on finite operands -/
theorem mul_pair_sound {p q u v : Mpf} (hp' : CanonFin p) (hq : CanonFin q) (hu : CanonFin u) (hv : CanonFin v)
    {prec : ℤ} (hp : 0 ≤ prec) {z : ℚ} (hlo : val p * val q ≤ z) (hhi : z ≤ val u * val v) (d1 d2 : Mpf) :
    FinIv (if mpf_mul p q prec .f = fnan then d1 else mpf_mul p q prec .f,
           if mpf_mul u v prec .c = fnan then d2 else mpf_mul u v prec .c) ∧
    MemIv z (if mpf_mul p q prec .f = fnan then d1 else mpf_mul p q prec .f,
             if mpf_mul u v prec .c = fnan then d2 else mpf_mul u v prec .c) := by
  have ha := mpf_mul_spec hp' hq hp .f
  have hb := mpf_mul_spec hu hv hp .c
  rw [if_neg (roundOK_ne_nan ha), if_neg (roundOK_ne_nan hb)]
  exact encl_of_round hp ha hb hlo hhi

/-- `mpf_min_max` of canonical finite values returns members attaining the exact min and max -/
theorem mpf_min_max_spec (x : Mpf) (xs : List Mpf) (hx : CanonFin x) (hxs : ∀ y ∈ xs, CanonFin y) :
    CanonFin (mpf_min_max x xs).1 ∧ CanonFin (mpf_min_max x xs).2 ∧
    (∀ y ∈ x :: xs, val (mpf_min_max x xs).1 ≤ val y ∧ val y ≤ val (mpf_min_max x xs).2) ∧
    (mpf_min_max x xs).1 ∈ x :: xs ∧ (mpf_min_max x xs).2 ∈ x :: xs := by
  induction xs using List.reverseRecOn with
  | nil => exact ⟨hx, hx, fun y hy => by rw [List.mem_singleton.1 hy]; exact ⟨le_rfl, le_rfl⟩,
      List.mem_singleton_self x, List.mem_singleton_self x⟩
  | append_singleton l z ih =>
    -- one more element `z`: each extreme either stays or becomes `z`
    obtain ⟨c1, c2, hall, m1, m2⟩ := ih (fun y hy => hxs y (List.mem_append_left _ hy))
    have hz : CanonFin z := hxs z (by simp)
    have ofL : ∀ y ∈ x :: l, y ∈ x :: (l ++ [z]) := fun y hy => List.mem_append_left [z] hy
    have ofZ : z ∈ x :: (l ++ [z]) := by simp
    have e : mpf_min_max x (l ++ [z]) = (if mpf_lt z (mpf_min_max x l).1 then z else (mpf_min_max x l).1,
        if mpf_gt z (mpf_min_max x l).2 then z else (mpf_min_max x l).2) := by
      unfold mpf_min_max; rw [List.foldl_append]; rfl
    rw [e, mpf_lt_spec hz c1, mpf_gt_spec hz c2]
    generalize mpf_min_max x l = r at c1 c2 hall m1 m2
    have lo : ∃ a, (if decide (val z < val r.1) = true then z else r.1) = a ∧
        CanonFin a ∧ val a ≤ val r.1 ∧ val a ≤ val z ∧ a ∈ x :: (l ++ [z]) := by
      by_cases h : val z < val r.1
      · exact ⟨z, if_pos (decide_eq_true h), hz, h.le, le_rfl, ofZ⟩
      · exact ⟨r.1, if_neg (mt of_decide_eq_true h), c1, le_rfl, not_lt.1 h, ofL _ m1⟩
    have hi : ∃ b, (if decide (val z > val r.2) = true then z else r.2) = b ∧
        CanonFin b ∧ val r.2 ≤ val b ∧ val z ≤ val b ∧ b ∈ x :: (l ++ [z]) := by
      by_cases h : val z > val r.2
      · exact ⟨z, if_pos (decide_eq_true h), hz, h.le, le_rfl, ofZ⟩
      · exact ⟨r.2, if_neg (mt of_decide_eq_true h), c2, le_rfl, not_lt.1 h, ofL _ m2⟩
    obtain ⟨a, ea, ca, a1, a2, am⟩ := lo
    obtain ⟨b, eb, cb, b1, b2, bm⟩ := hi
    rw [ea, eb]
    refine ⟨ca, cb, fun y hy => ?_, am, bm⟩
    rcases List.mem_append.1 (show y ∈ (x :: l) ++ [z] from hy) with hy | hy
    · exact ⟨a1.trans (hall y hy).1, (hall y hy).2.trans b1⟩
    · rw [List.mem_singleton.1 hy]; exact ⟨a2, b2⟩

/-- **interval multiplication contains every product** (finite endpoints; all sign cases and the
four-product general case). -/
theorem mpi_mul_sound {s t : Mpi} (hs : FinIv s) (ht : FinIv t) {prec : ℤ} (hp : 0 ≤ prec) {x y : ℚ}
    (hx : MemIv x s) (hy : MemIv y t) : FinIv (mpi_mul s t prec) ∧ MemIv (x * y) (mpi_mul s t prec) := by
  obtain ⟨hsa, hsb, hsab⟩ := hs
  obtain ⟨hta, htb, htab⟩ := ht
  obtain ⟨hx1, hx2⟩ := hx
  obtain ⟨hy1, hy2⟩ := hy
  unfold mpi_mul
  dsimp only
  by_cases hs0 : mpf_sign s.1 = mpf_sign s.2 ∧ mpf_sign s.2 = 0
  · rw [if_pos hs0, if_neg (not_or.2 ⟨(canonFin_ne_specials hta).1, (canonFin_ne_specials htb).2.1⟩),
      eq_zero_of_sign_zero ⟨hsa, hsb, hsab⟩ hs0 ⟨hx1, hx2⟩, zero_mul]
    exact zero_encl
  rw [if_neg hs0]
  by_cases ht0 : mpf_sign t.1 = mpf_sign t.2 ∧ mpf_sign t.2 = 0
  · rw [if_pos ht0, if_neg (not_or.2 ⟨(canonFin_ne_specials hsa).1, (canonFin_ne_specials hsb).2.1⟩),
      eq_zero_of_sign_zero ⟨hta, htb, htab⟩ ht0 ⟨hy1, hy2⟩, mul_zero]
    exact zero_encl
  rw [if_neg ht0]
  rcases sign_cases_iv hsa hsb with ⟨s1, ha⟩ | ⟨s1, s2, hb⟩ | ⟨s1, s2, -, -⟩
  · have B := mul_bounds_nonneg (ha.trans hx1) hx1 hx2 hy1 hy2
    rw [if_pos s1]
    rcases sign_cases_iv hta htb with ⟨t1, hc⟩ | ⟨t1, t2, hd⟩ | ⟨t1, t2, hc, hd⟩
    · rw [if_pos t1]
      exact mul_pair_sound hsa hta hsb htb hp (B.1.1 hc) (B.2.1 (hc.trans htab)) _ _
    · rw [if_neg t1, if_pos t2]
      exact mul_pair_sound hsb hta hsa htb hp (B.1.2 (htab.trans hd)) (B.2.2 hd) _ _
    · rw [if_neg t1, if_neg t2]
      exact mul_pair_sound hsb hta hsb htb hp (B.1.2 hc) (B.2.1 hd) _ _
  · have B := mul_bounds_nonpos (hx2.trans hb) hx1 hx2 hy1 hy2
    rw [if_neg s1, if_pos s2]
    rcases sign_cases_iv hta htb with ⟨t1, hc⟩ | ⟨t1, t2, hd⟩ | ⟨t1, t2, hc, hd⟩
    · rw [if_pos t1]
      exact mul_pair_sound hsa htb hsb hta hp (B.1.1 (hc.trans htab)) (B.2.1 hc) _ _
    · rw [if_neg t1, if_pos t2]
      exact mul_pair_sound hsb htb hsa hta hp (B.1.2 hd) (B.2.2 (htab.trans hd)) _ _
    · rw [if_neg t1, if_neg t2]
      exact mul_pair_sound hsa htb hsa hta hp (B.1.1 hd) (B.2.2 hc) _ _
  · rw [if_neg s1, if_neg s2]
    -- general case: the exact extremes of the four exact corner products, rounded outwards
    obtain ⟨k1, v1, n1⟩ := mul_exact hsa hta
    obtain ⟨k2, v2, n2⟩ := mul_exact hsa htb
    obtain ⟨k3, v3, n3⟩ := mul_exact hsb hta
    obtain ⟨k4, v4, n4⟩ := mul_exact hsb htb
    rw [if_neg (by simp [n1, n2, n3, n4])]
    obtain ⟨m1, m2, mall, _, _⟩ := mpf_min_max_spec (mpf_mul s.1 t.1) [mpf_mul s.1 t.2, mpf_mul s.2 t.1, mpf_mul s.2 t.2]
      k1 (by intro z hz; simp at hz; rcases hz with rfl | rfl | rfl <;> assumption)
    have hbox := mul_box_bounds hx1 hx2 hy1 hy2
    have q1 := mall _ (by simp : mpf_mul s.1 t.1 ∈ _)
    have q2 := mall _ (by simp : mpf_mul s.1 t.2 ∈ _)
    have q3 := mall _ (by simp : mpf_mul s.2 t.1 ∈ _)
    have q4 := mall _ (by simp : mpf_mul s.2 t.2 ∈ _)
    rw [v1] at q1; rw [v2] at q2; rw [v3] at q3; rw [v4] at q4
    exact encl_of_round hp (mpf_pos_spec m1 hp .f) (mpf_pos_spec m2 hp .c)
      ((le_min (le_min q1.1 q2.1) (le_min q3.1 q4.1)).trans hbox.1)
      (hbox.2.trans (max_le (max_le q1.2 q2.2) (max_le q3.2 q4.2)))

/-! ### infinite operands (for the extended intervals of C14 and the special-value rules of C02) -/

theorem CanonFin.man_ne_or_exp_eq {t : Mpf} (ht : CanonFin t) : t.man ≠ 0 ∨ t.exp = 0 := by
  rcases ht.cases with rfl | ⟨h, _⟩
  · exact .inr rfl
  · exact .inl h

theorem mulSpecial_inf {s t : Mpf} (hs : s = finf ∨ s = fninf) (ht : CanonFin t) (h0 : t ≠ fzero) :
    mulSpecial s t = (if mpf_sign s * mpf_sign t = 1 then finf else fninf) ∧
    mulSpecial t s = (if mpf_sign s * mpf_sign t = 1 then finf else fninf) := by
  have h1 : isSpecial s = true := by rcases hs with rfl | rfl <;> rfl
  have h2 : s ≠ fnan := by rcases hs with rfl | rfl <;> decide
  have h3 : s ≠ fzero := by rcases hs with rfl | rfl <;> decide
  have h4 := (canonFin_ne_specials ht).2.2
  constructor
  · simp [mulSpecial, h1, ht.finite, h2, h4, h0]
  · simp [mulSpecial, h1, ht.finite, h2, h4, h0]

/-! ### rectangles (C15) -/

/-- a rectangle with finite canonical, ordered endpoints -/
def FinCi (Z : Mpci) : Prop := FinIv Z.1 ∧ FinIv Z.2

/-- the complex number `x + iy` lies in the rectangle -/
def MemCi (x y : ℚ) (Z : Mpci) : Prop := MemIv x Z.1 ∧ MemIv y Z.2

theorem mpci_mul_sound {Z W : Mpci} (hZ : FinCi Z) (hW : FinCi W) {prec : ℤ} (hp : 0 ≤ prec) {x y u v : ℚ}
    (hz : MemCi x y Z) (hw : MemCi u v W) :
    FinCi (mpci_mul Z W prec) ∧ MemCi (x * u - y * v) (x * v + y * u) (mpci_mul Z W prec) := by
  obtain ⟨f1, p1⟩ := mpi_mul_sound hZ.1 hW.1 (le_refl 0) hz.1 hw.1
  obtain ⟨f2, p2⟩ := mpi_mul_sound hZ.2 hW.2 (le_refl 0) hz.2 hw.2
  obtain ⟨f3, p3⟩ := mpi_mul_sound hZ.1 hW.2 (le_refl 0) hz.1 hw.2
  obtain ⟨f4, p4⟩ := mpi_mul_sound hZ.2 hW.1 (le_refl 0) hz.2 hw.1
  obtain ⟨hre, mre⟩ := mpi_sub_sound f1 f2 hp p1 p2
  obtain ⟨him, mim⟩ := mpi_add_sound f3 f4 hp p3 p4
  exact ⟨⟨hre, him⟩, mre, mim⟩

theorem mpci_pos_sound {Z : Mpci} (hZ : FinCi Z) {prec : ℤ} (hp : 0 ≤ prec) {x y : ℚ} (hz : MemCi x y Z) :
    FinCi (mpci_pos Z prec) ∧ MemCi x y (mpci_pos Z prec) := by
  obtain ⟨h1, m1⟩ := mpi_pos_sound hZ.1 hp hz.1
  obtain ⟨h2, m2⟩ := mpi_pos_sound hZ.2 hp hz.2
  exact ⟨⟨h1, h2⟩, m1, m2⟩

end Mp

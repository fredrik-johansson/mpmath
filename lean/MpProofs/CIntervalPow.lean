/-
  MpProofs/CIntervalPow.lean — squares and nonnegative integer powers of complex rectangles (`mpci_square`, `mpciPowNat`):
  binary powering with `mpci_mul` / `mpci_square` at `prec + 20`, loop invariant `result ∋ z^k`, `X ∋ z^m`, `k + m·n = N`.
-/
import MpProofs.CPow
import MpProofs.IntervalMore

namespace Mp

theorem mpf_shift_spec {s : Mpf} (hs : CanonFin s) (n : ℤ) :
    CanonFin (mpf_shift s n) ∧ val (mpf_shift s n) = val s * 2 ^ n := by
  unfold mpf_shift
  rcases hs.cases with rfl | ⟨hm, hsg, hodd, hbc⟩
  · have h0 : fzero.man = 0 := rfl
    simp only [h0, if_true]
    exact ⟨canonFin_fzero, by rw [val_fzero, zero_mul]⟩
  · simp only [hm, if_false]
    refine ⟨Or.inr ⟨hsg, hodd, hbc⟩, ?_⟩
    simp only [val]
    rw [zpow_add₀ (by norm_num : (2 : ℚ) ≠ 0)]
    ring

theorem mpi_shift_sound {s : Mpi} (hs : FinIv s) (n : ℤ) {x : ℚ} (hx : MemIv x s) :
    FinIv (mpi_shift s n) ∧ MemIv (x * 2 ^ n) (mpi_shift s n) := by
  obtain ⟨ha, hb, hab⟩ := hs
  obtain ⟨c1, v1⟩ := mpf_shift_spec ha n
  obtain ⟨c2, v2⟩ := mpf_shift_spec hb n
  have hpos : (0 : ℚ) < 2 ^ n := by positivity
  refine ⟨⟨c1, c2, ?_⟩, ?_, ?_⟩
  · show val (mpf_shift s.1 n) ≤ val (mpf_shift s.2 n)
    rw [v1, v2]; exact mul_le_mul_of_nonneg_right hab hpos.le
  · show val (mpf_shift s.1 n) ≤ x * 2 ^ n
    rw [v1]; exact mul_le_mul_of_nonneg_right hx.1 hpos.le
  · show x * 2 ^ n ≤ val (mpf_shift s.2 n)
    rw [v2]; exact mul_le_mul_of_nonneg_right hx.2 hpos.le

/-- `(x + iy)² = (x² − y²) + i·2xy` -/
theorem mpci_square_sound {Z : Mpci} (hZ : FinCi Z) {prec : ℤ} (hp : 0 ≤ prec) {x y : ℚ} (hz : MemCi x y Z) :
    FinCi (mpci_square Z prec) ∧ MemCi (x * x - y * y) (x * y + y * x) (mpci_square Z prec) := by
  obtain ⟨f1, p1⟩ := mpi_square_sound hZ.1 (le_refl 0) hz.1
  obtain ⟨f2, p2⟩ := mpi_square_sound hZ.2 (le_refl 0) hz.2
  obtain ⟨fre, mre⟩ := mpi_sub_sound f1 f2 hp p1 p2
  obtain ⟨f3, p3⟩ := mpi_mul_sound hZ.1 hZ.2 hp hz.1 hz.2
  obtain ⟨fim, mim⟩ := mpi_shift_sound f3 1 p3
  refine ⟨⟨fre, fim⟩, mre, ?_⟩
  have e : x * y + y * x = x * y * 2 ^ (1 : ℤ) := by rw [zpow_one]; ring
  show MemIv (x * y + y * x) _
  rw [e]; exact mim

/-- complex multiplication on pairs -/
def cmulQ (a b : ℚ × ℚ) : ℚ × ℚ := (a.1 * b.1 - a.2 * b.2, a.1 * b.2 + a.2 * b.1)

theorem cpowQ_succ (x y : ℚ) (n : ℕ) : cpowQ x y (n + 1) = cmulQ (cpowQ x y n) (x, y) := rfl

theorem cmulQ_assoc (a b c : ℚ × ℚ) : cmulQ (cmulQ a b) c = cmulQ a (cmulQ b c) := by
  simp only [cmulQ]; ext <;> ring

theorem cmulQ_comm (a b : ℚ × ℚ) : cmulQ a b = cmulQ b a := by
  simp only [cmulQ]; ext <;> ring

theorem cmulQ_one (a : ℚ × ℚ) : cmulQ a (1, 0) = a := by
  simp [cmulQ]

theorem cpowQ_add (x y : ℚ) (m n : ℕ) : cpowQ x y (m + n) = cmulQ (cpowQ x y m) (cpowQ x y n) := by
  induction n with
  | zero => simp [cpowQ, cmulQ]
  | succ n ih => rw [← add_assoc, cpowQ_succ, ih, cpowQ_succ, cmulQ_assoc]

/-- loop invariant of the binary powering: `R ∋ z^k`, `X ∋ z^m`, and `k + m·n` is the requested exponent -/
theorem mpciPowLoop_sound {wp : ℤ} (hwp : 0 ≤ wp) (x y : ℚ) :
    ∀ (fuel : ℕ) (R X : Mpci) (n k m : ℕ), n < 2 ^ fuel → FinCi R → FinCi X →
      MemCi (cpowQ x y k).1 (cpowQ x y k).2 R → MemCi (cpowQ x y m).1 (cpowQ x y m).2 X →
      FinCi (mpciPowLoop wp fuel R X n) ∧
        MemCi (cpowQ x y (k + m * n)).1 (cpowQ x y (k + m * n)).2 (mpciPowLoop wp fuel R X n) := by
  intro fuel
  induction fuel with
  | zero =>
    intro R X n k m hn hR _ mR _
    obtain rfl : n = 0 := by simpa using hn
    exact ⟨hR, mR⟩
  | succ fuel ih =>
    intro R X n k m hn hR hX mR mX
    unfold mpciPowLoop
    by_cases h0 : n = 0
    · subst h0; exact ⟨hR, mR⟩
    rw [if_neg h0]
    obtain ⟨fS, mS⟩ := mpci_square_sound hX hwp mX
    have mS' : MemCi (cpowQ x y (2 * m)).1 (cpowQ x y (2 * m)).2 (mpci_square X wp) := by
      rw [two_mul, cpowQ_add]; exact mS
    by_cases hodd : n % 2 = 1
    · obtain ⟨j, rfl⟩ : ∃ j, n = 2 * j + 1 := ⟨n / 2, by rw [← hodd, Nat.div_add_mod]⟩
      obtain ⟨fM, mM⟩ := mpci_mul_sound hR hX hwp mR mX
      have mM' : MemCi (cpowQ x y (k + m)).1 (cpowQ x y (k + m)).2 (mpci_mul R X wp) := by
        rw [cpowQ_add]; exact mM
      have := ih (mpci_mul R X wp) (mpci_square X wp) j (k + m) (2 * m) (by rw [pow_succ'] at hn; exact Nat.lt_of_mul_lt_mul_left (Nat.lt_of_succ_lt hn)) fM fS mM' mS'
      rw [show k + m + 2 * m * j = k + m * (2 * j + 1) by ring] at this
      rw [if_pos hodd]
      dsimp only
      rwa [Nat.add_sub_cancel, Nat.mul_div_cancel_left j two_pos]
    · obtain ⟨j, rfl⟩ : ∃ j, n = 2 * j :=
        ⟨n / 2, by rw [← Nat.add_zero (2 * _), ← (Nat.mod_two_eq_zero_or_one n).resolve_right hodd, Nat.div_add_mod]⟩
      have := ih R (mpci_square X wp) j k (2 * m) (by rw [pow_succ'] at hn; exact Nat.lt_of_mul_lt_mul_left hn) hR fS mR mS'
      rw [show k + 2 * m * j = k + m * (2 * j) by ring] at this
      rw [if_neg hodd]
      dsimp only
      rwa [Nat.mul_div_cancel_left j two_pos]

/-- **nonnegative integer powers of rectangles**: the result contains `(x + iy)^n` for every `x + iy` of the rectangle -/
theorem mpciPowNat_sound {Z : Mpci} (hZ : FinCi Z) (n : ℕ) {prec : ℤ} (hp : 0 ≤ prec) {x y : ℚ} (hz : MemCi x y Z) :
    FinCi (mpciPowNat Z n prec) ∧ MemCi (cpowQ x y n).1 (cpowQ x y n).2 (mpciPowNat Z n prec) := by
  have one_fin : FinCi (mpi_one, mpi_zero) := ⟨one_encl.1, zero_encl.1⟩
  have one_mem : MemCi (cpowQ x y 0).1 (cpowQ x y 0).2 (mpi_one, mpi_zero) := ⟨one_encl.2, zero_encl.2⟩
  have z_mem : MemCi (cpowQ x y 1).1 (cpowQ x y 1).2 Z := by
    simpa [cpowQ] using hz
  unfold mpciPowNat
  by_cases h0 : n = 0
  · subst h0; rw [if_pos rfl]; exact ⟨one_fin, one_mem⟩
  rw [if_neg h0]
  by_cases h1 : n = 1
  · subst h1; rw [if_pos rfl]; exact mpci_pos_sound hZ hp z_mem
  rw [if_neg h1]
  by_cases h2 : n = 2
  · subst h2
    rw [if_pos rfl, show cpowQ x y 2 = (x * x - y * y, x * y + y * x) by simp [cpowQ]]
    exact mpci_square_sound hZ hp hz
  rw [if_neg h2]
  have hwp : (0 : ℤ) ≤ prec + 20 := by omega
  obtain ⟨f, m⟩ := mpciPowLoop_sound hwp x y (bitcount n) (mpi_one, mpi_zero) Z n 0 1 (bitcount_lt n) one_fin hZ one_mem z_mem
  rw [show 0 + 1 * n = n by ring] at m
  exact mpci_pos_sound f hp m

end Mp

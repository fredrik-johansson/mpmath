/-
  MpProofs/Sqrt.lean — `mpf_sqrt` (libmpf.py) returns the correctly rounded real square root, in all five modes.
  The value lives in ℝ (`Real.sqrt`); the rounding vocabulary of MpProofs/Spec.lean is generic over ordered fields.
-/
import MpProofs.Arith
import Mathlib.Analysis.Real.Sqrt
import Mathlib.Data.Nat.Sqrt

namespace Mp

/-- the value of a raw mpf as a real number -/
noncomputable abbrev valR (x : Mpf) : ℝ := valK ℝ x

theorem from_man_exp_nat (r : ℕ) (e : ℤ) {prec : ℤ} (hp : prec ≠ 0) (rnd : Rnd) :
    from_man_exp (r : ℤ) e prec rnd = normalize 0 r e (bitcount r) prec rnd := by
  unfold from_man_exp
  have h1 : ¬ ((r : ℤ) < 0) := by omega
  simp [h1, hp]

theorem nat_sqrt_bounds (x : ℕ) : ((Nat.sqrt x : ℕ) : ℝ) ≤ Real.sqrt x ∧ Real.sqrt x < ((Nat.sqrt x : ℕ) : ℝ) + 1 := by
  have h1 := Nat.sqrt_le' x
  have h2 := Nat.lt_succ_sqrt' x
  constructor
  · apply Real.le_sqrt_of_sq_le
    exact_mod_cast h1
  · rw [Real.sqrt_lt' (by positivity)]
    have : (x : ℝ) < ((Nat.succ (Nat.sqrt x) ^ 2 : ℕ) : ℝ) := by exact_mod_cast h2
    push_cast at this
    exact this

theorem nat_sqrt_strict (x : ℕ) (h : x - Nat.sqrt x * Nat.sqrt x ≠ 0) :
    ((Nat.sqrt x : ℕ) : ℝ) < Real.sqrt x := by
  have h1 := Nat.sqrt_le' x
  have hlt : Nat.sqrt x ^ 2 < x := by rw [Nat.pow_two] at h1 ⊢; omega
  apply Real.lt_sqrt_of_sq_lt
  exact_mod_cast hlt

theorem nat_sqrt_exact (x : ℕ) (h : x - Nat.sqrt x * Nat.sqrt x = 0) :
    Real.sqrt x = ((Nat.sqrt x : ℕ) : ℝ) := by
  have h1 := Nat.sqrt_le' x
  have heq : Nat.sqrt x ^ 2 = x := by rw [Nat.pow_two] at h1 ⊢; omega
  have : (x : ℝ) = ((Nat.sqrt x : ℕ) : ℝ) ^ 2 := by exact_mod_cast heq.symm
  rw [this, Real.sqrt_sq (by positivity)]

theorem sqrt_scale (x : ℝ) (k : ℤ) : Real.sqrt (x * 2 ^ (2 * k)) = Real.sqrt x * 2 ^ k := by
  have hk : (0 : ℝ) ≤ 2 ^ k := by positivity
  have : (2 : ℝ) ^ (2 * k) = 2 ^ k * 2 ^ k := by rw [two_mul, zpow_add₀ (by norm_num)]
  rw [this, Real.sqrt_mul' _ (by positivity), Real.sqrt_mul_self hk]

/-- where the real root of `M·2^E` lies on the scale `2^e'` of the integer root `r` of the shifted mantissa: in the unit
cell of `r`, strictly inside unless the shifted mantissa is a perfect square -/
theorem sqrt_cell (M : ℕ) {E : ℤ} {sh : ℕ} {e' : ℤ} (he' : E - sh = 2 * e') :
    let x := M * 2 ^ sh
    let r := Nat.sqrt x
    (r : ℝ) * 2 ^ e' ≤ Real.sqrt ((M : ℝ) * 2 ^ E) ∧ Real.sqrt ((M : ℝ) * 2 ^ E) < ((r : ℝ) + 1) * 2 ^ e' ∧
    (x - r * r ≠ 0 → (r : ℝ) * 2 ^ e' < Real.sqrt ((M : ℝ) * 2 ^ E)) ∧
    (x - r * r = 0 → Real.sqrt ((M : ℝ) * 2 ^ E) = (r : ℝ) * 2 ^ e') := by
  intro x r
  have hV : Real.sqrt ((M : ℝ) * 2 ^ E) = Real.sqrt (x : ℝ) * 2 ^ e' := by
    have : (M : ℝ) * 2 ^ E = (x : ℝ) * 2 ^ (2 * e') := by
      show (M : ℝ) * 2 ^ E = ((M * 2 ^ sh : ℕ) : ℝ) * 2 ^ (2 * e')
      rw [← he', zpow_sub₀ (by norm_num), zpow_natCast]; push_cast
      field_simp
    rw [this, sqrt_scale]
  have hE : (0 : ℝ) < 2 ^ e' := by positivity
  obtain ⟨hr1, hr2⟩ := nat_sqrt_bounds x
  rw [hV]
  exact ⟨mul_le_mul_of_nonneg_right hr1 hE.le, mul_lt_mul_of_pos_right hr2 hE,
    fun h => mul_lt_mul_of_pos_right (nat_sqrt_strict x h) hE, fun h => by rw [nat_sqrt_exact x h]⟩

/-- the contract of a rounded operation whose exact value is a real number -/
def RoundOKR (prec : ℤ) (rnd : Rnd) (x : ℝ) (r : Mpf) : Prop :=
  CanonFin r ∧ r.bc ≤ prec ∧ IsRound prec.toNat rnd x (valR r)

/-- the form in which the `normalize_round_*` theorems deliver it, for a nonnegative value -/
theorem RoundOKR.of_normalize {prec : ℤ} {rnd : Rnd} {X : ℝ} {v : Mpf}
    (h : CanonFin v ∧ v.bc ≤ prec ∧ IsRound prec.toNat rnd ((-1 : ℝ) ^ 0 * X) (valK ℝ v)) : RoundOKR prec rnd X v := by
  rwa [pow_zero, one_mul] at h

/-- core: integer square root of the shifted mantissa, then one rounding -/
theorem sqrt_core {M : ℕ} {E : ℤ} {prec : ℤ} (hp : 0 < prec) {sh : ℕ}
    (hbig : 2 ^ (2 * prec.toNat + 2) ≤ M * 2 ^ sh) {e' : ℤ} (he' : E - sh = 2 * e') (rnd : Rnd) :
    let x := M * 2 ^ sh
    let r := Nat.sqrt x
    ∃ v, (if rnd = .f ∨ rnd = .d then (Except.ok (normalize 0 r e' (bitcount r) prec rnd) : Except Err Mpf)
       else if x - r * r ≠ 0 then .ok (normalize 0 (r * 2 + 1) (e' - 1) (bitcount (r * 2 + 1)) prec rnd)
       else .ok (normalize 0 r e' (bitcount r) prec rnd)) = .ok v ∧
      RoundOKR prec rnd (Real.sqrt ((M : ℝ) * 2 ^ E)) v := by
  intro x r
  obtain ⟨p, rfl⟩ : ∃ p : ℕ, prec = p := ⟨prec.toNat, by omega⟩
  simp only [Int.toNat_natCast] at hbig
  obtain ⟨hX1, hX2, hstrict, hexact⟩ := sqrt_cell M he'
  have hE : (0 : ℝ) < 2 ^ e' := by positivity
  have hrbig : 2 ^ (p + 1) ≤ r := by
    rw [Nat.le_sqrt']
    calc (2 ^ (p + 1)) ^ 2 = 2 ^ (2 * p + 2) := by rw [← pow_mul]; congr 1; ring
      _ ≤ x := hbig
  have hbcr : p + 1 < bitcount r := lt_bitcount_of_le hrbig
  by_cases hdown : rnd = .f ∨ rnd = .d
  · rw [if_pos hdown]
    have hrn : rnd ≠ .n := by rcases hdown with h | h <;> rw [h] <;> decide
    have hsd : shiftsDown rnd 0 = true := by rcases hdown with h | h <;> rw [h] <;> rfl
    exact ⟨_, rfl, .of_normalize (normalize_round_down (K := ℝ) (sign := 0) (by norm_num) r e' hp hrn hsd
      _ (by omega) hX1 hX2)⟩
  · rw [if_neg hdown]
    by_cases hrem : x - r * r ≠ 0
    · rw [if_pos hrem]
      -- the stand-in `2r + 1` at the next finer exponent is the midpoint of the unit cell of `r`
      have hmid : ((r * 2 + 1 : ℕ) : ℝ) * 2 ^ (e' - 1) = (r : ℝ) * 2 ^ e' + 2 ^ e' / 2 := by
        rw [zpow_sub_one₀ (by norm_num)]; push_cast; ring
      have hpr : 2 ^ p ≤ r := le_trans (Nat.pow_le_pow_right (by norm_num) (by omega)) hrbig
      have hbig' : ((p : ℕ) : ℤ) < bitcount (r * 2 + 1) := by
        have : bitcount r ≤ bitcount (r * 2 + 1) := bitcount_mono (by omega)
        omega
      have hpr' : 2 ^ ((p : ℕ) : ℤ).toNat ≤ r := by rwa [Int.toNat_natCast]
      exact ⟨_, rfl, .of_normalize (normalize_sticky_gen (K := ℝ) (sign := 0) (by norm_num) (r * 2 + 1) (e' - 1) hp rnd
        hbig' hpr' (by rw [hmid]; exact lt_add_of_pos_right _ (half_pos hE))
        (by rw [hmid, add_mul, one_mul]; exact (add_lt_add_iff_left _).2 (half_lt_self hE)) (hstrict hrem) hX2)⟩
    · rw [if_neg hrem]
      push Not at hrem
      rw [hexact hrem]
      exact ⟨_, rfl, .of_normalize (normalize_round_gen (K := ℝ) (sign := 0) (by norm_num) r e' hp rnd
        ((r : ℝ) * 2 ^ e') (fun _ => rfl) (fun n _ _ => cellLike_exact _ n r e'))⟩

/-- the general branch of `mpf_sqrt` on a mantissa `M` at an even exponent `E`: an even shift that leaves the integer
square root more than `prec + 1` bits, then `sqrt_core` -/
theorem sqrt_shift_spec {M : ℕ} (hM : M ≠ 0) {E : ℤ} (hE : E % 2 = 0) {prec : ℤ} (hp : 0 < prec) (rnd : Rnd) :
    ∃ v, (let shift := max 4 (2 * prec - (bitcount M : ℤ) + 4)
          let shift := shift + shift % 2
          let x := M <<< shift.toNat
          let r := Nat.sqrt x
          if rnd = .f ∨ rnd = .d then (Except.ok (from_man_exp r ((E - shift) / 2) prec rnd) : Except Err Mpf)
          else
            let rem := x - r * r
            if rem ≠ 0 then .ok (from_man_exp ((r <<< 1) + 1 : ℕ) ((E - (shift + 2)) / 2) prec rnd)
            else .ok (from_man_exp r ((E - shift) / 2) prec rnd)) = .ok v ∧
      RoundOKR prec rnd (Real.sqrt ((M : ℝ) * 2 ^ E)) v := by
  obtain ⟨sh, hsh, hev, hge⟩ : ∃ sh : ℕ,
      max 4 (2 * prec - (bitcount M : ℤ) + 4) + max 4 (2 * prec - (bitcount M : ℤ) + 4) % 2 = sh ∧
      (sh : ℤ) % 2 = 0 ∧ 2 * prec - (bitcount M : ℤ) + 4 ≤ sh :=
    ⟨(max 4 (2 * prec - (bitcount M : ℤ) + 4) + max 4 (2 * prec - (bitcount M : ℤ) + 4) % 2).toNat,
      by omega, by omega, by omega⟩
  obtain ⟨e', he'⟩ : ∃ e' : ℤ, E - sh = 2 * e' := ⟨(E - sh) / 2, by omega⟩
  have hbig : 2 ^ (2 * prec.toNat + 2) ≤ M * 2 ^ sh :=
    calc 2 ^ (2 * prec.toNat + 2) ≤ 2 ^ ((bitcount M - 1) + sh) :=
          Nat.pow_le_pow_right (by norm_num) (by have := bitcount_pos hM; omega)
      _ = 2 ^ (bitcount M - 1) * 2 ^ sh := pow_add _ _ _
      _ ≤ M * 2 ^ sh := Nat.mul_le_mul_right _ (bitcount_le hM)
  simp only [hsh, Int.toNat_natCast, Nat.shiftLeft_eq, pow_one, from_man_exp_nat _ _ hp.ne',
    show (E - (sh : ℤ)) / 2 = e' by omega, show (E - ((sh : ℤ) + 2)) / 2 = e' - 1 by omega]
  exact sqrt_core hp hbig he' rnd

/-- **`mpf_sqrt` is correctly rounded** for every finite canonical nonnegative argument (mantissa of any length),
every precision ≥ 1 and all five modes: the result is canonical, has at most `prec` bits, and is THE rounding of the
real square root. -/
theorem mpf_sqrt_spec {s : Mpf} (hs : CanonFin s) (hsign : s.sign = 0) {prec : ℤ} (hp : 0 < prec) (rnd : Rnd) :
    ∃ r, mpf_sqrt s prec rnd = .ok r ∧ RoundOKR prec rnd (Real.sqrt (valR s)) r := by
  unfold mpf_sqrt
  simp only [hsign, ne_eq, not_true_eq_false, if_false]
  rcases hs.cases with rfl | ⟨hm0, _, hodd, hbc⟩
  · refine ⟨fzero, by simp [fzero], canonFin_fzero, by simp [fzero]; omega, ?_⟩
    have : valR fzero = 0 := by simp [valR, valK, fzero]
    rw [this, Real.sqrt_zero]; exact isRound_zero _ _
  simp only [hm0, if_false]
  rw [show valR s = (s.man : ℝ) * 2 ^ s.exp by simp [valR, valK, hsign]]
  by_cases hspecial : ¬ (s.exp % 2 ≠ 0) ∧ s.man = 1
  · -- an even power of two: the root is again a power of two, which fits every precision
    obtain ⟨hev, hm1⟩ := hspecial
    obtain ⟨h, hh⟩ : ∃ h, s.exp = 2 * h := ⟨s.exp / 2, by omega⟩
    simp only [hev, hm1, not_false_eq_true, and_self, if_true]
    rw [hbc, hm1, normalize1_eq_normalize 0 (by norm_num), hh, Int.mul_ediv_cancel_left _ two_ne_zero, sqrt_scale,
      Nat.cast_one, Real.sqrt_one]
    exact ⟨_, rfl, .of_normalize (normalize_round_gen (K := ℝ) (sign := 0) (by norm_num) 1 h hp rnd _
      (fun _ => by rw [Nat.cast_one]) (fun n hn hbc => absurd hbc (by rw [bitcount_one]; omega)))⟩
  · simp only [hspecial, if_false]
    -- general case: reduce to an even exponent, shift, integer square root
    by_cases hoddexp : s.exp % 2 ≠ 0
    · simp only [hoddexp, not_false_eq_true, if_true]
      have hM : s.man <<< 1 ≠ 0 := by rw [Nat.shiftLeft_eq]; omega
      have hb : s.bc + (1 : ℤ) = (bitcount (s.man <<< 1) : ℤ) := by
        rw [Nat.shiftLeft_eq, bitcount_mul_two_pow hm0, hbc]; push_cast; ring
      have hv : ((s.man <<< 1 : ℕ) : ℝ) * 2 ^ (s.exp - 1) = (s.man : ℝ) * 2 ^ s.exp := by
        rw [Nat.shiftLeft_eq, zpow_sub_one₀ (by norm_num)]; push_cast; ring
      rw [hb, ← hv]
      exact sqrt_shift_spec hM (by omega) hp rnd
    · simp only [hoddexp, if_false]
      push Not at hoddexp
      rw [hbc]
      exact sqrt_shift_spec hm0 hoddexp hp rnd

end Mp

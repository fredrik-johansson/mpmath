/-
  Props/C19.lean — C19 (zeta-family accuracy), PARTIAL: decided on the closed-form sub-family.
  Level: translation validation with a PROVED validator and PROVED reference values.

  (1) the validator `specCheck` / `specCheckC` is rigorous (the theorems of `Props/C18.lean`, stated for this property);
  (2) the reference expressions computed from the ARGUMENTS denote Mathlib's functions:
      `riemannZeta` at `0`, negative integers and even positive integers (`riemannZeta_zero`,
      `riemannZeta_neg_nat_eq_bernoulli`, `riemannZeta_two_mul_nat`); the Hurwitz series
      `Σ_{n≥0} 1/(n+a)^(2k)` at integers `a ≥ 1` (`hasSum_zeta_nat` with the first `a` terms removed);
      `Polynomial.bernoulli` at rational points; the series `Σ_{k≥1} z^k/k = −log(1−z)`,
      `Σ_{k≥1} k^n z^k` (`|z| < 1`) and `Σ_{k≥1} 1/k^(2m)` defining `polylog(1, z)`, `polylog(−n, z)`, `polylog(2m, 1)`.
      DEFINITIONS (no Mathlib object exists): `altzeta(s) := (1 − 2^(1−s))·ζ(s)`, and the Euler polynomials
      `E_n(x) := 2/(n+1)·(B_{n+1}(x) − 2^(n+1)·B_{n+1}(x/2))` in terms of Mathlib's `Polynomial.bernoulli`.
  NOT decided: `ζ` at odd positive integers and all non-integers, complex `s`, Hurwitz `ζ(s, a)` for non-integer `a`
  or `s` not an even positive integer, derivatives, `dirichlet`, `lerchphi`, `stieltjes`, `primezeta`,
  `siegeltheta`, `siegelz`, `riemannr`, `polylog` outside the three sub-families (in particular `|z| ≥ 1`).
-/
import MpProofs.SpecRefZeta

namespace Mp
open Mp.Encl Mp.SpecRef
open scoped Nat

theorem C19_validator (r : SExpr) (y : Dy) (p k : ℕ) :
    (specCheck r y p k = .ok → |y.val - r.sem| ≤ (2 : ℝ) ^ ((k : ℤ) - (p : ℤ)) * |r.sem|) ∧
    (specCheck r y p k = .violates → (2 : ℝ) ^ ((k : ℤ) - (p : ℤ)) * |r.sem| < |y.val - r.sem|) :=
  have h := specCheck_sound r y p k
  ⟨h.1, h.2.1⟩

/-- the strict form of the property text ("below 2^(8−p)"): run with `k = 7`; a reference value 0
(`ζ(−2n)`, `B_n(x)` at a root, …) requires the output to be exactly 0 -/
theorem C19_validator_strict (r : SExpr) (y : Dy) (p : ℕ) (h : specCheck r y p 7 = .ok) :
    (r.sem ≠ 0 → |y.val - r.sem| < (2 : ℝ) ^ ((8 : ℤ) - (p : ℤ)) * |r.sem|) ∧
    (r.sem = 0 → y.val = 0) :=
  ⟨fun h0 => by simpa using specCheck_ok_strict r y p 7 h h0, specCheck_ok_zero r y p 7 h⟩

theorem C19_validator_complex (r : SExpr) (yre yim : Dy) (p k : ℕ) :
    (specCheckC r yre yim p k = .ok →
      ‖(⟨yre.val, yim.val⟩ : ℂ) - (r.sem : ℂ)‖ ≤ (2 : ℝ) ^ ((k : ℤ) - (p : ℤ)) * |r.sem|) ∧
    (specCheckC r yre yim p k = .violates →
      (2 : ℝ) ^ ((k : ℤ) - (p : ℤ)) * |r.sem| < ‖(⟨yre.val, yim.val⟩ : ℂ) - (r.sem : ℂ)‖) :=
  have h := specCheckC_sound r yre yim p k
  ⟨h.1, h.2.1⟩

/-- `zeta(s)` at integers: whenever the reference is a value it is Mathlib's `riemannZeta s`
(values are produced for `s ≤ 0` and for even `s ≥ 2`) -/
theorem C19_zeta_ref (s : ℤ) (e : SExpr) (he : zetaRef s = .val e) :
    ((e.sem : ℝ) : ℂ) = riemannZeta (s : ℂ) := by
  rcases le_or_gt s 0 with h0 | h0
  · obtain ⟨n, rfl⟩ : ∃ n : ℕ, s = -(n : ℤ) := ⟨(-s).toNat, by omega⟩
    rw [zetaRef_nonpos] at he
    obtain rfl := Ref.val.inj he
    rw [ratE_sem, zetaNeg_complex n]
    push_cast; rfl
  · unfold zetaRef at he
    rw [if_neg h0.not_ge] at he
    split at he
    · cases he
    · split at he
      · rename_i h1 hev
        obtain ⟨k, hk0, rfl⟩ := even_two_le (by omega) hev
        rw [Int.mul_ediv_cancel_left _ two_ne_zero, Int.toNat_natCast] at he
        obtain rfl := Ref.val.inj he
        rw [zetaEven_expr_sem, zetaEven_complex k hk0]
        push_cast; rfl
      · cases he

/-- the reference reports the pole of `zeta` exactly at `s = 1` -/
theorem C19_zeta_pole_iff (s : ℤ) : zetaRef s = .pole ↔ s = 1 := by
  unfold zetaRef
  constructor
  · intro h
    by_contra h1
    rw [if_neg h1] at h
    split at h
    · simp [Ref.ofRat] at h
    · split at h <;> simp at h
  · intro h; rw [if_pos h]

/-- `altzeta(s)`, DEFINED as `(1 − 2^(1−s))·ζ(s)` with Mathlib's `riemannZeta`, at the same points -/
theorem C19_altzeta_ref (s : ℤ) (e : SExpr) (he : altzetaRef s = .val e) :
    ((e.sem : ℝ) : ℂ) = (1 - (2 : ℂ) ^ (1 - s)) * riemannZeta (s : ℂ) := by
  unfold altzetaRef at he
  cases hz : zetaRef s with
  | val e0 =>
    rw [hz] at he
    simp only [Ref.val.injEq] at he; subst he
    simp only [SExpr.sem, ratE_sem]
    push_cast
    rw [C19_zeta_ref s e0 hz]
    congr 1
    have := etaFactor_sem s
    rw [← Complex.ofReal_ratCast, this]; push_cast; rfl
  | pole => rw [hz] at he; simp only at he; split at he <;> simp at he
  | outside => rw [hz] at he; simp only at he; split at he <;> simp at he

/-- Hurwitz `zeta(s, a)` at even `s = 2k ≥ 2` and integer `a ≥ 1`: the reference is the sum of the series
`Σ_{n≥0} 1/(n+a)^(2k)` -/
theorem C19_hurwitz_ref (s a : ℤ) (e : SExpr) (he : hurwitzRef s a = .val e) :
    ∃ k a' : ℕ, s = 2 * (k : ℤ) ∧ k ≠ 0 ∧ a = (a' : ℤ) ∧ 1 ≤ a' ∧
      HasSum (fun n : ℕ => 1 / ((n : ℝ) + (a' : ℝ)) ^ (2 * k)) e.sem := by
  unfold hurwitzRef at he
  split at he
  · rename_i hc
    obtain ⟨k, hk0, rfl⟩ := even_two_le hc.1 hc.2.1
    obtain ⟨a', rfl⟩ := Int.eq_ofNat_of_zero_le (by omega : 0 ≤ a)
    rw [zetaRef_even k hk0] at he
    obtain rfl := Ref.val.inj he
    refine ⟨k, a', rfl, hk0, rfl, by omega, ?_⟩
    rw [SExpr.sem, zetaEven_expr_sem, SExpr.sem, ratE_sem, ← sub_eq_add_neg, Int.toNat_natCast,
      show (2 * (k : ℤ)).toNat = 2 * k by omega]
    exact hurwitz_hasSum k a' hk0
  · cases he

/-- `bernpoly(n, x)` at rational `x`: Mathlib's `Polynomial.bernoulli n` evaluated at `x` -/
theorem C19_bernpoly_ref (n : ℤ) (x : ℚ) (e : SExpr) (he : bernpolyRef n x = .val e) :
    ∃ m : ℕ, n = m ∧ e.sem = (((Polynomial.bernoulli m).eval x : ℚ) : ℝ) := by
  obtain ⟨m, hm, he⟩ := natRef_val (g := fun m => Ref.ofRat (bernPolyQ m x)) he
  obtain rfl := Ref.val.inj he
  exact ⟨m, hm, by rw [ratE_sem, bernPolyQ_eq]⟩

/-- `eulerpoly(n, x)` at rational `x`: the Euler polynomial DEFINED by
`E_n(x) = 2/(n+1)·(B_{n+1}(x) − 2^(n+1)·B_{n+1}(x/2))` with Mathlib's Bernoulli polynomials
(Mathlib has no Euler polynomials; this is a definition, not a theorem about an independent object) -/
theorem C19_eulerpoly_ref (n : ℤ) (x : ℚ) (e : SExpr) (he : eulerpolyRef n x = .val e) :
    ∃ m : ℕ, n = m ∧ e.sem = ((2 / ((m : ℚ) + 1) *
      ((Polynomial.bernoulli (m + 1)).eval x - 2 ^ (m + 1) * (Polynomial.bernoulli (m + 1)).eval (x / 2)) : ℚ) : ℝ) := by
  obtain ⟨m, hm, he⟩ := natRef_val (g := fun m => Ref.ofRat (eulerPolyQ m x)) he
  obtain rfl := Ref.val.inj he
  exact ⟨m, hm, by rw [ratE_sem, eulerPolyQ, bernPolyQ_eq, bernPolyQ_eq]⟩

/-- `polylog(s, z)` at rational `z`: a value is produced in exactly three sub-families, in each of which it is the
sum of the defining series `Σ_{k≥1} z^k/k^s`:
`s = 1`, `|z| < 1` (value `−log(1−z)`);  `s = −n ≤ 0`, `|z| < 1` (a rational function of `z`);
`s = 2m ≥ 2`, `z = 1` (value `ζ(2m)`) -/
theorem C19_polylog_ref (s : ℤ) (z : ℚ) (e : SExpr) (he : polylogRef s z = .val e) :
    (s = 1 ∧ |(z : ℝ)| < 1 ∧ HasSum (fun k : ℕ => (z : ℝ) ^ (k + 1) / ((k : ℝ) + 1)) e.sem) ∨
    (∃ n : ℕ, s = -(n : ℤ) ∧ |(z : ℝ)| < 1 ∧
      HasSum (fun k : ℕ => ((k + 1 : ℕ) : ℝ) ^ n * (z : ℝ) ^ (k + 1)) e.sem) ∨
    (∃ m : ℕ, s = 2 * (m : ℤ) ∧ m ≠ 0 ∧ z = 1 ∧ HasSum (fun k : ℕ => 1 / (k : ℝ) ^ (2 * m)) e.sem) := by
  unfold polylogRef at he
  split at he
  · rename_i h1
    split at he
    · rename_i hz
      obtain rfl := Ref.val.inj he
      refine Or.inl ⟨h1, abs_ratCast_lt_one hz, ?_⟩
      rw [SExpr.sem, SExpr.sem, ratE_sem, Rat.cast_sub, Rat.cast_one]
      exact Real.hasSum_pow_div_log_of_abs_lt_one (abs_ratCast_lt_one hz)
    · cases he
  · split at he
    · split at he
      · rename_i h2 hc
        obtain ⟨m, hm0, rfl⟩ := even_two_le h2 hc.2
        rw [zetaRef_even m hm0] at he
        obtain rfl := Ref.val.inj he
        refine Or.inr (Or.inr ⟨m, rfl, hm0, hc.1, ?_⟩)
        rw [zetaEven_expr_sem, zetaEven_sem]
        exact hasSum_zeta_nat hm0
      · cases he
    · split at he
      · rename_i hz
        obtain rfl := Ref.val.inj he
        refine Or.inr (Or.inl ⟨(-s).toNat, by omega, abs_ratCast_lt_one hz, ?_⟩)
        rw [ratE_sem]
        exact hasSum_polylog_neg _ z (abs_ratCast_lt_one hz)
      · cases he

-- ζ(2) = π²/6 = 1.6449340668…: accepted at 24 bits; 1.65 rejected
example : (match zetaRef 2 with | .val e => specCheck e ⟨13798707, -23⟩ 24 7 | _ => .undecided) = .ok := by
  decide +kernel
example : (match zetaRef 2 with | .val e => specCheck e ⟨33, -5⟩ 8 0 | _ => .undecided) = .violates := by
  decide +kernel
example : zetaRef 1 = .pole := by decide +kernel
example : zetaRef (-1) = .val (.rat (-1) 12) := by decide +kernel
example : bernpolyRef 2 (1 / 2) = .val (.rat (-1) 12) := by decide +kernel
example : polylogRef (-1) (1 / 2) = .val (.rat 2 1) := by decide +kernel

end Mp

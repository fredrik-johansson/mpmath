/-
  MpProofs/CalcFam.lean — the real functions denoted by the families `Mp.Calc.Fam` / `FamInf`, and the
  calculus facts about them (antiderivatives checked by differentiation in Lean, integrals through the
  fundamental theorem of calculus and Mathlib's Gamma / Gaussian integrals).
-/
import MpProofs.CalcRef
import Mathlib.Analysis.SpecialFunctions.Integrals.Basic
import Mathlib.Analysis.SpecialFunctions.ImproperIntegrals
import Mathlib.Analysis.SpecialFunctions.Gaussian.GaussianIntegral
import Mathlib.Analysis.SpecialFunctions.Gamma.Basic
import Mathlib.MeasureTheory.Integral.IntervalIntegral.FundThmCalculus

namespace Mp.Calc
open Mp.Encl MeasureTheory Set

/-- value of a term list `Σ c·x^n` at a real point -/
noncomputable def polyFn (ts : List (ℚ × ℕ)) (x : ℝ) : ℝ := (ts.map fun t => (t.1 : ℝ) * x ^ t.2).sum

/-- the real function denoted by a family -/
noncomputable def Fam.fn : Fam → ℝ → ℝ
  | .poly ts, x => polyFn ts x
  | .expL c, x => Real.exp (c * x)
  | .sinL c, x => Real.sin (c * x)
  | .cosL c, x => Real.cos (c * x)
  | .xexp c, x => x * Real.exp (c * x)
  | .expcos a b, x => Real.exp (a * x) * Real.cos (b * x)
  | .expsin a b, x => Real.exp (a * x) * Real.sin (b * x)
  | .lorentz, x => (1 + x ^ 2)⁻¹
  | .recip c, x => (x + c)⁻¹

theorem polyRef_sem (ts : List (ℚ × ℕ)) (x : Ref) : (polyRef ts x).sem = polyFn ts x.sem := by
  simp only [polyRef, Ref.sem_sum, polyFn, List.map_map]
  congr 1

theorem Fam.valRef_sem (f : Fam) (x : Ref) : (f.valRef x).sem = f.fn x.sem := by
  cases f <;> simp [Fam.valRef, Fam.fn, Ref.sem, polyRef_sem]

/-- the antiderivative denoted by `Fam.primRef` -/
noncomputable def Fam.primFn (f : Fam) (x : ℝ) : ℝ :=
  match f with
  | .poly ts => polyFn (ts.map fun t => (t.1 / ((t.2 + 1 : ℕ) : ℚ), t.2 + 1)) x
  | .expL c => ((1 / c : ℚ) : ℝ) * Real.exp (c * x)
  | .sinL c => ((-1 / c : ℚ) : ℝ) * Real.cos (c * x)
  | .cosL c => ((1 / c : ℚ) : ℝ) * Real.sin (c * x)
  | .xexp c => Real.exp (c * x) * (((1 / c : ℚ) : ℝ) * x + ((-1 / (c * c) : ℚ) : ℝ))
  | .expcos a b => (((1 / (a * a + b * b) : ℚ) : ℝ) * Real.exp (a * x)) *
        ((a : ℝ) * Real.cos (b * x) + (b : ℝ) * Real.sin (b * x))
  | .expsin a b => (((1 / (a * a + b * b) : ℚ) : ℝ) * Real.exp (a * x)) *
        ((a : ℝ) * Real.sin (b * x) + ((-b : ℚ) : ℝ) * Real.cos (b * x))
  | .lorentz => Real.arctan x
  | .recip c => Real.log (x + c)

theorem Fam.primRef_sem (f : Fam) (x : Ref) : (f.primRef x).sem = f.primFn x.sem := by
  cases f <;> simp [Fam.primRef, Fam.primFn, Ref.sem, polyRef_sem]

theorem polyFn_cons (t : ℚ × ℕ) (ts : List (ℚ × ℕ)) (x : ℝ) :
    polyFn (t :: ts) x = (t.1 : ℝ) * x ^ t.2 + polyFn ts x := by
  simp [polyFn]

theorem polyFn_nil (x : ℝ) : polyFn [] x = 0 := by simp [polyFn]

theorem polyFn_continuous (ts : List (ℚ × ℕ)) : Continuous (polyFn ts) := by
  induction ts with
  | nil =>
    have : polyFn [] = fun _ => (0 : ℝ) := funext polyFn_nil
    rw [this]; exact continuous_const
  | cons t ts ih =>
    have : polyFn (t :: ts) = fun x => (t.1 : ℝ) * x ^ t.2 + polyFn ts x := funext (polyFn_cons t ts)
    rw [this]; fun_prop

theorem polyFn_hasDerivAt_prim (ts : List (ℚ × ℕ)) (x : ℝ) :
    HasDerivAt (polyFn (ts.map fun t => (t.1 / ((t.2 + 1 : ℕ) : ℚ), t.2 + 1))) (polyFn ts x) x := by
  induction ts with
  | nil =>
    have : polyFn ([].map fun t : ℚ × ℕ => (t.1 / ((t.2 + 1 : ℕ) : ℚ), t.2 + 1)) = fun _ => (0 : ℝ) :=
      funext fun y => by simp [polyFn]
    rw [this, polyFn_nil]; exact hasDerivAt_const x 0
  | cons t ts ih =>
    have h1 : polyFn ((t :: ts).map fun t : ℚ × ℕ => (t.1 / ((t.2 + 1 : ℕ) : ℚ), t.2 + 1)) =
        fun y => ((t.1 / ((t.2 + 1 : ℕ) : ℚ) : ℚ) : ℝ) * y ^ (t.2 + 1) +
          polyFn (ts.map fun t : ℚ × ℕ => (t.1 / ((t.2 + 1 : ℕ) : ℚ), t.2 + 1)) y :=
      funext fun y => by rw [List.map_cons, polyFn_cons]
    rw [h1, polyFn_cons]
    have h2 := (hasDerivAt_pow (t.2 + 1) x).const_mul ((t.1 / ((t.2 + 1 : ℕ) : ℚ) : ℚ) : ℝ)
    refine HasDerivAt.add (h2.congr_deriv ?_) ih
    push_cast
    have : ((t.2 : ℝ) + 1) ≠ 0 := by positivity
    try simp only [Nat.add_sub_cancel]
    field_simp

theorem Fam.hasDerivAt_primFn (f : Fam) (x : ℝ)
    (hc : match f with
      | .expL c | .sinL c | .cosL c | .xexp c => c ≠ 0
      | .expcos a b | .expsin a b => a * a + b * b ≠ 0
      | .recip c => 0 < x + (c : ℝ)
      | _ => True) :
    HasDerivAt f.primFn (f.fn x) x := by
  have hid := hasDerivAt_id' x
  cases f with
  | poly ts => exact polyFn_hasDerivAt_prim ts x
  | expL c =>
    have e : ((1 / c : ℚ) : ℝ) * c = 1 := by exact_mod_cast one_div_mul_cancel hc
    exact (((hid.const_mul (c : ℝ)).exp).const_mul _).congr_deriv
      (by show _ = Real.exp (c * x); linear_combination Real.exp (c * x) * e)
  | sinL c =>
    have e : ((-1 / c : ℚ) : ℝ) * c = -1 := by exact_mod_cast div_mul_cancel₀ (-1 : ℚ) hc
    exact (((hid.const_mul (c : ℝ)).cos).const_mul _).congr_deriv
      (by show _ = Real.sin (c * x); linear_combination -Real.sin (c * x) * e)
  | cosL c =>
    have e : ((1 / c : ℚ) : ℝ) * c = 1 := by exact_mod_cast one_div_mul_cancel hc
    exact (((hid.const_mul (c : ℝ)).sin).const_mul _).congr_deriv
      (by show _ = Real.cos (c * x); linear_combination Real.cos (c * x) * e)
  | xexp c =>
    have e : ((1 / c : ℚ) : ℝ) * c = 1 := by exact_mod_cast one_div_mul_cancel hc
    have e' : (c : ℝ) * ((-1 / (c * c) : ℚ) : ℝ) + ((1 / c : ℚ) : ℝ) = 0 := by
      exact_mod_cast (show c * (-1 / (c * c)) + 1 / c = 0 by field_simp; ring)
    exact (((hid.const_mul (c : ℝ)).exp).mul ((hid.const_mul _).add_const _)).congr_deriv
      (by show _ = x * Real.exp (c * x); linear_combination Real.exp (c * x) * x * e + Real.exp (c * x) * e')
  | expcos a b =>
    have e : ((1 / (a * a + b * b) : ℚ) : ℝ) * ((a : ℝ) * a + b * b) = 1 := by
      exact_mod_cast one_div_mul_cancel hc
    exact ((((hid.const_mul (a : ℝ)).exp).const_mul _).mul
      ((((hid.const_mul (b : ℝ)).cos).const_mul (a : ℝ)).add
        (((hid.const_mul (b : ℝ)).sin).const_mul (b : ℝ)))).congr_deriv
      (by
        show _ = Real.exp (a * x) * Real.cos (b * x)
        simp only [Pi.add_apply]
        linear_combination Real.exp (a * x) * Real.cos (b * x) * e)
  | expsin a b =>
    have e : ((1 / (a * a + b * b) : ℚ) : ℝ) * ((a : ℝ) * a + b * b) = 1 := by
      exact_mod_cast one_div_mul_cancel hc
    exact ((((hid.const_mul (a : ℝ)).exp).const_mul _).mul
      ((((hid.const_mul (b : ℝ)).sin).const_mul (a : ℝ)).add
        (((hid.const_mul (b : ℝ)).cos).const_mul (((-b : ℚ)) : ℝ)))).congr_deriv
      (by
        show _ = Real.exp (a * x) * Real.sin (b * x)
        simp only [Pi.add_apply, Rat.cast_neg]
        linear_combination Real.exp (a * x) * Real.sin (b * x) * e)
  | lorentz => exact (Real.hasDerivAt_arctan x).congr_deriv (one_div _)
  | recip c => exact ((hid.add_const (c : ℝ)).log hc.ne').congr_deriv (one_div _)

theorem Fam.continuous_fn (f : Fam) (hf : ∀ c, f ≠ .recip c) : Continuous f.fn := by
  cases f with
  | poly ts => exact polyFn_continuous ts
  | expL c => unfold Fam.fn; fun_prop
  | sinL c => unfold Fam.fn; fun_prop
  | cosL c => unfold Fam.fn; fun_prop
  | xexp c => unfold Fam.fn; fun_prop
  | expcos a b => unfold Fam.fn; fun_prop
  | expsin a b => unfold Fam.fn; fun_prop
  | lorentz =>
    unfold Fam.fn
    exact Continuous.inv₀ (by fun_prop) (fun x => by positivity)
  | recip c => exact absurd rfl (hf c)

/-- fundamental theorem of calculus for the families: the closed form `Fam.integralRef` IS the integral -/
theorem Fam.integral_eq (f : Fam) (a b : ℚ) (r : Ref) (h : f.integralRef a b = some r) :
    ∫ x in (a : ℝ)..(b : ℝ), f.fn x = r.sem := by
  unfold Fam.integralRef at h
  split at h
  · rename_i hok
    simp only [Option.some.injEq] at h
    subst h
    rw [Ref.sem_sub, Fam.primRef_sem, Fam.primRef_sem]
    simp only [Ref.sem]
    by_cases hr : ∃ c, f = .recip c
    · obtain ⟨c, rfl⟩ := hr
      simp only [Fam.intOK, Bool.and_eq_true, decide_eq_true_eq] at hok
      have ha : (0 : ℝ) < a + c := by exact_mod_cast hok.1
      have hb : (0 : ℝ) < b + c := by exact_mod_cast hok.2
      have hpos : ∀ x ∈ uIcc (a : ℝ) (b : ℝ), 0 < x + (c : ℝ) := by
        intro x hx
        rcases le_total (a : ℝ) b with hab | hab
        · rw [uIcc_of_le hab] at hx; linarith [hx.1]
        · rw [uIcc_of_ge hab] at hx; linarith [hx.1]
      apply intervalIntegral.integral_eq_sub_of_hasDerivAt
      · intro x hx
        exact Fam.hasDerivAt_primFn (.recip c) x (hpos x hx)
      · apply ContinuousOn.intervalIntegrable
        intro x hx
        show ContinuousWithinAt (fun y : ℝ => (y + (c : ℝ))⁻¹) _ x
        exact (ContinuousAt.inv₀ (f := fun y : ℝ => y + (c : ℝ)) (by fun_prop) (ne_of_gt (hpos x hx))).continuousWithinAt
    · push Not at hr
      apply intervalIntegral.integral_eq_sub_of_hasDerivAt
      · intro x _
        apply Fam.hasDerivAt_primFn
        cases f <;> simp_all [Fam.intOK]
      · exact (Fam.continuous_fn f hr).intervalIntegrable _ _
  · simp at h

/-- integrand of an infinite-range family -/
noncomputable def FamInf.fn : FamInf → ℝ → ℝ
  | .gammaN n, x => x ^ n * Real.exp (-x)
  | .expDecay c _, x => Real.exp (-(c * x))
  | .gaussFull b, x => Real.exp (-(b * x ^ 2))
  | .gaussHalf b, x => Real.exp (-(b * x ^ 2))

/-- the domain of integration of an infinite-range family -/
def FamInf.dom : FamInf → Set ℝ
  | .gammaN _ => Ioi 0
  | .expDecay _ a => Ioi (a : ℝ)
  | .gaussFull _ => univ
  | .gaussHalf _ => Ioi 0

theorem FamInf.valRef_sem (f : FamInf) (x : Ref) : (f.valRef x).sem = f.fn x.sem := by
  cases f <;> simp [FamInf.valRef, FamInf.fn, Ref.sem]

theorem natFactorial_eq (n : ℕ) : natFactorial n = n.factorial := by
  induction n with
  | zero => rfl
  | succ n ih => simp [natFactorial, Nat.factorial_succ, ih]

theorem FamInf.integral_eq (f : FamInf) (r : Ref) (h : f.integralRef = some r) :
    ∫ x in f.dom, f.fn x = r.sem := by
  cases f with
  | gammaN n =>
    simp only [FamInf.integralRef, Option.some.injEq] at h; subst h
    simp only [FamInf.dom, FamInf.fn, Ref.sem]
    have h1 := Real.Gamma_nat_eq_factorial n
    rw [Real.Gamma_eq_integral (by positivity)] at h1
    rw [natFactorial_eq]
    push_cast
    rw [← h1]
    apply setIntegral_congr_fun measurableSet_Ioi
    intro x hx
    simp only [add_sub_cancel_right, Real.rpow_natCast]
    ring
  | expDecay c a =>
    simp only [FamInf.integralRef] at h
    split at h
    · rename_i hc
      simp only [Option.some.injEq] at h; subst h
      simp only [FamInf.dom, FamInf.fn, Ref.sem]
      have hc' : (-(c : ℝ)) < 0 := by
        have : (0 : ℝ) < c := by exact_mod_cast hc
        linarith
      have h1 := integral_exp_mul_Ioi hc' (a : ℝ)
      have : (fun x : ℝ => Real.exp (-((c : ℝ) * x))) = fun x => Real.exp (-(c : ℝ) * x) := by
        funext x; ring_nf
      rw [this, h1]
      have hc0 : (c : ℝ) ≠ 0 := by linarith
      push_cast
      field_simp
    · simp at h
  | gaussFull b =>
    simp only [FamInf.integralRef] at h
    split at h
    · simp only [Option.some.injEq] at h; subst h
      simp only [FamInf.dom, FamInf.fn, Ref.sem, Measure.restrict_univ]
      have h1 := integral_gaussian (b : ℝ)
      have : (fun x : ℝ => Real.exp (-((b : ℝ) * x ^ 2))) = fun x => Real.exp (-(b : ℝ) * x ^ 2) := by
        funext x; ring_nf
      rw [this, h1]
      push_cast
      rw [one_div, div_eq_mul_inv]
    · simp at h
  | gaussHalf b =>
    simp only [FamInf.integralRef] at h
    split at h
    · simp only [Option.some.injEq] at h; subst h
      simp only [FamInf.dom, FamInf.fn, Ref.sem]
      have h1 := integral_gaussian_Ioi (b : ℝ)
      have : (fun x : ℝ => Real.exp (-((b : ℝ) * x ^ 2))) = fun x => Real.exp (-(b : ℝ) * x ^ 2) := by
        funext x; ring_nf
      rw [this, h1]
      push_cast
      rw [one_div, div_eq_mul_inv, one_div]
      ring_nf
    · simp at h

end Mp.Calc

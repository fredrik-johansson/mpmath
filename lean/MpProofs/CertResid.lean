/-
  MpProofs/CertResid.lean — helper lemmas for the residual-type checkers of MpModel/Cert.lean
  (factorisation identities of C30, all of C31 and C32): evaluation of the scale factors under the
  square root, and the exact structure predicates (`isLower`, `isUpperBand`, `isPerm`, …).
-/
import MpProofs.Cert

namespace Mp.Cert

open Matrix

theorem sqrt_max (a b : ℝ) : Real.sqrt (max a b) = max (Real.sqrt a) (Real.sqrt b) := by
  rcases le_total a b with h | h
  · rw [max_eq_right h, max_eq_right (Real.sqrt_le_sqrt h)]
  · rw [max_eq_left h, max_eq_left (Real.sqrt_le_sqrt h)]

theorem sqrt_max_one (b : ℝ) : Real.sqrt (max 1 b) = max 1 (Real.sqrt b) := by
  rw [sqrt_max, Real.sqrt_one]

@[simp] theorem toReal_max1 (a : Dy) : (max1 a).toReal = max 1 a.toReal := by
  simp [max1]

theorem sqrt_pow_eq (x : ℝ) (hx : 0 ≤ x) (k : ℕ) : Real.sqrt (x ^ k) = Real.sqrt x ^ k := by
  have h : x ^ k = (Real.sqrt x ^ k) ^ 2 := by
    rw [← pow_mul, mul_comm, pow_mul, Real.sq_sqrt hx]
  rw [h, Real.sqrt_sq (pow_nonneg (Real.sqrt_nonneg x) k)]

theorem sqrt_frob2_mul (r c r' c' : ℕ) (A B : Mat) :
    Real.sqrt ((frob2 r c A * frob2 r' c' B).toReal) = frob (toMat r c A) * frob (toMat r' c' B) := by
  rw [Dy.toReal_mul, Real.sqrt_mul (frob2_nonneg r c A), sqrt_frob2, sqrt_frob2]

theorem sqrt_frob2_mul_max1 (r c r' c' : ℕ) (A B : Mat) :
    Real.sqrt ((frob2 r c A * max1 (frob2 r' c' B)).toReal)
      = frob (toMat r c A) * max 1 (frob (toMat r' c' B)) := by
  rw [Dy.toReal_mul, Real.sqrt_mul (frob2_nonneg r c A), sqrt_frob2, toReal_max1, sqrt_max_one,
    sqrt_frob2]

theorem sqrt_ofNat (c : ℕ) : Real.sqrt ((Dy.ofNat c).toReal) = Real.sqrt c := by
  rw [Dy.toReal_ofNat]

theorem sqrt_frob2_pow_mul_max1 (n k : ℕ) (A : Mat) :
    Real.sqrt ((Dy.pow (frob2 n n A) k * max1 (frob2 n n A)).toReal)
      = frob (toMat n n A) ^ k * max 1 (frob (toMat n n A)) := by
  rw [Dy.toReal_mul, Dy.toReal_pow, Real.sqrt_mul (pow_nonneg (frob2_nonneg n n A) k),
    sqrt_pow_eq _ (frob2_nonneg n n A), sqrt_frob2, toReal_max1, sqrt_max_one, sqrt_frob2]

theorem toReal_frob2_eq_sq (r c : ℕ) (M : Mat) : (frob2 r c M).toReal = frob (toMat r c M) ^ 2 := by
  rw [frob_sq, toReal_frob2]

theorem sqrt_cosSin_scale (n : ℕ) (A C S : Mat) :
    Real.sqrt ((max1 (frob2 n n A) *
        Dy.max (Dy.ofNat n) ((frob2 n n C + frob2 n n S) * (frob2 n n C + frob2 n n S))).toReal)
      = max 1 (frob (toMat n n A)) *
        max (Real.sqrt n) (frob (toMat n n C) ^ 2 + frob (toMat n n S) ^ 2) := by
  have hcs : 0 ≤ (frob2 n n C).toReal + (frob2 n n S).toReal :=
    add_nonneg (frob2_nonneg n n C) (frob2_nonneg n n S)
  rw [Dy.toReal_mul, toReal_max1, Dy.toReal_max, Dy.toReal_mul, Dy.toReal_add, Dy.toReal_ofNat,
    Real.sqrt_mul (le_trans zero_le_one (le_max_left _ _)), sqrt_max_one, sqrt_frob2, sqrt_max,
    Real.sqrt_mul_self hcs, toReal_frob2_eq_sq, toReal_frob2_eq_sq]

/-- P is a permutation matrix: entries 0 or 1, every row and column sums to 1 -/
def IsPermMatrix {n : ℕ} (P : Matrix (Fin n) (Fin n) ℂ) : Prop :=
  (∀ i j, P i j = 0 ∨ P i j = 1) ∧ (∀ i, ∑ j, P i j = 1) ∧ (∀ j, ∑ i, P i j = 1)

/-- entries strictly above the diagonal vanish -/
def IsLowerTri {r c : ℕ} (L : Matrix (Fin r) (Fin c) ℂ) : Prop :=
  ∀ (i : Fin r) (j : Fin c), (i : ℕ) < (j : ℕ) → L i j = 0

/-- entries more than `band` below the diagonal vanish (band 0: upper triangular, band 1: upper Hessenberg) -/
def IsUpperBand (band : ℕ) {r c : ℕ} (U : Matrix (Fin r) (Fin c) ℂ) : Prop :=
  ∀ (i : Fin r) (j : Fin c), (j : ℕ) + band < (i : ℕ) → U i j = 0

theorem isLower_sound {r c : ℕ} {L : Mat} (h : isLower r c L = true) : IsLowerTri (toMat r c L) := by
  intro i j hij
  rw [isLower, allTo_iff] at h
  have h1 := h i i.2
  rw [allTo_iff] at h1
  have h2 := h1 j j.2
  rw [Bool.or_eq_true, decide_eq_true_eq] at h2
  rcases h2 with h2 | h2
  · omega
  · exact (G.isZero_iff _).1 h2

theorem isUpperBand_sound {band r c : ℕ} {U : Mat} (h : isUpperBand band r c U = true) :
    IsUpperBand band (toMat r c U) := by
  intro i j hij
  rw [isUpperBand, allTo_iff] at h
  have h1 := h i i.2
  rw [allTo_iff] at h1
  have h2 := h1 j j.2
  rw [Bool.or_eq_true, decide_eq_true_eq] at h2
  rcases h2 with h2 | h2
  · omega
  · exact (G.isZero_iff _).1 h2

theorem unitDiag_sound {n : ℕ} {L : Mat} (h : unitDiag n L = true) : ∀ i, toMat n n L i i = 1 := by
  intro i
  rw [unitDiag, allTo_iff] at h
  have := (G.eqv_iff _ _).1 (h i i.2)
  simpa using this

theorem posRealDiag_sound {n : ℕ} {L : Mat} (h : posRealDiag n L = true) :
    ∀ i, (toMat n n L i i).im = 0 ∧ 0 < (toMat n n L i i).re := by
  intro i
  rw [posRealDiag, allTo_iff] at h
  have h1 := h i i.2
  rw [Bool.and_eq_true] at h1
  refine ⟨?_, ?_⟩
  · have := (Dy.isZero_iff _).1 h1.1
    simpa [toMat_apply] using this
  · have := (Dy.lt_iff _ _).1 h1.2
    simpa [toMat_apply] using this

theorem isPerm_sound {n : ℕ} {P : Mat} (h : isPerm n P = true) : IsPermMatrix (toMat n n P) := by
  rw [isPerm, Bool.and_eq_true, Bool.and_eq_true, allTo_iff, allTo_iff, allTo_iff] at h
  obtain ⟨⟨h1, h2⟩, h3⟩ := h
  refine ⟨fun i j => ?_, fun i => ?_, fun j => ?_⟩
  · have := (allTo_iff _ _).1 (h1 i i.2) j j.2
    rwa [Bool.or_eq_true, G.eqv_iff, G.eqv_iff, G.toC_zero, G.toC_one] at this
  · have := (G.eqv_iff _ _).1 (h2 i i.2)
    rwa [toC_sumG, G.toC_one, Finset.sum_range] at this
  · have := (G.eqv_iff _ _).1 (h3 j j.2)
    rwa [toC_sumG, G.toC_one, Finset.sum_range] at this

/-- the i-th entry of an n×1 column as a complex number -/
noncomputable def colVec (n : ℕ) (E : Mat) : Fin n → ℂ := fun i => (get E i 0).toC

theorem toMat_diagM (n : ℕ) (E : Mat) : toMat n n (diagM n E) = Matrix.diagonal (colVec n E) := by
  ext i j
  by_cases h : i = j
  · subst h; simp [diagM, colVec, get_build i.2 i.2]
  · have h' : (i : ℕ) ≠ j := fun e => h (Fin.ext e)
    simp [diagM, get_build i.2 j.2, h, h']

theorem allReal_sound {n : ℕ} {E : Mat} (h : allReal n E = true) : ∀ i, (colVec n E i).im = 0 := by
  intro i
  rw [allReal, allTo_iff] at h
  exact (G.isReal_iff _).1 (h i i.2)

theorem nonneg_sound {n : ℕ} {E : Mat} (h : nonneg n E = true) : ∀ i, 0 ≤ (colVec n E i).re := by
  intro i
  rw [nonneg, allTo_iff] at h
  have := (Dy.le_iff _ _).1 (h i i.2)
  simpa [colVec] using this

theorem ascending_sound {n : ℕ} {E : Mat} (h : ascending n E = true) :
    ∀ i j : Fin n, (i : ℕ) + 1 = (j : ℕ) → (colVec n E i).re ≤ (colVec n E j).re := by
  intro i j hij
  rw [ascending, allTo_iff] at h
  have hi : (i : ℕ) < n - 1 := by have := j.2; omega
  have := (Dy.le_iff _ _).1 (h i hi)
  rw [hij] at this
  simpa [colVec] using this

theorem descending_sound {n : ℕ} {E : Mat} (h : descending n E = true) :
    ∀ i j : Fin n, (i : ℕ) + 1 = (j : ℕ) → (colVec n E j).re ≤ (colVec n E i).re := by
  intro i j hij
  rw [descending, allTo_iff] at h
  have hi : (i : ℕ) < n - 1 := by have := j.2; omega
  have := (Dy.le_iff _ _).1 (h i hi)
  rw [hij] at this
  simpa [colVec] using this

theorem orthCheck_sound {r c : ℕ} {p : ℤ} {Q : Mat} (h : orthCheck r c p Q = true) :
    frob ((toMat r c Q)ᴴ * toMat r c Q - 1) ≤ (2:ℝ) ^ (10 - p) * Real.sqrt c := by
  have := frobLe_sound h
  rwa [orthResid, toMat_msub, toMat_mmul, toMat_conjT, toMat_ident, sqrt_ofNat] at this

theorem toReal_mul_nonneg {a b : Dy} (ha : 0 ≤ a.toReal) (hb : 0 ≤ b.toReal) : 0 ≤ (a * b).toReal := by
  rw [Dy.toReal_mul]; exact mul_nonneg ha hb

theorem max1_nonneg (a : Dy) : 0 ≤ (max1 a).toReal := by
  rw [toReal_max1]; exact le_trans zero_le_one (le_max_left _ _)

end Mp.Cert

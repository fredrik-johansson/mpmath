/-
  MpProofs/Pow.lean — the binary-exponentiation loop of `mpf_pow_int` (libmpf.py):
  bit-count bookkeeping, the directed-truncation invariants, and the accumulated relative error.
-/
import MpProofs.Div
import MpProofs.Faithful
import Mathlib.Data.Nat.Prime.Basic

namespace Mp

/-- weak bit count: `b` is the bit length of `m`, or `m = 2^b` (carry out of an upward truncation) -/
def WB (m : Nat) (b : Int) : Prop := 1 ≤ b ∧ 2 ^ (b.toNat - 1) ≤ m ∧ m ≤ 2 ^ b.toNat

theorem WB.of_bitcount {m : Nat} (hm : m ≠ 0) : WB m (bitcount m) := by
  have h1 := bitcount_pos hm
  refine ⟨by omega, ?_, ?_⟩
  · simpa using bitcount_le hm
  · simpa using (bitcount_lt m).le

theorem WB.ne_zero {m : Nat} {b : Int} (h : WB m b) : m ≠ 0 := by
  have := Nat.two_pow_pos (b.toNat - 1)
  have := h.2.1
  omega

/-- the table-driven bit-count update `bc = b1 + b2 - 2; bc += bctable[P >> bc]` is exact -/
theorem prod_bc {m1 m2 : Nat} {b1 b2 : Int} (h1 : WB m1 b1) (h2 : WB m2 b2) :
    b1 + b2 - 2 + (bitcount ((m1 * m2) >>> (b1 + b2 - 2).toNat) : Int) = (bitcount (m1 * m2) : Int) := by
  obtain ⟨k1, rfl⟩ : ∃ k1 : ℕ, b1 = k1 + 1 := ⟨b1.toNat - 1, by have := h1.1; omega⟩
  obtain ⟨k2, rfl⟩ : ∃ k2 : ℕ, b2 = k2 + 1 := ⟨b2.toNat - 1, by have := h2.1; omega⟩
  have e1 : ((k1 : Int) + 1).toNat - 1 = k1 := by omega
  have e2 : ((k2 : Int) + 1).toNat - 1 = k2 := by omega
  have e3 : ((k1 : Int) + 1 + (k2 + 1) - 2).toNat = k1 + k2 := by omega
  have l1 := h1.2.1; have l2 := h2.2.1
  rw [e1] at l1; rw [e2] at l2
  have hP : 2 ^ (k1 + k2) ≤ m1 * m2 := by
    rw [pow_add]; exact Nat.mul_le_mul l1 l2
  rw [e3, Nat.shiftRight_eq_div_pow, bitcount_div (lt_bitcount_of_le hP)]
  have := lt_bitcount_of_le hP
  omega

/-- one multiplication of the loop: product, bit-count update, truncation to `workprec` bits -/
def mulStep (rd : Bool) (wp : Int) (P B : Nat × Int × Int) : Nat × Int × Int :=
  let pm := P.1 * B.1
  let pbc := P.2.2 + B.2.2 - 2
  powTrunc rd wp pm (P.2.1 + B.2.1) (pbc + (bitcount (pm >>> pbc.toNat) : Int))

theorem powLoop_zero (rd : Bool) (wp : Int) (P B : Nat × Int × Int) (n : Nat) :
    powLoop rd wp 0 P B n = P := by
  obtain ⟨pm, pe, pbc⟩ := P; obtain ⟨m, e, b⟩ := B; rfl

theorem powLoop_succ_odd (rd : Bool) (wp : Int) (fuel : Nat) (P B : Nat × Int × Int) {n : Nat}
    (h : n % 2 = 1) :
    powLoop rd wp (fuel + 1) P B n =
      if n - 1 = 0 then mulStep rd wp P B
      else powLoop rd wp fuel (mulStep rd wp P B) (mulStep rd wp B B) ((n - 1) / 2) := by
  obtain ⟨pm, pe, pbc⟩ := P; obtain ⟨m, e, b⟩ := B
  simp only [powLoop, h, if_true, mulStep]
  by_cases h0 : n - 1 = 0
  · simp [h0]
  · simp [h0]

theorem powLoop_succ_even (rd : Bool) (wp : Int) (fuel : Nat) (P B : Nat × Int × Int) {n : Nat}
    (h : n % 2 ≠ 1) :
    powLoop rd wp (fuel + 1) P B n = powLoop rd wp fuel P (mulStep rd wp B B) (n / 2) := by
  obtain ⟨pm, pe, pbc⟩ := P; obtain ⟨m, e, b⟩ := B
  simp only [powLoop, h, if_false, mulStep]
  simp

/-- generic invariant of the loop: any predicate `I state trueValue count` preserved by one
multiplication step holds for the result, with true value `tp · tb^n` and the counts adding up
as `cp + (cb + 1) · n`. -/
theorem powLoop_inv (rd : Bool) (wp : Int) (I : Nat × Int × Int → ℚ → ℕ → Prop)
    (hmul : ∀ P B tp tb cp cb, I P tp cp → I B tb cb → I (mulStep rd wp P B) (tp * tb) (cp + cb + 1)) :
    ∀ (fuel : Nat) (P B : Nat × Int × Int) (n : Nat) (tp tb : ℚ) (cp cb : ℕ),
      1 ≤ n → n < 2 ^ fuel → I P tp cp → I B tb cb →
      I (powLoop rd wp fuel P B n) (tp * tb ^ n) (cp + (cb + 1) * n) := by
  intro fuel
  induction fuel with
  | zero => intro P B n tp tb cp cb h1 h2; simp at h2; omega
  | succ fuel ih =>
    intro P B n tp tb cp cb h1 h2 hP hB
    have hBB := hmul B B tb tb cb cb hB hB
    rw [pow_succ] at h2
    obtain ⟨k, rfl | rfl⟩ := Nat.even_or_odd' n
    · rw [powLoop_succ_even rd wp fuel P B (by omega), Nat.mul_div_cancel_left k two_pos]
      have := ih P (mulStep rd wp B B) k tp (tb * tb) cp (cb + cb + 1) (by omega) (by omega) hP hBB
      have e1 : tp * (tb * tb) ^ k = tp * tb ^ (2 * k) := by rw [← pow_two, ← pow_mul]
      have e2 : cp + (cb + cb + 1 + 1) * k = cp + (cb + 1) * (2 * k) := by ring
      rwa [e1, e2] at this
    · rw [powLoop_succ_odd rd wp fuel P B (by omega), Nat.add_sub_cancel]
      have hPB := hmul P B tp tb cp cb hP hB
      rcases Nat.eq_zero_or_pos k with rfl | hk
      · simpa [add_assoc] using hPB
      · rw [if_neg (by omega), Nat.mul_div_cancel_left k two_pos]
        have := ih _ _ k (tp * tb) (tb * tb) (cp + cb + 1) (cb + cb + 1) hk (by omega) hPB hBB
        have e1 : tp * tb * (tb * tb) ^ k = tp * tb ^ (2 * k + 1) := by rw [← pow_two, ← pow_mul]; ring
        have e2 : cp + cb + 1 + (cb + cb + 1 + 1) * k = cp + (cb + 1) * (2 * k + 1) := by ring
        rwa [e1, e2] at this

/-- value of a loop state `(man, exp, bc)` -/
def tv (t : Nat × Int × Int) : ℚ := (t.1 : ℚ) * 2 ^ t.2.1

/-- relative size of one truncation to `wp` bits -/
def eps (wp : Int) : ℚ := 2 ^ (1 - wp)

theorem eps_pos (wp : Int) : 0 < eps wp := by unfold eps; positivity

theorem tv_mul (P B : Nat × Int × Int) :
    ((P.1 * B.1 : ℕ) : ℚ) * 2 ^ (P.2.1 + B.2.1) = tv P * tv B := by
  unfold tv; rw [zpow_add₀ (by norm_num)]; push_cast; ring

theorem WB.tv_pos {P : Nat × Int × Int} (h : WB P.1 P.2.2) : 0 < tv P := by
  have : (0 : ℚ) < P.1 := by exact_mod_cast Nat.pos_of_ne_zero h.ne_zero
  unfold tv; positivity

theorem powTrunc_fits (rd : Bool) {wp : Int} {m : Nat} (e : Int) (h : (bitcount m : Int) ≤ wp) :
    powTrunc rd wp m e (bitcount m) = (m, e, (bitcount m : Int)) := by
  unfold powTrunc
  rw [if_neg (by omega)]

theorem powTrunc_drop (rd : Bool) {m w k : ℕ} (e : Int) (hk : 0 < k) (hbc : bitcount m = w + k) :
    powTrunc rd w m e (bitcount m) =
      (if rd then m / 2 ^ k else (m + 2 ^ k - 1) / 2 ^ k, e + (k : ℤ), (w : ℤ)) := by
  have hk' : (bitcount m : ℤ) - w = k := by omega
  unfold powTrunc
  rw [if_pos (by omega)]
  simp only [hk', Int.toNat_natCast, Nat.shiftRight_eq_div_pow]

/-- dropping the `k` low bits of a `(w + k)`-bit number `m`: the quotient `q` has `w` bits, the quotient rounded up is
`q` or `q + 1`, and the two bracket `m` -/
theorem div_two_pow_bracket {m w k : ℕ} (hw : 1 ≤ w) (hbc : bitcount m = w + k) (e : ℤ) :
    2 ^ (w - 1) ≤ m / 2 ^ k ∧ m / 2 ^ k < 2 ^ w ∧
    m / 2 ^ k ≤ (m + 2 ^ k - 1) / 2 ^ k ∧ (m + 2 ^ k - 1) / 2 ^ k ≤ m / 2 ^ k + 1 ∧
    ((m / 2 ^ k : ℕ) : ℚ) * 2 ^ (e + (k : ℤ)) ≤ (m : ℚ) * 2 ^ e ∧
    (m : ℚ) * 2 ^ e ≤ (((m + 2 ^ k - 1) / 2 ^ k : ℕ) : ℚ) * 2 ^ (e + (k : ℤ)) ∧
    (m : ℚ) * 2 ^ e < (((m / 2 ^ k : ℕ) : ℚ) + 1) * 2 ^ (e + (k : ℤ)) := by
  have hq : bitcount (m / 2 ^ k) = w := by rw [bitcount_div (by omega)]; omega
  have hq0 : m / 2 ^ k ≠ 0 := by intro h; rw [h] at hq; simp at hq; omega
  have hq1 := bitcount_le hq0
  have hq2 := bitcount_lt (m / 2 ^ k)
  rw [hq] at hq1 hq2
  have hr : ((m % 2 ^ k : ℕ) : ℚ) < 2 ^ k := by exact_mod_cast Nat.mod_lt m (Nat.two_pow_pos k)
  have hE : (0 : ℚ) < 2 ^ e := by positivity
  have hr' := mul_lt_mul_of_pos_right hr hE
  have hr0 : (0 : ℚ) ≤ ((m % 2 ^ k : ℕ) : ℚ) * 2 ^ e := by positivity
  rw [man_cell_decomp (K := ℚ) m k e, add_mul, one_mul, zpow_add₀ (by norm_num) e, zpow_natCast,
    mul_comm ((2 : ℚ) ^ e), ceil_div_eq]
  refine ⟨hq1, hq2, ?_, ?_, le_add_of_nonneg_right hr0, ?_, (add_lt_add_iff_left _).2 hr'⟩
  · split <;> omega
  · split <;> omega
  · split
    · rename_i h0; rw [h0]; simp
    · rw [Nat.cast_add_one, add_mul, one_mul]; exact (add_le_add_iff_left _).2 hr'.le

/-- what the loop knows about a state `P` that stands for the true value `tp` after `c` truncations in the direction
`rd` (toward zero when `rd`): a weak bit count, and `tp` on the side of `tv P` the direction leaves it, within
`(1 + eps)^c` when truncating toward zero -/
def LoopInv (rd : Bool) (wp : Int) (P : Nat × Int × Int) (tp : ℚ) (c : ℕ) : Prop :=
  WB P.1 P.2.2 ∧ 0 < tp ∧ if rd then tv P ≤ tp ∧ tp ≤ tv P * (1 + eps wp) ^ c else tp ≤ tv P

theorem LoopInv.of_exact (rd : Bool) (wp : Int) {m : Nat} (hm : m ≠ 0) (e : Int) (c : ℕ) :
    LoopInv rd wp (m, e, bitcount m) ((m : ℚ) * 2 ^ e) c := by
  have hw : WB (m, e, (bitcount m : ℤ)).1 (m, e, (bitcount m : ℤ)).2.2 := WB.of_bitcount hm
  have h1 : (1 : ℚ) ≤ (1 + eps wp) ^ c := one_le_pow₀ (by have := eps_pos wp; linarith)
  refine ⟨hw, hw.tv_pos, ?_⟩
  cases rd
  · exact le_refl _
  · exact ⟨le_refl _, le_mul_of_one_le_right hw.tv_pos.le h1⟩

/-- one truncation: toward zero it loses at most the relative amount `eps wp`; away from zero it may carry into
`2^wp`, which the weak bit count allows -/
theorem powTrunc_spec (rd : Bool) {wp : Int} (hwp : 1 ≤ wp) {m : Nat} (hm : m ≠ 0) (e : Int) :
    LoopInv rd wp (powTrunc rd wp m e (bitcount m)) ((m : ℚ) * 2 ^ e) 1 := by
  by_cases hfit : (bitcount m : ℤ) ≤ wp
  · rw [powTrunc_fits rd e hfit]
    exact LoopInv.of_exact rd wp hm e 1
  · obtain ⟨w, rfl⟩ : ∃ w : ℕ, wp = w := ⟨wp.toNat, by omega⟩
    obtain ⟨k, hbc⟩ : ∃ k : ℕ, bitcount m = w + k := ⟨bitcount m - w, by omega⟩
    obtain ⟨hq1, hq2, hc1, hc2, hlo, hup, hhi⟩ := div_two_pow_bracket (by omega) hbc e
    have hpos : (0 : ℚ) < (m : ℚ) * 2 ^ e := (LoopInv.of_exact rd w hm e 0).2.1
    rw [powTrunc_drop rd e (by omega) hbc]
    cases rd
    · simp only [Bool.false_eq_true, if_false]
      exact ⟨⟨hwp, by simp only [Int.toNat_natCast]; omega, by simp only [Int.toNat_natCast]; omega⟩, hpos, hup⟩
    · refine ⟨⟨hwp, by simpa using hq1, by simpa using hq2.le⟩, hpos, hlo, ?_⟩
      simp only [if_true, tv, pow_one]
      -- one unit of the last place is at most `eps` times the `w`-bit quotient
      have h1 : (1 : ℚ) ≤ ((m / 2 ^ k : ℕ) : ℚ) * eps (w : ℤ) := by
        have h2 : eps (w : ℤ) * ((2 ^ (w - 1) : ℕ) : ℚ) = 1 := by
          unfold eps
          rw [Nat.cast_pow, Nat.cast_ofNat, ← zpow_natCast, ← zpow_add₀ (by norm_num)]
          have : (1 - (w : ℤ) + ((w - 1 : ℕ) : ℤ)) = 0 := by omega
          rw [this, zpow_zero]
        have h3 : ((2 ^ (w - 1) : ℕ) : ℚ) ≤ ((m / 2 ^ k : ℕ) : ℚ) := by exact_mod_cast hq1
        calc (1 : ℚ) = eps (w : ℤ) * ((2 ^ (w - 1) : ℕ) : ℚ) := h2.symm
          _ ≤ eps (w : ℤ) * ((m / 2 ^ k : ℕ) : ℚ) := mul_le_mul_of_nonneg_left h3 (eps_pos (w : ℤ)).le
          _ = _ := mul_comm _ _
      have hE : (0 : ℚ) < 2 ^ (e + (k : ℤ)) := by positivity
      calc (m : ℚ) * 2 ^ e ≤ ((m / 2 ^ k : ℕ) : ℚ) * 2 ^ (e + (k : ℤ)) + 1 * 2 ^ (e + (k : ℤ)) := by
            rw [← add_mul]; exact hhi.le
        _ ≤ ((m / 2 ^ k : ℕ) : ℚ) * 2 ^ (e + (k : ℤ)) + ((m / 2 ^ k : ℕ) : ℚ) * eps (w : ℤ) * 2 ^ (e + (k : ℤ)) :=
            (add_le_add_iff_left _).2 (mul_le_mul_of_nonneg_right h1 hE.le)
        _ = _ := by ring

theorem mulStep_inv (rd : Bool) {wp : Int} (hwp : 1 ≤ wp) (P B : Nat × Int × Int) (tp tb : ℚ) (cp cb : ℕ)
    (hP : LoopInv rd wp P tp cp) (hB : LoopInv rd wp B tb cb) :
    LoopInv rd wp (mulStep rd wp P B) (tp * tb) (cp + cb + 1) := by
  obtain ⟨hPw, hP0, hP⟩ := hP
  obtain ⟨hBw, hB0, hB⟩ := hB
  unfold mulStep
  simp only [prod_bc hPw hBw]
  obtain ⟨hw, _, hR⟩ := powTrunc_spec rd hwp (Nat.mul_ne_zero hPw.ne_zero hBw.ne_zero) (P.2.1 + B.2.1)
  rw [tv_mul] at hR
  generalize powTrunc rd wp (P.1 * B.1) (P.2.1 + B.2.1) _ = R at hw hR ⊢
  refine ⟨hw, mul_pos hP0 hB0, ?_⟩
  have hP' := hPw.tv_pos; have hB' := hBw.tv_pos
  cases rd
  · exact (mul_le_mul hP hB hB0.le hP'.le).trans hR
  · simp only [if_true, pow_one] at hP hB hR ⊢
    have he : (0 : ℚ) ≤ 1 + eps wp := by have := eps_pos wp; linarith
    refine ⟨hR.1.trans (mul_le_mul hP.1 hB.1 hB'.le hP0.le), ?_⟩
    calc tp * tb ≤ (tv P * (1 + eps wp) ^ cp) * (tv B * (1 + eps wp) ^ cb) :=
          mul_le_mul hP.2 hB.2 hB0.le (by positivity)
      _ = (tv P * tv B) * (1 + eps wp) ^ (cp + cb) := by rw [pow_add]; ring
      _ ≤ (tv R * (1 + eps wp)) * (1 + eps wp) ^ (cp + cb) := mul_le_mul_of_nonneg_right hR.2 (by positivity)
      _ = _ := by rw [pow_succ]; ring

/-! ### `_normalize` with the weak bit count left by an upward truncation -/

theorem WB.cases {m : Nat} {b : Int} (h : WB m b) : b = (bitcount m : Int) ∨ m = 2 ^ b.toNat := by
  obtain ⟨h1, h2, h3⟩ := h
  rcases Nat.lt_or_eq_of_le h3 with hlt | heq
  · left
    have := bitcount_eq h2 (by rwa [Nat.sub_add_cancel (by omega)])
    omega
  · right; exact heq

/-- `_normalize` rounds correctly also when it is handed the weak bit count of the loop -/
theorem normalize_weak_spec {sign : Nat} (hs : sign ≤ 1) {m : Nat} {b : Int} (hw : WB m b) (e : Int)
    {prec : Int} (hp : 0 < prec) (rnd : Rnd) :
    RoundOK prec rnd ((-1 : ℚ) ^ sign * ((m : ℚ) * 2 ^ e)) (normalize sign m e b prec rnd) := by
  rcases hw.cases with hb | hm
  · rw [hb]; exact normalize_spec hs m e hp rnd
  · have h1 := hw.1
    obtain ⟨k, hk⟩ : ∃ k : ℕ, b = k := ⟨b.toNat, by omega⟩
    subst hk
    simp only [Int.toNat_natCast] at hm
    subst hm
    have e1 := normalize_pow_two sign k e (c := (k : Int)) (Or.inl rfl) hp rnd
    have e2 := normalize_pow_two sign k e (c := ((bitcount (2 ^ k) : ℕ) : Int))
      (Or.inr (by rw [bitcount_two_pow]; push_cast; ring)) hp rnd
    rw [e1, ← e2]
    exact normalize_spec hs (2 ^ k) e hp rnd

/-- `y` is not on the wrong side of `x` for the directed mode `rnd` (nothing is claimed for nearest) -/
def OnSide (rnd : Rnd) (x y : ℚ) : Prop :=
  match rnd with
  | .f => y ≤ x
  | .c => x ≤ y
  | .d => (0 ≤ x → 0 ≤ y ∧ y ≤ x) ∧ (x ≤ 0 → x ≤ y ∧ y ≤ 0)
  | .u => (0 ≤ x → x ≤ y) ∧ (x ≤ 0 → y ≤ x)
  | .n => True

theorem IsRound.onSide {p : ℕ} {rnd : Rnd} {x y : ℚ} (h : IsRound p rnd x y) : OnSide rnd x y := by
  -- toward zero `y` lies between 0 and `x`, away from zero `x` between 0 and `y`: compare `y` with the representable 0
  cases rnd <;> simp only [IsRound, OnSide] at h ⊢
  · exact h.2.1
  · exact h.2.1
  · by_cases hx : 0 ≤ x
    · rw [if_pos hx] at h
      exact ⟨fun _ => h.2.1, fun hx' => (h.2.2 0 (repb_zero p) hx').trans hx⟩
    · rw [if_neg hx] at h
      exact ⟨fun hx' => absurd hx' hx, fun _ => h.2.1⟩
  · by_cases hx : 0 ≤ x
    · rw [if_pos hx] at h
      have h0 : 0 ≤ y := h.2.2 0 (repb_zero p) hx
      exact ⟨fun _ => ⟨h0, h.2.1⟩, fun hx' => ⟨hx'.trans h0, h.2.1.trans hx'⟩⟩
    · rw [if_neg hx] at h
      exact ⟨fun hx' => absurd hx' hx, fun _ => ⟨h.2.1, h.2.2 0 (repb_zero p) (not_le.1 hx).le⟩⟩

theorem OnSide.trans {rnd : Rnd} {x y z : ℚ} (h1 : OnSide rnd x y) (h2 : OnSide rnd y z) : OnSide rnd x z := by
  cases rnd <;> simp only [OnSide] at h1 h2 ⊢
  · exact h2.trans h1
  · exact h1.trans h2
  · refine ⟨fun hx => ?_, fun hx => ?_⟩
    · have a := h1.1 hx; exact a.trans (h2.1 (hx.trans a))
    · have a := h1.2 hx; exact (h2.2 (a.trans hx)).trans a
  · refine ⟨fun hx => ?_, fun hx => ?_⟩
    · obtain ⟨a, b⟩ := h1.1 hx; obtain ⟨c, d⟩ := h2.1 a; exact ⟨c, d.trans b⟩
    · obtain ⟨a, b⟩ := h1.2 hx; obtain ⟨c, d⟩ := h2.2 b; exact ⟨a.trans c, d⟩

theorem onSide_mag {rnd : Rnd} {rs : Nat} (hrs : rs ≤ 1) {R X : ℚ} (hR : 0 < R) (hX : 0 < X)
    (hdown : shiftsDown rnd rs = true → R ≤ X) (hup : shiftsDown rnd rs = false → X ≤ R) :
    OnSide rnd ((-1 : ℚ) ^ rs * X) ((-1 : ℚ) ^ rs * R) := by
  have hrs' : rs = 0 ∨ rs = 1 := by omega
  rcases hrs' with rfl | rfl
  · simp only [pow_zero, one_mul]
    cases rnd <;> simp only [OnSide, shiftsDown] at hdown hup ⊢
    · exact hdown (by decide)
    · exact hup (by decide)
    · exact ⟨fun _ => hup trivial, fun h => absurd h (by linarith)⟩
    · exact ⟨fun _ => ⟨hR.le, hdown trivial⟩, fun h => absurd h (by linarith)⟩
  · simp only [pow_one, neg_one_mul]
    cases rnd <;> simp only [OnSide, shiftsDown] at hdown hup ⊢
    · have := hup (by decide); linarith
    · have := hdown (by decide); linarith
    · exact ⟨fun h => absurd h (by linarith), fun _ => by have := hup trivial; linarith⟩
    · exact ⟨fun h => absurd h (by linarith), fun _ => ⟨by have := hdown trivial; linarith, by linarith⟩⟩

theorem pow_one_add_le {ε : ℚ} (hε : 0 ≤ ε) : ∀ n : ℕ, 2 * (n : ℚ) * ε ≤ 1 → (1 + ε) ^ n ≤ 1 + 2 * n * ε := by
  intro n
  induction n with
  | zero => intro _; simp
  | succ k ih =>
    intro h
    push_cast at h
    have hk : 2 * (k : ℚ) * ε ≤ 1 :=
      (mul_le_mul_of_nonneg_right (mul_le_mul_of_nonneg_left (le_add_of_nonneg_right zero_le_one) zero_le_two) hε).trans h
    have h1 := ih hk
    have hk0 : (0 : ℚ) ≤ k := by positivity
    calc (1 + ε) ^ (k + 1) = (1 + ε) ^ k * (1 + ε) := pow_succ _ _
      _ ≤ (1 + 2 * k * ε) * (1 + ε) := mul_le_mul_of_nonneg_right h1 (by linarith)
      _ ≤ 1 + 2 * ((k + 1 : ℕ) : ℚ) * ε := by
        push_cast
        have : 2 * (k : ℚ) * ε * ε ≤ 1 * ε := mul_le_mul_of_nonneg_right hk hε
        linarith

theorem rel_err_of_pow_bound {R X ε δ : ℚ} {n : ℕ} (hε : 0 ≤ ε) (hδ : 2 * (n : ℚ) * ε ≤ δ) (hδ1 : δ ≤ 1)
    (hR : 0 ≤ R) (h1 : R ≤ X) (h2 : X ≤ R * (1 + ε) ^ n) : |R - X| ≤ X * δ := by
  have h3 := mul_le_mul_of_nonneg_left ((pow_one_add_le hε n (hδ.trans hδ1)).trans (by linarith : _ ≤ 1 + δ)) hR
  have h4 : 0 ≤ δ := le_trans (by positivity) hδ
  have h5 := mul_le_mul_of_nonneg_right h1 h4
  rw [abs_sub_comm, abs_of_nonneg (by linarith)]
  linarith

/-- the loop started as `mpf_pow_int` starts it: the accumulator 1, the base, and enough fuel for the bits of `n` -/
theorem powLoop_inv_init (rd : Bool) (wp : Int) (I : Nat × Int × Int → ℚ → ℕ → Prop)
    (hmul : ∀ P B tp tb cp cb, I P tp cp → I B tb cb → I (mulStep rd wp P B) (tp * tb) (cp + cb + 1))
    {P B : Nat × Int × Int} {tp tb : ℚ} {n : Nat} (hn : 1 ≤ n) (hP : I P tp 0) (hB : I B tb 0) :
    I (powLoop rd wp (bitcount n + 1) P B n) (tp * tb ^ n) n := by
  have hfuel : n < 2 ^ (bitcount n + 1) := lt_trans (bitcount_lt n) (Nat.pow_lt_pow_right (by norm_num) (by omega))
  simpa using powLoop_inv rd wp I hmul (bitcount n + 1) P B n tp tb 0 0 hn hfuel hP hB

theorem powLoop_spec (rd : Bool) {wp : Int} (hwp : 1 ≤ wp) {m : Nat} (hm : m ≠ 0) (e : Int) {n : Nat} (hn : 1 ≤ n) :
    LoopInv rd wp (powLoop rd wp (bitcount n + 1) (1, 0, 1) (m, e, bitcount m) n) (((m : ℚ) * 2 ^ e) ^ n) n := by
  simpa [bitcount_one] using powLoop_inv_init rd wp (LoopInv rd wp) (mulStep_inv rd hwp) hn
    (LoopInv.of_exact rd wp one_ne_zero 0 0) (LoopInv.of_exact rd wp hm e 0)

/-- nearest rounds its truncations toward zero, like the modes that shift down -/
theorem near_or_shiftsDown (rnd : Rnd) (rs : Nat) : (rnd == .n || shiftsDown rnd rs) = shiftsDown rnd rs := by
  cases rnd <;> rfl

theorem powIntPos_loop_eq (s : Mpf) {n : Nat} (hn : 3 ≤ n) (hm : s.man ≠ 1) (hb : ¬ s.bc * n < 1000)
    (prec : Int) (rnd : Rnd) :
    powIntPos s n prec rnd =
      normalize (s.sign &&& n)
        (powLoop (shiftsDown rnd (s.sign &&& n)) (prec + 4 * (bitcount n : Int) + 4)
          (bitcount n + 1) (1, 0, 1) (s.man, s.exp, s.bc) n).1
        (powLoop (shiftsDown rnd (s.sign &&& n)) (prec + 4 * (bitcount n : Int) + 4)
          (bitcount n + 1) (1, 0, 1) (s.man, s.exp, s.bc) n).2.1
        (powLoop (shiftsDown rnd (s.sign &&& n)) (prec + 4 * (bitcount n : Int) + 4)
          (bitcount n + 1) (1, 0, 1) (s.man, s.exp, s.bc) n).2.2 prec rnd := by
  unfold powIntPos
  have h0 : n ≠ 0 := by omega
  have h1 : n ≠ 1 := by omega
  have h2 : n ≠ 2 := by omega
  simp only [h0, h1, h2, hm, hb, if_false, near_or_shiftsDown]

theorem neg_one_pow_and (sg n : Nat) (hs : sg ≤ 1) : ((-1 : ℚ) ^ sg) ^ n = (-1 : ℚ) ^ (sg &&& n) := by
  have : sg = 0 ∨ sg = 1 := by omega
  rcases this with rfl | rfl
  · simp
  · rw [Nat.one_and_eq_mod_two, pow_one, neg_one_pow_eq_pow_mod_two]

theorem and_le_one (sg n : Nat) (hs : sg ≤ 1) : sg &&& n ≤ 1 := le_trans Nat.and_le_left hs

/-- the truncation error of the whole loop stays far below the last place of the result -/
theorem loop_err_small {prec : Int} (hp : 0 < prec) {n : Nat} (hn0 : n ≠ 0) :
    2 * (n : ℚ) * eps (prec + 4 * (bitcount n : Int) + 4) ≤ 2 ^ (-(prec.toNat : ℤ) - 3) := by
  have hb := bitcount_pos hn0
  have hn : (n : ℚ) ≤ 2 ^ (bitcount n : ℤ) := by rw [zpow_natCast]; exact_mod_cast (bitcount_lt n).le
  have hpos : (0 : ℚ) < 2 ^ (1 - (prec + 4 * (bitcount n : Int) + 4)) := by positivity
  unfold eps
  calc 2 * (n : ℚ) * 2 ^ (1 - (prec + 4 * (bitcount n : Int) + 4))
      ≤ 2 ^ (1 : ℤ) * 2 ^ (bitcount n : ℤ) * 2 ^ (1 - (prec + 4 * (bitcount n : Int) + 4)) := by
        rw [zpow_one]; exact mul_le_mul_of_nonneg_right (mul_le_mul_of_nonneg_left hn (by norm_num)) hpos.le
    _ = 2 ^ (1 + (bitcount n : ℤ) + (1 - (prec + 4 * (bitcount n : Int) + 4))) := by
        rw [zpow_add₀ (by norm_num), zpow_add₀ (by norm_num)]
    _ ≤ 2 ^ (-(prec.toNat : ℤ) - 3) := zpow_le_zpow_right₀ (by norm_num) (by omega)

/-- what is proved about every result of `mpf_pow_int` -/
structure PowOK (prec : Int) (rnd : Rnd) (x : ℚ) (r : Mpf) : Prop where
  canon : CanonFin r
  bc_le : r.bc ≤ prec
  repb : Repb prec.toNat (val r)
  side : OnSide rnd x (val r)
  faithful : rnd = .n → Faithful prec.toNat x (val r)
  pos : 0 < x → 0 < val r
  neg : x < 0 → val r < 0

/-- a result correctly rounded from a signed magnitude `R` meets `PowOK` for the true magnitude `X` when `R` errs on the
side the mode allows, and in nearest mode by a relative error below `2^(-p-3)` -/
theorem PowOK.of_mag {prec : Int} (hp : 0 < prec) {rnd : Rnd} {rs : Nat} (hrs : rs ≤ 1) {R X : ℚ} (hR : 0 < R)
    (hX : 0 < X) (hdown : shiftsDown rnd rs = true → R ≤ X) (hup : shiftsDown rnd rs = false → X ≤ R)
    (hnear : rnd = .n → |R - X| ≤ X * 2 ^ (-(prec.toNat : ℤ) - 3)) {r : Mpf}
    (h : RoundOK prec rnd ((-1 : ℚ) ^ rs * R) r) : PowOK prec rnd ((-1 : ℚ) ^ rs * X) r := by
  obtain ⟨hc, _, h3⟩ := h
  obtain ⟨hr, hb⟩ := h3 hp
  have hp' : 0 < prec.toNat := by omega
  refine ⟨hc, hb, hr.repb, (onSide_mag hrs hR hX hdown hup).trans hr.onSide, fun hn => ?_, fun hx => ?_, fun hx => ?_⟩
  · subst hn
    apply faithful_of_near hp' hr
    rw [← mul_sub, abs_mul, abs_mul, abs_pow, abs_neg, abs_one, one_pow, one_mul, one_mul, abs_of_pos hX]
    exact hnear rfl
  · exact isRound_pos hp' (mul_pos ((mul_pos_iff_of_pos_right hX).1 hx) hR) hr
  · exact isRound_neg' hp' (mul_neg_of_neg_of_pos (neg_of_mul_neg_left hx hX.le) hR) hr

theorem powIntPos_loop_spec {s : Mpf} (hs : CanonFin s) (hm0 : s.man ≠ 0) {n : Nat} (hn : 3 ≤ n)
    (hm1 : s.man ≠ 1) (hb : ¬ s.bc * n < 1000) {prec : Int} (hp : 0 < prec) (rnd : Rnd) :
    PowOK prec rnd (val s ^ n) (powIntPos s n prec rnd) := by
  rcases hs.cases with rfl | ⟨_, hsg, _, hbc⟩
  · exact absurd rfl hm0
  have hrs := and_le_one s.sign n hsg
  obtain ⟨hw, hX, hside⟩ := powLoop_spec (shiftsDown rnd (s.sign &&& n)) (wp := prec + 4 * (bitcount n : Int) + 4)
    (by omega) hm0 s.exp (n := n) (by omega)
  rw [powIntPos_loop_eq s hn hm1 hb, val_def, mul_pow, neg_one_pow_and s.sign n hsg, hbc]
  generalize powLoop _ _ _ _ _ n = R at hw hside ⊢
  refine PowOK.of_mag hp hrs hw.tv_pos hX (fun h => ?_) (fun h => ?_) (fun h => ?_)
    (normalize_weak_spec hrs hw R.2.1 hp rnd)
  · rw [h] at hside; exact hside.1
  · rw [h] at hside; exact hside
  · subst h
    have hsmall := loop_err_small hp (by omega : n ≠ 0)
    exact rel_err_of_pow_bound (eps_pos _).le hsmall (zpow_le_one_of_nonpos₀ (by norm_num) (by omega))
      hw.tv_pos.le hside.1 hside.2

/-! ### exact results in the loop regime: no truncation ever happens -/

theorem powLoop_exact (rd : Bool) {wp : Int} {m : Nat} (hm : m ≠ 0) (e : Int) {n : Nat} (hn : 1 ≤ n)
    (hfit : (bitcount (m ^ n) : Int) ≤ wp) :
    powLoop rd wp (bitcount n + 1) (1, 0, 1) (m, e, bitcount m) n = (m ^ n, e * n, (bitcount (m ^ n) : Int)) := by
  -- the "true value" `2^j` of the generic invariant keeps track of the exponent `j` reached
  let I : Nat × Int × Int → ℚ → ℕ → Prop := fun P tp _ =>
    ∃ j : ℕ, tp = (2 : ℚ) ^ j ∧ (j ≤ n → P = (m ^ j, e * j, (bitcount (m ^ j) : Int)))
  have hmul : ∀ P B tp tb cp cb, I P tp cp → I B tb cb → I (mulStep rd wp P B) (tp * tb) (cp + cb + 1) := by
    rintro P B tp tb cp cb ⟨jp, rfl, hP⟩ ⟨jb, rfl, hB⟩
    refine ⟨jp + jb, (pow_add _ _ _).symm, fun hj => ?_⟩
    rw [hP (by omega), hB (by omega)]
    have hmj : ∀ j, m ^ j ≠ 0 := fun j => pow_ne_zero j hm
    have hbc := prod_bc (WB.of_bitcount (hmj jp)) (WB.of_bitcount (hmj jb))
    rw [← pow_add] at hbc
    unfold mulStep
    simp only [← pow_add, hbc]
    have hle : m ^ (jp + jb) ≤ m ^ n := Nat.pow_le_pow_right (Nat.pos_of_ne_zero hm) hj
    have hb : (bitcount (m ^ (jp + jb)) : Int) ≤ wp := by
      have := bitcount_mono hle; omega
    rw [powTrunc_fits rd _ hb]
    congr 2
    push_cast; ring
  obtain ⟨j, hj, hR⟩ := powLoop_inv_init rd wp I hmul (P := (1, 0, 1)) (B := (m, e, bitcount m)) (tp := 1) (tb := 2) hn
    ⟨0, by simp, fun _ => by simp [bitcount_one]⟩ ⟨1, by simp, fun _ => by simp⟩
  have h2 : (2 : ℕ) ^ n = 2 ^ j := by exact_mod_cast (one_mul ((2 : ℚ) ^ n)).symm.trans hj
  obtain rfl : n = j := Nat.pow_right_injective (le_refl 2) h2
  exact hR (le_refl _)

/-- an odd number that is a factor of a mantissa of a dyadic value divides every integer mantissa of that value -/
theorem odd_dvd_of_dyadic {M : ℕ} (hodd : M % 2 = 1) {a b j k : ℤ}
    (h : (M : ℚ) * a * 2 ^ j = b * 2 ^ k) : (M : ℤ) ∣ b := by
  rcases le_total j k with hle | hle
  · obtain ⟨i, rfl⟩ : ∃ i : ℕ, k = j + i := ⟨(k - j).toNat, by omega⟩
    rw [zpow_add₀ (by norm_num), zpow_natCast, mul_comm ((2 : ℚ) ^ j), ← mul_assoc] at h
    have h2 : (M : ℤ) * a = b * 2 ^ i := by
      exact_mod_cast mul_right_cancel₀ (by positivity : (2 : ℚ) ^ j ≠ 0) h
    have hd : M ∣ b.natAbs * 2 ^ i := ⟨a.natAbs, by simpa [Int.natAbs_mul, Int.natAbs_pow] using (congrArg Int.natAbs h2).symm⟩
    have hcop : Nat.Coprime M (2 ^ i) := Nat.Coprime.pow_right i (Nat.coprime_two_right.2 (Nat.odd_iff.2 hodd))
    exact Int.natCast_dvd.2 (hcop.dvd_of_dvd_mul_right hd)
  · obtain ⟨i, rfl⟩ : ∃ i : ℕ, j = k + i := ⟨(j - k).toNat, by omega⟩
    rw [zpow_add₀ (by norm_num), zpow_natCast, mul_comm ((2 : ℚ) ^ k), ← mul_assoc] at h
    have h2 : (M : ℤ) * a * 2 ^ i = b := by
      exact_mod_cast mul_right_cancel₀ (by positivity : (2 : ℚ) ^ k ≠ 0) h
    exact ⟨a * 2 ^ i, by rw [← h2]; ring⟩

theorem bitcount_le_of_repb_odd {p : ℕ} {M : ℕ} (hodd : M % 2 = 1) {E : ℤ}
    (h : Repb p ((M : ℚ) * 2 ^ E)) : bitcount M ≤ p := by
  obtain ⟨m', e', hm', heq⟩ := h
  have hdvd : (M : ℤ) ∣ m' := odd_dvd_of_dyadic hodd (a := 1) (by simpa using heq)
  have hm0 : m' ≠ 0 := by
    rintro rfl
    have hM : (M : ℚ) ≠ 0 := by exact_mod_cast (by omega : M ≠ 0)
    exact mul_ne_zero hM (zpow_ne_zero E two_ne_zero) (by rw [heq]; simp)
  have : (M : ℤ) ≤ |m'| := Int.le_of_dvd (abs_pos.2 hm0) ((dvd_abs _ _).2 hdvd)
  exact bitcount_le_of_lt (by exact_mod_cast this.trans_lt hm')

theorem eq_one_of_repb_inv_odd {p : ℕ} {M : ℕ} (hodd : M % 2 = 1) {E : ℤ}
    (h : Repb p (1 / ((M : ℚ) * 2 ^ E))) : M = 1 := by
  obtain ⟨m', e', _, heq⟩ := h
  have hM : (M : ℚ) ≠ 0 := by exact_mod_cast (by omega : M ≠ 0)
  rw [div_eq_iff (mul_ne_zero hM (by positivity))] at heq
  have hd : (M : ℤ) ∣ 1 := odd_dvd_of_dyadic hodd (a := m') (j := E + e') (k := 0) (by
    rw [zpow_add₀ (by norm_num)]; push_cast; linear_combination -heq)
  exact Nat.dvd_one.1 (by exact_mod_cast hd)

theorem repb_abs {p : ℕ} {x : ℚ} : Repb p |x| ↔ Repb p x := by
  rcases abs_choice x with h | h <;> rw [h]
  exact repb_neg_iff

theorem val_pow {s : Mpf} (hsg : s.sign ≤ 1) (n : ℕ) :
    val s ^ n = (-1 : ℚ) ^ (s.sign &&& n) * (((s.man ^ n : ℕ) : ℚ) * 2 ^ (s.exp * n)) := by
  rw [val_def, mul_pow, neg_one_pow_and s.sign n hsg, mul_pow, ← zpow_natCast ((2 : ℚ) ^ s.exp) n, ← zpow_mul]
  push_cast; ring

theorem abs_val_pow (s : Mpf) (n : ℕ) : |val s ^ n| = ((s.man ^ n : ℕ) : ℚ) * 2 ^ (s.exp * n) := by
  rw [val_def, abs_pow, abs_mul, abs_pow, abs_neg, abs_one, one_pow, one_mul, abs_of_nonneg (by positivity), mul_pow,
    ← zpow_natCast ((2 : ℚ) ^ s.exp) n, ← zpow_mul]
  push_cast; ring

theorem PowOK.val_ne_zero {prec : Int} {rnd : Rnd} {x : ℚ} {r : Mpf} (h : PowOK prec rnd x r) (hx : x ≠ 0) :
    val r ≠ 0 := by
  rcases lt_or_gt_of_ne hx with hx | hx
  · exact (h.neg hx).ne
  · exact (h.pos hx).ne'

theorem PowOK.of_roundOK {prec : Int} (hp : 0 < prec) {rnd : Rnd} {x : ℚ} {r : Mpf}
    (h : RoundOK prec rnd x r) : PowOK prec rnd x r := by
  obtain ⟨hc, _, h3⟩ := h
  obtain ⟨hr, hb⟩ := h3 hp
  have hp' : 0 < prec.toNat := by omega
  refine ⟨hc, hb, hr.repb, hr.onSide, fun hn => ?_, fun hx => isRound_pos hp' hx hr,
    fun hx => isRound_neg' hp' hx hr⟩
  subst hn
  exact faithful_of_near hp' hr (by simp only [sub_self, abs_zero]; positivity)

theorem roundOK_two_pow {sign : Nat} (hs : sign ≤ 1) (e : Int) {prec : Int} (hp : 0 < prec) (rnd : Rnd) :
    RoundOK prec rnd ((-1 : ℚ) ^ sign * (((1 : ℕ) : ℚ) * 2 ^ e)) ⟨sign, 1, e, 1⟩ := by
  have := roundOK_self hp rnd (r := ⟨sign, 1, e, 1⟩) (Or.inr ⟨hs, by simp, by simp [bitcount_one]⟩) (by simp; omega)
  rwa [val_def] at this

theorem powIntPos_fzero {m : ℕ} (hm : 2 ≤ m) (prec : Int) (rnd : Rnd) : powIntPos fzero m prec rnd = fzero := by
  unfold powIntPos
  have h0 : m ≠ 0 := by omega
  have h1 : m ≠ 1 := by omega
  by_cases h2 : m = 2
  · subst h2; simp [fzero]
  · have : (0 : ℕ) ^ m = 0 := zero_pow h0
    simp [h0, h1, h2, fzero, normalize1, this]

theorem powIntPos_small_spec {s : Mpf} (hs : CanonFin s) {n : Nat}
    (h : n ≤ 2 ∨ s.man = 1 ∨ s.bc * n < 1000) {prec : Int} (hp : 0 < prec) (rnd : Rnd) :
    RoundOK prec rnd (val s ^ n) (powIntPos s n prec rnd) := by
  by_cases h0 : n = 0
  · subst h0
    simpa [powIntPos, fone] using roundOK_two_pow (Nat.zero_le 1) 0 hp rnd
  by_cases h1 : n = 1
  · subst h1
    simp only [powIntPos, h0, if_false, if_true, pow_one]
    exact mpf_pos_spec hs hp.le rnd
  rcases hs.cases with rfl | ⟨hm0, hsg, hodd, hbc⟩
  · rw [powIntPos_fzero (by omega), val_fzero, zero_pow h0]
    exact roundOK_fzero hp.le rnd
  unfold powIntPos
  by_cases h2 : n = 2
  · subst h2
    simp only [h0, h1, hm0, if_false, if_true]
    have hv : val s ^ 2 = (-1 : ℚ) ^ 0 * (((s.man * s.man : ℕ) : ℚ) * 2 ^ (s.exp + s.exp)) := by
      rw [val_def, mul_pow, ← pow_mul, zpow_add₀ (by norm_num)]
      have : ((-1 : ℚ)) ^ (s.sign * 2) = 1 := by rw [mul_comm, pow_mul]; simp
      rw [this]; push_cast; ring
    rw [hv]
    by_cases hone : s.man * s.man = 1
    · simp only [hone, if_true]
      exact roundOK_two_pow (Nat.zero_le 1) _ hp rnd
    · simp only [hone, if_false]
      have hw := WB.of_bitcount hm0
      rw [hbc, prod_bc hw hw]
      exact normalize1_spec (by decide) (Or.inl (by rw [Nat.mul_mod, hodd])) _ hp rnd
  · simp only [h0, h1, h2, if_false]
    have hrs := and_le_one s.sign n hsg
    rw [val_pow hsg]
    by_cases hm1 : s.man = 1
    · simp only [hm1, if_true, one_pow]
      exact roundOK_two_pow hrs _ hp rnd
    · have hb : s.bc * n < 1000 := by
        rcases h with h | h | h
        · omega
        · exact absurd h hm1
        · exact h
      simp only [hm1, hb, if_false, if_true]
      refine normalize1_spec hrs (Or.inl ?_) _ hp rnd
      rw [Nat.pow_mod, hodd]; simp

/-- **`mpf_pow_int`, nonnegative exponents, all regimes** -/
theorem powIntPos_spec {s : Mpf} (hs : CanonFin s) (n : Nat) {prec : Int} (hp : 0 < prec) (rnd : Rnd) :
    PowOK prec rnd (val s ^ n) (powIntPos s n prec rnd) := by
  by_cases h : n ≤ 2 ∨ s.man = 1 ∨ s.bc * n < 1000
  · exact PowOK.of_roundOK hp (powIntPos_small_spec hs h hp rnd)
  · push Not at h
    have hm0 : s.man ≠ 0 := by
      intro h0
      rcases hs.cases with rfl | ⟨hm, _⟩
      · have := h.2.2; simp [fzero] at this
      · exact hm h0
    exact powIntPos_loop_spec hs hm0 (by omega) h.2.1 (by omega) hp rnd

/-- exact results are returned exactly, in every mode and regime -/
theorem powIntPos_exact {s : Mpf} (hs : CanonFin s) (n : Nat) {prec : Int} (hp : 0 < prec) (rnd : Rnd)
    (hrep : Repb prec.toNat (val s ^ n)) : val (powIntPos s n prec rnd) = val s ^ n := by
  by_cases h : n ≤ 2 ∨ s.man = 1 ∨ s.bc * n < 1000
  · exact (powIntPos_small_spec hs h hp rnd).eq_of_repb hp hrep
  · push Not at h
    rcases hs.cases with rfl | ⟨hm0, hsg, hodd, hbc⟩
    · have := h.2.2; simp [fzero] at this
    -- the odd mantissa `man^n` fits the precision, so the loop never truncates
    have hbits : bitcount (s.man ^ n) ≤ prec.toNat :=
      bitcount_le_of_repb_odd (by rw [Nat.pow_mod, hodd]; simp) (by rw [← abs_val_pow]; exact repb_abs.2 hrep)
    rw [powIntPos_loop_eq s (by omega) h.2.1 (by omega), hbc, powLoop_exact _ hm0 s.exp (by omega) (by omega),
      val_pow hsg]
    dsimp only
    exact normalize_val_of_fits _ _ (by omega) rnd

/-! ### negative exponents: `1 / (s^(-n))` with the reciprocal rounding mode and 5 extra bits -/

theorem onSide_one_div {rnd : Rnd} {x y : ℚ} (hpos : 0 < x → 0 < y) (hneg : x < 0 → y < 0) (hx : x ≠ 0)
    (h : OnSide (reciprocalRnd rnd) x y) : OnSide rnd (1 / x) (1 / y) := by
  rcases lt_or_gt_of_ne hx with hx | hx
  · have hy := hneg hx
    have h1 : 1 / y < 0 := one_div_neg.2 hy
    have h2 : 1 / x < 0 := one_div_neg.2 hx
    cases rnd <;> simp only [OnSide, reciprocalRnd] at h ⊢
    · exact one_div_le_one_div_of_neg_of_le hy h
    · exact one_div_le_one_div_of_neg_of_le hx h
    · exact ⟨fun h0 => absurd h0 (by linarith), fun _ => one_div_le_one_div_of_neg_of_le hy (h.2 hx.le).1⟩
    · exact ⟨fun h0 => absurd h0 (by linarith), fun _ => ⟨one_div_le_one_div_of_neg_of_le hx (h.2 hx.le), h1.le⟩⟩
  · have hy := hpos hx
    have h1 : 0 < 1 / y := one_div_pos.2 hy
    have h2 : 0 < 1 / x := one_div_pos.2 hx
    cases rnd <;> simp only [OnSide, reciprocalRnd] at h ⊢
    · exact one_div_le_one_div_of_le hx h
    · exact one_div_le_one_div_of_le hy h
    · exact ⟨fun _ => one_div_le_one_div_of_le hy (h.1 hx.le).2, fun h0 => absurd h0 (by linarith)⟩
    · exact ⟨fun _ => ⟨h1.le, one_div_le_one_div_of_le hx (h.1 hx.le)⟩, fun h0 => absurd h0 (by linarith)⟩

theorem recip_err {X I δ : ℚ} (hX : X ≠ 0) (hI : I ≠ 0) (hδ0 : 0 ≤ δ) (hδ : δ ≤ 1 / 2) (h : |I - X| ≤ |X| * δ) :
    |1 / I - 1 / X| ≤ |1 / X| * (2 * δ) := by
  have hXa := abs_pos.2 hX
  have hIa := abs_pos.2 hI
  have hIX : |X| ≤ 2 * |I| := by
    have h1 := abs_sub_abs_le_abs_sub X I
    rw [abs_sub_comm] at h1
    have h2 := mul_le_mul_of_nonneg_left hδ hXa.le
    linarith
  rw [show 1 / I - 1 / X = (X - I) / (I * X) by field_simp, abs_div, abs_mul, abs_div, abs_one, abs_sub_comm,
    div_le_iff₀ (by positivity)]
  calc |I - X| ≤ |X| * δ := h
    _ ≤ 2 * |I| * δ := mul_le_mul_of_nonneg_right hIX hδ0
    _ = 1 / |X| * (2 * δ) * (|I| * |X|) := by field_simp

theorem recip_spec {prec : Int} (hp : 0 < prec) (rnd : Rnd) {X : ℚ} {inv r : Mpf} (hX : X ≠ 0)
    (hinv : PowOK (prec + 5) (reciprocalRnd rnd) X inv) (hr : RoundOK prec rnd (1 / val inv) r) :
    PowOK prec rnd (1 / X) r := by
  have base := PowOK.of_roundOK hp hr
  have hI0 := hinv.val_ne_zero hX
  refine ⟨base.canon, base.bc_le, base.repb, (onSide_one_div hinv.pos hinv.neg hX hinv.side).trans base.side,
    fun hn => ?_, fun h => base.pos (one_div_pos.2 (hinv.pos (one_div_pos.1 h))),
    fun h => base.neg (one_div_neg.2 (hinv.neg (one_div_neg.1 h)))⟩
  subst hn
  -- the inverse is faithful at `prec + 5` bits: relative error `2^(-prec-4)`, doubled by the reciprocal
  have hrel := (hinv.faithful rfl).relerr (by omega : 0 < (prec + 5).toNat)
  apply faithful_of_near (by omega : 0 < prec.toNat) (hr.isRound hp)
  have e5 : (2 : ℚ) ^ (-(prec.toNat : ℤ) - 3) = 2 * 2 ^ (1 - ((prec + 5).toNat : ℤ)) := by
    rw [← zpow_one_add₀ (by norm_num)]; congr 1; omega
  rw [e5]
  refine recip_err hX hI0 (by positivity) ?_ hrel
  calc (2 : ℚ) ^ (1 - ((prec + 5).toNat : ℤ)) ≤ 2 ^ (-1 : ℤ) := zpow_le_zpow_right₀ (by norm_num) (by omega)
    _ = 1 / 2 := by norm_num

theorem mpf_pow_int_natCast {s : Mpf} (hs : isSpecial s = false) (n : ℕ) (prec : Int) (rnd : Rnd) :
    mpf_pow_int s n prec rnd = .ok (powIntPos s n prec rnd) := by
  unfold mpf_pow_int
  simp only [hs, Bool.false_eq_true, if_false, ge_iff_le, Int.natCast_nonneg, if_true, Int.toNat_natCast]

theorem mpf_pow_int_neg {s : Mpf} (hs : isSpecial s = false) {m : ℕ} (hm : 1 ≤ m) (prec : Int) (rnd : Rnd) :
    mpf_pow_int s (-(m : ℤ)) prec rnd =
      mpf_div fone (if m = 1 then s else powIntPos s m (prec + 5) (reciprocalRnd rnd)) prec rnd := by
  unfold mpf_pow_int
  simp only [hs, Bool.false_eq_true, if_false, show ¬ (-(m : ℤ) ≥ 0) by omega, neg_neg, Int.toNat_natCast]
  by_cases h1 : m = 1
  · subst h1; simp
  · rw [if_neg (by omega), if_neg h1]

/-- **`mpf_pow_int`, negative exponents of a nonzero base**; exact results (they only exist for power-of-two bases)
are returned exactly -/
theorem mpf_pow_int_neg_spec {s : Mpf} (hs : CanonFin s) (hs0 : s ≠ fzero) {n : Int} (hn : n < 0)
    {prec : Int} (hp : 0 < prec) (rnd : Rnd) :
    ∃ r, mpf_pow_int s n prec rnd = .ok r ∧ PowOK prec rnd (val s ^ n) r ∧
      (Repb prec.toNat (val s ^ n) → val r = val s ^ n) := by
  obtain ⟨m, rfl⟩ : ∃ m : ℕ, n = -(m : ℤ) := ⟨(-n).toNat, by omega⟩
  have hv0 := val_ne_zero_of_ne_fzero hs hs0
  rw [mpf_pow_int_neg hs.finite (by omega), zpow_neg, zpow_natCast, ← one_div]
  by_cases h1 : m = 1
  · subst h1
    rw [if_pos rfl, pow_one]
    obtain ⟨r, hr, hok⟩ := mpf_div_spec canonFin_fone hs hs0 hp rnd
    rw [val_fone] at hok
    exact ⟨r, hr, PowOK.of_roundOK hp hok, hok.eq_of_repb hp⟩
  · rw [if_neg h1]
    have hp5 : 0 < prec + 5 := by omega
    have hinv := powIntPos_spec hs m hp5 (reciprocalRnd rnd)
    have hX : val s ^ m ≠ 0 := pow_ne_zero _ hv0
    obtain ⟨r, hr, hok⟩ := mpf_div_spec canonFin_fone hinv.canon (ne_fzero_of_val_ne_zero (hinv.val_ne_zero hX)) hp rnd
    rw [val_fone] at hok
    refine ⟨r, hr, recip_spec hp rnd hX hinv hok, fun hrep => ?_⟩
    -- a representable reciprocal forces the mantissa `man^m = 1`, so the inverse power was exact as well
    rcases hs.cases with rfl | ⟨_, _, hodd, _⟩
    · exact absurd rfl hs0
    have hman : s.man ^ m = 1 := by
      refine eq_one_of_repb_inv_odd (p := prec.toNat) (E := s.exp * m) (by rw [Nat.pow_mod, hodd]; simp) ?_
      rw [← abs_val_pow, ← abs_one_div]
      exact repb_abs.2 hrep
    have hXrep : Repb (prec + 5).toNat (val s ^ m) := by
      rw [← repb_abs, abs_val_pow, hman]
      exact repb_nat (Nat.one_lt_two_pow (by omega)) _
    rw [powIntPos_exact hs m hp5 (reciprocalRnd rnd) hXrep] at hok
    exact hok.eq_of_repb hp hrep

/-- **`mpf_pow_int`, every integer exponent**: the result meets `PowOK`, and an exact power is returned exactly -/
theorem mpf_pow_int_spec {s : Mpf} (hs : CanonFin s) (n : Int) (h0 : s ≠ fzero ∨ 0 ≤ n) {prec : Int} (hp : 0 < prec)
    (rnd : Rnd) :
    ∃ r, mpf_pow_int s n prec rnd = .ok r ∧ PowOK prec rnd (val s ^ n) r ∧
      (Repb prec.toNat (val s ^ n) → val r = val s ^ n) := by
  by_cases hn : 0 ≤ n
  · obtain ⟨m, rfl⟩ : ∃ m : ℕ, n = m := ⟨n.toNat, by omega⟩
    rw [zpow_natCast]
    exact ⟨_, mpf_pow_int_natCast hs.finite m prec rnd, powIntPos_spec hs m hp rnd, powIntPos_exact hs m hp rnd⟩
  · exact mpf_pow_int_neg_spec hs (h0.resolve_right hn) (by omega) hp rnd

end Mp

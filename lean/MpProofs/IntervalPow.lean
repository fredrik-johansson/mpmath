/-
  MpProofs/IntervalPow.lean — interval integer powers `mpi_pow_int` (nonnegative exponents) contain `x^n` for every `x` of the
  input interval: the endpoints are `mpf_pow_int` with round_floor / round_ceiling, and `mpf_pow_int` never rounds past the exact
  power (`PowOK.side`, the C03 theorem).  Odd exponents are monotone; even exponents are monotone in `|x|`.
-/
import MpProofs.Pow
import MpProofs.IntervalMore
import Mathlib.Algebra.Order.Ring.Abs
import Mathlib.Algebra.Order.Ring.Basic

namespace Mp

theorem pow_nat_dir {s : Mpf} (hs : CanonFin s) (n : ℕ) {prec : ℤ} (hp : 0 < prec) (rnd : Rnd) :
    ∃ r, mpf_pow_int s n prec rnd = .ok r ∧ CanonFin r ∧ OnSide rnd (val s ^ n) (val r) := by
  have hP := powIntPos_spec hs n hp rnd
  exact ⟨_, mpf_pow_int_natCast hs.finite n prec rnd, hP.canon, hP.side⟩

theorem pow_le_pow_of_abs_le_abs {x y : ℚ} (h : |x| ≤ |y|) {n : ℕ} (hn : Even n) : x ^ n ≤ y ^ n := by
  rw [← hn.pow_abs x, ← hn.pow_abs y]
  exact pow_le_pow_left₀ (abs_nonneg x) h n

theorem pow_pair_sound {p u : Mpf} (hp' : CanonFin p) (hu : CanonFin u) (n : ℕ) {prec : ℤ} (hp : 0 < prec) {z : ℚ}
    (hlo : val p ^ n ≤ z) (hhi : z ≤ val u ^ n) :
    ∃ r, (do let a ← mpf_pow_int p n prec .f
             let b ← mpf_pow_int u n prec .c
             pure (a, b) : Except Err Mpi) = .ok r ∧ FinIv r ∧ MemIv z r := by
  obtain ⟨a, ea, ca, sa⟩ := pow_nat_dir hp' n hp .f
  obtain ⟨b, eb, cb, sb⟩ := pow_nat_dir hu n hp .c
  have la : val a ≤ z := le_trans sa hlo
  have lb : z ≤ val b := le_trans hhi sb
  exact ⟨(a, b), by rw [ea, eb]; rfl, ⟨ca, cb, la.trans lb⟩, la, lb⟩

/-- the zero-straddling case of an even power: `[0, m^n]` for an endpoint `m` with `|x| ≤ m` -/
theorem pow_zero_pair_sound {m : Mpf} (hm : CanonFin m) {n : ℕ} (hn : Even n) {prec : ℤ} (hp : 0 < prec) {x : ℚ}
    (hx : |x| ≤ val m) :
    ∃ r, (do let b ← mpf_pow_int m n prec .c
             pure (fzero, b) : Except Err Mpi) = .ok r ∧ FinIv r ∧ MemIv (x ^ n) r := by
  obtain ⟨b, eb, cb, sb⟩ := pow_nat_dir hm n hp .c
  have lb : x ^ n ≤ val b := le_trans (pow_le_pow_of_abs_le_abs (hx.trans (le_abs_self _)) hn) sb
  have la : val fzero ≤ x ^ n := val_fzero.le.trans (hn.pow_nonneg x)
  exact ⟨(fzero, b), by rw [eb]; rfl, ⟨canonFin_fzero, cb, la.trans lb⟩, la, lb⟩

/-- **integer powers of intervals** (`n ≥ 0`): the result contains `x^n` for every `x` of the interval -/
theorem mpiPowNat_sound {s : Mpi} (hs : FinIv s) (n : ℕ) {prec : ℤ} (hp : 0 < prec) {x : ℚ} (hx : MemIv x s) :
    ∃ r, mpiPowNat s n prec = .ok r ∧ FinIv r ∧ MemIv (x ^ n) r := by
  unfold mpiPowNat
  dsimp only
  by_cases h0 : n = 0
  · subst h0; rw [if_pos rfl, pow_zero]; exact ⟨_, rfl, one_encl⟩
  rw [if_neg h0]
  by_cases h1 : n = 1
  · subst h1; rw [if_pos rfl, pow_one]; exact ⟨s, rfl, hs, hx⟩
  rw [if_neg h1]
  by_cases h2 : n = 2
  · subst h2; rw [if_pos rfl, pow_two]; exact ⟨_, rfl, mpi_square_sound hs hp.le hx⟩
  rw [if_neg h2]
  obtain ⟨ha, hb, hab⟩ := hs
  obtain ⟨hx1, hx2⟩ := hx
  by_cases hodd : n % 2 = 1
  · -- odd exponent: `x ↦ x^n` is monotone
    have hO : Odd n := Nat.odd_iff.2 hodd
    rw [if_pos hodd]
    exact pow_pair_sound ha hb n hp (hO.pow_le_pow.2 hx1) (hO.pow_le_pow.2 hx2)
  have hE : Even n := Nat.even_iff.2 (by omega)
  rw [if_neg hodd]
  rcases sign_cases_iv ha hb with ⟨s1, ha0⟩ | ⟨s1, s2, hb0⟩ | ⟨s1, s2, -, -⟩
  · rw [if_pos s1]
    exact pow_pair_sound ha hb n hp (pow_le_pow_left₀ ha0 hx1 n) (pow_le_pow_left₀ (ha0.trans hx1) hx2 n)
  · -- nonpositive interval: `x^n` decreases
    rw [if_neg s1, if_pos s2]
    exact pow_pair_sound hb ha n hp (pow_le_pow_of_abs_le_abs (abs_le_abs_of_nonpos hb0 hx2) hE)
      (pow_le_pow_of_abs_le_abs (abs_le_abs_of_nonpos (hx2.trans hb0) hx1) hE)
  · -- the interval straddles zero: `[0, max(-a, b)^n]`
    obtain ⟨hnc, hnv⟩ := val_mpf_neg_exact ha
    rw [if_neg s1, if_neg s2, mpf_ge_spec hnc hb, hnv]
    by_cases hg : -val s.1 ≥ val s.2
    · rw [if_pos (decide_eq_true hg)]
      exact pow_zero_pair_sound hnc hE hp (abs_le.2 ⟨by rw [hnv, neg_neg]; exact hx1, by rw [hnv]; exact hx2.trans hg⟩)
    · rw [if_neg (mt of_decide_eq_true hg)]
      exact pow_zero_pair_sound hb hE hp (abs_le.2 ⟨(neg_le.1 (not_le.1 hg).le).trans hx1, hx2⟩)

end Mp

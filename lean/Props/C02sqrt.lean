/-
  Props/C02sqrt.lean — C02, square root: `mpf_sqrt` returns THE correctly rounded value of the real square root.

  For every finite canonical nonnegative argument (mantissa of any length, any exponent), every precision ≥ 1 and each
  of the five modes the result is canonical, has at most `prec` mantissa bits, and is the rounding (`IsRound`, the same
  relational specification as for + - * /, instantiated over ℝ) of `Real.sqrt` of the argument's value.  Proof: the
  integer square root of the shifted mantissa brackets the real root in a unit cell; for the modes
  that round down in magnitude the truncated root rounds like the real one; for the other modes the
  code replaces a non-zero remainder by one sticky bit, and the sticky principle shows that the real root
  rounds like that stand-in.  A negative argument raises.
-/
import MpProofs.Sqrt

namespace Mp

theorem C02_sqrt {s : Mpf} (hs : CanonFin s) (hsign : s.sign = 0) {prec : ℤ} (hp : 0 < prec) (rnd : Rnd) :
    ∃ r, mpf_sqrt s prec rnd = .ok r ∧ CanonFin r ∧ r.bc ≤ prec ∧
      IsRound prec.toNat rnd (Real.sqrt (valK ℝ s)) (valK ℝ r) := mpf_sqrt_spec hs hsign hp rnd

/-- the square root of a negative number raises ComplexResult -/
theorem C02_sqrt_negative {s : Mpf} (h : s.sign ≠ 0) (prec : ℤ) (rnd : Rnd) :
    mpf_sqrt s prec rnd = .error .complexResult := by
  unfold mpf_sqrt; simp [h]

/-- the rounding of a given real number is unique (so `C02_sqrt` determines the result's value) -/
theorem C02_sqrt_unique {p : ℕ} {rnd : Rnd} {x y y' : ℝ} (h : IsRound p rnd x y) (h' : IsRound p rnd x y') : y = y' :=
  isRound_unique h h'

example : CanonFin ⟨0, 3, -1, 2⟩ ∧ (⟨0, 3, -1, 2⟩ : Mpf).sign = 0 := by decide
example : mpf_sqrt ⟨0, 1, 2, 1⟩ 53 .n = .ok ⟨0, 1, 1, 1⟩ := by decide            -- sqrt 4 = 2

end Mp

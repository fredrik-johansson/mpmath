/-
  Props/C15pow.lean — C15, squares and integer powers of complex intervals (rectangles).

  For rectangles with finite canonical endpoints of any bit length, every precision and EVERY exponent n ≥ 0:
  `(x + iy)^n ∈ mpci_pow_int(Z, n)` for every `x + iy ∈ Z` — binary powering with interval multiplications and squarings at
  prec+20 (loop invariant `result ∋ z^k`, `X ∋ z^m`, `k + m·n = N`), final outward rounding to prec.  `cpowQ x y n` is the pair
  (Re, Im) of `(x + iy)^n` (`cpowQ_complex` in Props/C04pow.lean ties it to Mathlib's complex power).
  Negative exponents are `mpci_div (1, 0) (Z^n at prec+20)`: containment follows from `C15_div` whenever its positivity
  hypothesis on the enclosure of `|Z^n|²` holds (`C15_pow_int_neg`).
-/
import Props.C15div
import MpProofs.CIntervalPow

namespace Mp

theorem C15_square {Z : Mpci} (hZ : FinCi Z) {prec : ℤ} (hp : 0 ≤ prec) {x y : ℚ} (hz : MemCi x y Z) :
    FinCi (mpci_square Z prec) ∧ MemCi (x * x - y * y) (2 * (x * y)) (mpci_square Z prec) := by
  rw [show 2 * (x * y) = x * y + y * x by ring]
  exact mpci_square_sound (Z := Z) hZ hp hz

theorem C15_pow_int_nonneg {Z : Mpci} (hZ : FinCi Z) (n : ℕ) {prec : ℤ} (hp : 0 ≤ prec) {x y : ℚ} (hz : MemCi x y Z) :
    ∃ r, mpci_pow_int Z (n : ℤ) prec = .ok r ∧ FinCi r ∧ MemCi (cpowQ x y n).1 (cpowQ x y n).2 r := by
  refine ⟨mpciPowNat Z n prec, ?_, mpciPowNat_sound (Z := Z) hZ n hp hz⟩
  unfold mpci_pow_int
  rw [if_neg (by omega), Int.toNat_natCast]

theorem C15_pow_int_neg {Z : Mpci} (hZ : FinCi Z) (n : ℕ) {prec : ℤ} (hp : 0 < prec) {x y : ℚ} (hz : MemCi x y Z)
    (hn : 0 < n) (hden : 0 < val (cdivDen (mpciPowNat Z n (prec + 20)) prec).1) :
    ∃ r, mpci_pow_int Z (-(n : ℤ)) prec = .ok r ∧ FinCi r ∧
      MemCi ((1 * (cpowQ x y n).1 + 0 * (cpowQ x y n).2) / ((cpowQ x y n).1 * (cpowQ x y n).1 + (cpowQ x y n).2 * (cpowQ x y n).2))
        ((0 * (cpowQ x y n).1 - 1 * (cpowQ x y n).2) / ((cpowQ x y n).1 * (cpowQ x y n).1 + (cpowQ x y n).2 * (cpowQ x y n).2)) r := by
  obtain ⟨f, m⟩ := mpciPowNat_sound (Z := Z) hZ n (by omega : (0 : ℤ) ≤ prec + 20) hz
  have hneg : -(n : ℤ) < 0 := by omega
  unfold mpci_pow_int
  rw [if_pos hneg, neg_neg, Int.toNat_natCast]
  exact C15_div ⟨one_encl.1, zero_encl.1⟩ f hp hden ⟨one_encl.2, zero_encl.2⟩ m

/-! non-vacuity: ([1,2] + i[0,1])^3 at 53 bits -/
example : (mpciPowNat ((fone, ftwo), (fzero, fone)) 3 53).1 = (⟨1, 1, 2, 1⟩, ⟨0, 1, 3, 1⟩) := by decide
example : cpowQ 2 1 3 = (2, 11) := by norm_num [cpowQ]

end Mp

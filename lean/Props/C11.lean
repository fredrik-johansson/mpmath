/-
  Props/C11.lean — "Working precision is restored after every call, normal or failing".

  Reading guide (definitions are in MpModel/Skel.lean, MpModel/PrecConv.lean):
    St            the pair (prec, dps) stored in the context (`ctx._prec`, `ctx._dps`)
    St.setPrec    `ctx.prec = n` :  prec := max(1, n),        dps := prec_to_dps(n)
    St.setDps     `ctx.dps  = n` :  prec := dps_to_prec(n),   dps := max(1, n)
    Stmt          skeleton of a Python function (generated from /repo by tools/skel_extract.py)
    run p σ env sched   executes skeleton p from context state σ, local variables env, under the
                  fault/choice schedule sched (which calls raise, what leaky callees leave behind,
                  branch choices, loop counts, values written); result = (outcome, final config);
                  outcome ∈ normal | returned | raised | broke | continued
    .obs          the context states a consumer sees at each `yield` of a generator skeleton
    bracketed p   the decidable syntactic check (see `okG`)
-/
import MpProofs.Skel
import MpProofs.PrecConvRoundtrip

namespace Mp
open Mp.Skel

/-- A context state as the two setters leave it: `prec ≥ 1` and `dps = prec_to_dps(prec)`.
    (`mp.prec = n` always gives such a state, see `setPrec_consistent`; `mp.dps = d` does when
    `prec_to_dps(dps_to_prec(d)) = d`, see `setDps_wf_partial`.) -/
def Skel.St.WF (σ : St) : Prop := 1 ≤ σ.prec ∧ σ.dps = precToDps σ.prec

/-! ## The soundness theorem (proved once; the generated file supplies `bracketed skel_f = true`) -/

/-- **C11, core.** If a skeleton passes the syntactic check, then from every well-formed initial
    state, with any values in the local variables and under every fault schedule, the context state
    after the call — whatever the outcome: normal, `return`, exception, … — is the initial one,
    and so is every state observable at a `yield`. -/
theorem bracketed_sound (p : Stmt) (h : bracketed p = true)
    (σ : St) (hσ : σ.WF) (env : Var → Int) (sched : List Int) :
    (run p σ env sched).2.st = σ ∧ ∀ x ∈ (run p σ env sched).2.obs, x = σ := by
  have key : ∀ x : St, Skel.Inv σ.prec σ.dps x → x = σ := by
    intro x hx
    cases x with
    | mk xp xd =>
      cases σ with
      | mk sp sd =>
        simp only [Skel.Inv] at hx
        have h2 : sd = precToDps sp := hσ.2
        simp only [St.mk.injEq]
        refine ⟨hx.1, ?_⟩
        rcases hx.2 with h3 | h3
        · exact h3
        · exact h3.trans h2.symm
  have A := okG_sound σ.prec σ.dps hσ.1 p false [] ⟨σ, env, sched, []⟩ h
    (by intro v hv; cases hv) (fun _ => ⟨rfl, Or.inl rfl⟩) (by intro x hx; cases hx)
  exact ⟨key _ A.1, fun x hx => key _ (A.2.1 x hx)⟩

/-- Without the assumption `dps = prec_to_dps(prec)` on the initial state: `prec` is still restored
    exactly, and `dps` is either untouched or what the `prec` setter recomputes. -/
theorem bracketed_sound_prec (p : Stmt) (h : bracketed p = true)
    (σ : St) (hσ : 1 ≤ σ.prec) (env : Var → Int) (sched : List Int) :
    (run p σ env sched).2.st.prec = σ.prec ∧
    ((run p σ env sched).2.st.dps = σ.dps ∨ (run p σ env sched).2.st.dps = precToDps σ.prec) :=
  (okG_sound σ.prec σ.dps hσ p false [] ⟨σ, env, sched, []⟩ h
    (by intro v hv; cases hv) (fun _ => ⟨rfl, Or.inl rfl⟩) (by intro x hx; cases hx)).1

/-- Functions whose skeleton has no precision write, no leaky callee and no manager (the ones the
    translator does not emit) pass the check, so `bracketed_sound` applies to them. -/
theorem effectFree_bracketed (p : Stmt) (h : effectFree p = true) : bracketed p = true :=
  effectFree_ok p [] h

/-- non-vacuity: the shape of `PythonMPContext._wrap_specfun.f_wrapped`
    (`args = [convert(a) …]; prec = ctx.prec; try: ctx.prec += 10; retval = f(…) finally: ctx.prec = prec;
    return +retval`), with `f` allowed to leave *any* precision behind. -/
def wrapSpecfunSkel : Stmt :=
  .seq .call (.seq (.save 0 .prec)
    (.seq (.tryFinally (.seq (.setPrec .other) .callLeaky) (.setPrec (.saved 0)))
      (.seq .call .ret)))

example : bracketed wrapSpecfunSkel = true := by decide
example : (St.mk 101 29).WF := by constructor <;> decide +kernel
-- the callee leaves (prec, dps) = (7777, 3) and raises: the wrapper still restores 101
example : (run wrapSpecfunSkel ⟨101, 29⟩ (fun _ => 0) [0, 111, 7777, 3, 1]).1 = .raised
    ∧ (run wrapSpecfunSkel ⟨101, 29⟩ (fun _ => 0) [0, 111, 7777, 3, 1]).2.st = ⟨101, 29⟩ := by
  decide +kernel

/-- non-vacuity, negative: the shape of `lambertw` (functions/functions.py:463-490):
    `prec = ctx.prec; ctx.prec += …; <calls>; ctx.prec = prec; return +w` — no `try/finally`. -/
def lambertwSkel : Stmt :=
  .seq (.save 0 .prec) (.seq (.setPrec .other) (.seq .call (.seq (.setPrec (.saved 0)) .ret)))

example : bracketed lambertwSkel = false := by decide

/-- The check rejects `lambertwSkel` for a reason: if the inner call raises, the raised precision
    stays (53 ↦ 80). -/
theorem unbracketed_leaks_counterexample :
    (run lambertwSkel ⟨53, 15⟩ (fun _ => 0) [80, 1]).1 = .raised ∧
    (run lambertwSkel ⟨53, 15⟩ (fun _ => 0) [80, 1]).2.st.prec = 80 := by decide +kernel

/-! ## Restoring through `dps` is not restoring -/

/-- `dps_to_prec(prec_to_dps(101)) = 100` (binary64 model of libmpf.py:59-67). -/
theorem dps_restore_unsound : ∃ p : Int, 1 ≤ p ∧ dpsToPrec (precToDps p) ≠ p :=
  ⟨101, by decide, by decide +kernel⟩

/-- the shape of the `inverselaplace` rule objects: `d = ctx.dps; ctx.dps = goal; …; ctx.dps = d`,
    here even with a `try/finally` around it -/
def dpsRestoreSkel : Stmt :=
  .seq (.save 0 .dps) (.tryFinally (.seq (.setDps .other) .call) (.setDps (.saved 0)))

/-- The check rejects it … -/
example : bracketed dpsRestoreSkel = false := by decide

/-- … and rightly: from the well-formed state (prec, dps) = (101, 29), normal return, the final
    precision is 100. -/
theorem dps_restore_counterexample :
    (St.mk 101 29).WF ∧
    (run dpsRestoreSkel ⟨101, 29⟩ (fun _ => 0) [40, 0]).1 = .normal ∧
    (run dpsRestoreSkel ⟨101, 29⟩ (fun _ => 0) [40, 0]).2.st = ⟨100, 29⟩ := by
  refine ⟨⟨by decide, by decide +kernel⟩, by decide +kernel, by decide +kernel⟩

/-! ## The setters and the documented conversion formulas -/

/-- after `ctx.prec = n`: `prec = max(1, n)`, `dps = prec_to_dps(n)`, and the state is well-formed -/
theorem setPrec_consistent (σ : St) (n : Int) :
    (σ.setPrec n).prec = max 1 n ∧ (σ.setPrec n).dps = precToDps n ∧ (σ.setPrec n).WF := by
  refine ⟨rfl, rfl, ?_, ?_⟩
  · show 1 ≤ max 1 n
    omega
  · show precToDps n = precToDps (max 1 n)
    by_cases hn : 1 ≤ n
    · rw [show max 1 n = n by omega]
    · rw [show max 1 n = 1 by omega]
      have h1 : precToDps n = 1 := by
        unfold precToDps; rw [if_pos (by omega)]
      rw [h1]; decide +kernel

/-- after `ctx.dps = n` (n ≥ 1): `prec = dps_to_prec(n)` and `dps = n` -/
theorem setDps_consistent (σ : St) (n : Int) (hn : 1 ≤ n) :
    (σ.setDps n).prec = dpsToPrec n ∧ (σ.setDps n).dps = n := by
  refine ⟨rfl, ?_⟩
  show max 1 n = n
  omega

/-- `prec_to_dps(dps_to_prec(d)) = d` for `1 ≤ d ≤ 1024`, by kernel evaluation of the binary64 model.
    BOUNDED (design: 10^6): the kernel needs a few ms per value; the harness checks the identity on
    CPython and model-vs-CPython agreement exhaustively to 10^6. -/
theorem dps_prec_roundtrip_partial (d : Nat) (h1 : 1 ≤ d) (h2 : d ≤ 1024) :
    precToDps (dpsToPrec d) = d := by
  have h : allBelow (fun i => rtOK (1 + i)) 1024 = true := by decide +kernel
  have := allBelow_range (P := rtOK) h d h1 (by omega)
  simp only [rtOK, flIntK_eq, Dy.mulK_eq, Dy.divK_eq, forceNat_eq, beq_iff_eq] at this
  rw [dpsToPrec_natCast, precToDps_natCast (by omega), this]

/-- hence `ctx.dps = d` gives a well-formed state (for those d) -/
theorem setDps_wf_partial (σ : St) (d : Nat) (h1 : 1 ≤ d) (h2 : d ≤ 1024) : (σ.setDps d).WF := by
  -- unfolded by name: left to unification, `dpsToPrec` is unfolded first, down to `Nat.log2`
  simp only [St.WF, St.setDps]
  rw [dps_prec_roundtrip_partial d h1 h2]
  exact ⟨dpsToPrec_pos d, by omega⟩

/-- the default context (53, 15) and the harness' starting precisions are well-formed -/
example : (St.mk 53 15).WF ∧ ((St.mk 0 0).setPrec 100).WF ∧ ((St.mk 0 0).setPrec 167).WF :=
  ⟨⟨by decide, by decide +kernel⟩, (setPrec_consistent _ _).2.2, (setPrec_consistent _ _).2.2⟩

/-! ## PrecisionManager (workprec / workdps / extraprec / extradps) -/

/-- `with ctx.workprec(n): body` etc.: if the manager object is not re-entered or overwritten inside
    `body` (always true for the usual `with ctx.workprec(…)`, which creates a fresh object) and the
    body does not `yield`, the state on exit — normal or exceptional, including `__enter__`
    raising — is the state on entry, whatever the body did to the precision. -/
theorem precisionManager_restores (m : Var) (f : Field) (body : Stmt)
    (hm : m ∉ kills body) (hy : hasYield body = false)
    (σ : St) (hσ : σ.WF) (env : Var → Int) (sched : List Int) :
    (run (.withMgr m f body) σ env sched).2.st = σ := by
  refine (bracketed_sound (.withMgr m f body) ?_ σ hσ env sched).1
  simp [bracketed, okG, hm, hy]

/-- non-vacuity: a body that sets the precision and calls something leaky -/
example : (0 : Var) ∉ kills (.seq (.setDps .other) .callLeaky) ∧
    hasYield (.seq (.setDps .other) .callLeaky) = false := by decide

/-- decorator form, `PrecisionManager.__call__` (ctx_mp.py:1307-1325):
    `orig = ctx.prec; try: (ctx.prec = precfun(…) | ctx.dps = dpsfun(…)); v = f(…); return +v
     finally: ctx.prec = orig` -/
def managerDecoratorSkel (f : Stmt) : Stmt :=
  .seq (.save 0 .prec)
    (.tryFinally
      (.seq (.ite (.seq .call (.setPrec .other)) (.seq .call (.setDps .other))) (.seq f (.seq .call .ret)))
      (.setPrec (.saved 0)))

theorem precisionManager_decorator_restores (f : Stmt)
    (hm : (0 : Var) ∉ kills f) (hy : hasYield f = false)
    (σ : St) (hσ : σ.WF) (env : Var → Int) (sched : List Int) :
    (run (managerDecoratorSkel f) σ env sched).2.st = σ := by
  refine (bracketed_sound _ ?_ σ hσ env sched).1
  simp [bracketed, managerDecoratorSkel, okG, after, kills, hasYield, diff, hm, hy]

/-- D8: entering the *same* manager object twice (`wp = mp.workprec(100); with wp: with wp: pass`).
    `origp` lives on the object, the inner `__enter__` overwrites it: 53 ↦ 100. -/
def reentrantSkel : Stmt := .withMgr 0 .prec (.withMgr 0 .prec .skip)

example : bracketed reentrantSkel = false := by decide

theorem precisionManager_reentrant_counterexample :
    (run reentrantSkel ⟨53, 15⟩ (fun _ => 0) [0, 100, 0, 100]).1 = .normal ∧
    (run reentrantSkel ⟨53, 15⟩ (fun _ => 0) [0, 100, 0, 100]).2.st = ⟨100, 29⟩ := by
  decide +kernel

/-- a generator that yields inside a `with workprec` exposes the raised precision to its consumer -/
def yieldInsideSkel : Stmt := .withMgr 0 .prec (.loop (.seq .call .yld))

example : bracketed yieldInsideSkel = false := by decide

theorem yield_inside_manager_counterexample :
    (run yieldInsideSkel ⟨53, 15⟩ (fun _ => 0) [0, 200, 1, 0]).2.st = ⟨53, 15⟩ ∧
    (run yieldInsideSkel ⟨53, 15⟩ (fun _ => 0) [0, 200, 1, 0]).2.obs = [⟨200, 59⟩] := by
  decide +kernel

end Mp

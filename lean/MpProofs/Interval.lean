/-
  MpProofs/Interval.lean — structural lemmas about MpModel/Interval.lean and MpModel/Complex.lean
  (no arithmetic content: shapes of results, comparison functions in terms of the endpoint
  comparisons, nan-freeness of `mpi_add`/`mpi_sub`, one-step unfoldings of the recursive
  functions).  Used by the interval soundness files and Props/C14, C16.
-/
import MpModel.Interval
import MpModel.Complex

namespace Mp

theorem mpi_neg_fst (s : Mpi) (prec : Int) : (mpi_neg s prec).1 = mpf_neg s.2 prec .f := rfl
theorem mpi_neg_snd (s : Mpi) (prec : Int) : (mpi_neg s prec).2 = mpf_neg s.1 prec .c := rfl

theorem mpi_neg_eq (a b : Mpf) (prec : Int) :
    mpi_neg (a, b) prec = (mpf_neg b prec .f, mpf_neg a prec .c) := rfl

theorem mpi_pos_eq (a b : Mpf) (prec : Int) :
    mpi_pos (a, b) prec = (mpf_pos a prec .f, mpf_pos b prec .c) := rfl

theorem mpi_shift_eq (a b : Mpf) (n : Int) : mpi_shift (a, b) n = (mpf_shift a n, mpf_shift b n) := rfl

theorem mpci_neg_eq (x y : Mpi) (prec : Int) : mpci_neg (x, y) prec = (mpi_neg x prec, mpi_neg y prec) := rfl
theorem mpci_pos_eq (x y : Mpi) (prec : Int) : mpci_pos (x, y) prec = (mpi_pos x prec, mpi_pos y prec) := rfl
theorem mpci_add_eq (x y : Mpci) (prec : Int) :
    mpci_add x y prec = (mpi_add x.1 y.1 prec, mpi_add x.2 y.2 prec) := rfl
theorem mpci_sub_eq (x y : Mpci) (prec : Int) :
    mpci_sub x y prec = (mpi_sub x.1 y.1 prec, mpi_sub x.2 y.2 prec) := rfl

/-! ### `mpi_add` / `mpi_sub` never return a nan endpoint (the nan → ±inf replacement) -/

theorem fninf_ne_fnan : fninf ≠ fnan := by decide
theorem finf_ne_fnan : finf ≠ fnan := by decide

theorem ite_nan_ne_nan {r d : Mpf} (hd : d ≠ fnan) : (if r = fnan then d else r) ≠ fnan := by
  split
  · exact hd
  · assumption

/-- the two endpoints of `mpi_add` / `mpi_sub` with their nan replacements -/
theorem mpi_add_eq (s t : Mpi) (prec : Int) :
    mpi_add s t prec = (if mpf_add s.1 t.1 prec .f = fnan then fninf else mpf_add s.1 t.1 prec .f,
                        if mpf_add s.2 t.2 prec .c = fnan then finf else mpf_add s.2 t.2 prec .c) := rfl
theorem mpi_sub_eq (s t : Mpi) (prec : Int) :
    mpi_sub s t prec = (if mpf_sub s.1 t.2 prec .f = fnan then fninf else mpf_sub s.1 t.2 prec .f,
                        if mpf_sub s.2 t.1 prec .c = fnan then finf else mpf_sub s.2 t.1 prec .c) := rfl

theorem mpi_add_fst_ne_nan (s t : Mpi) (prec : Int) : (mpi_add s t prec).1 ≠ fnan := by
  rw [mpi_add_eq]; exact ite_nan_ne_nan fninf_ne_fnan
theorem mpi_add_snd_ne_nan (s t : Mpi) (prec : Int) : (mpi_add s t prec).2 ≠ fnan := by
  rw [mpi_add_eq]; exact ite_nan_ne_nan finf_ne_fnan
theorem mpi_sub_fst_ne_nan (s t : Mpi) (prec : Int) : (mpi_sub s t prec).1 ≠ fnan := by
  rw [mpi_sub_eq]; exact ite_nan_ne_nan fninf_ne_fnan
theorem mpi_sub_snd_ne_nan (s t : Mpi) (prec : Int) : (mpi_sub s t prec).2 ≠ fnan := by
  rw [mpi_sub_eq]; exact ite_nan_ne_nan finf_ne_fnan

theorem mpi_add_of_ne_nan (s t : Mpi) (prec : Int)
    (ha : mpf_add s.1 t.1 prec .f ≠ fnan) (hb : mpf_add s.2 t.2 prec .c ≠ fnan) :
    mpi_add s t prec = (mpf_add s.1 t.1 prec .f, mpf_add s.2 t.2 prec .c) := by
  rw [mpi_add_eq, if_neg ha, if_neg hb]

theorem mpi_sub_of_ne_nan (s t : Mpi) (prec : Int)
    (ha : mpf_sub s.1 t.2 prec .f ≠ fnan) (hb : mpf_sub s.2 t.1 prec .c ≠ fnan) :
    mpi_sub s t prec = (mpf_sub s.1 t.2 prec .f, mpf_sub s.2 t.1 prec .c) := by
  rw [mpi_sub_eq, if_neg ha, if_neg hb]

theorem mpi_gt_eq (s t : Mpi) : mpi_gt s t = mpi_lt t s := rfl
theorem mpi_ge_eq (s t : Mpi) : mpi_ge s t = mpi_le t s := rfl

theorem mpi_eq_iff (s t : Mpi) : mpi_eq s t = true ↔ s.1 = t.1 ∧ s.2 = t.2 := by
  unfold mpi_eq
  rw [beq_iff_eq]
  constructor
  · intro h; rw [h]; exact ⟨rfl, rfl⟩
  · intro ⟨h1, h2⟩; exact Prod.ext h1 h2

theorem mpi_ne_eq_not (s t : Mpi) : mpi_ne s t = !mpi_eq s t := rfl

/-! Each answer of `mpi_lt` / `mpi_le` in terms of the two endpoint tests: a truth table. -/

theorem mpi_lt_true_iff (s t : Mpi) : mpi_lt s t = some true ↔ mpf_lt s.2 t.1 = true := by
  unfold mpi_lt
  cases mpf_lt s.2 t.1 <;> cases mpf_ge s.1 t.2 <;> decide

theorem mpi_lt_false_iff (s t : Mpi) :
    mpi_lt s t = some false ↔ mpf_lt s.2 t.1 = false ∧ mpf_ge s.1 t.2 = true := by
  unfold mpi_lt
  cases mpf_lt s.2 t.1 <;> cases mpf_ge s.1 t.2 <;> decide

theorem mpi_lt_none_iff (s t : Mpi) :
    mpi_lt s t = none ↔ mpf_lt s.2 t.1 = false ∧ mpf_ge s.1 t.2 = false := by
  unfold mpi_lt
  cases mpf_lt s.2 t.1 <;> cases mpf_ge s.1 t.2 <;> decide

theorem mpi_le_true_iff (s t : Mpi) : mpi_le s t = some true ↔ mpf_le s.2 t.1 = true := by
  unfold mpi_le
  cases mpf_le s.2 t.1 <;> cases mpf_gt s.1 t.2 <;> decide

theorem mpi_le_false_iff (s t : Mpi) :
    mpi_le s t = some false ↔ mpf_le s.2 t.1 = false ∧ mpf_gt s.1 t.2 = true := by
  unfold mpi_le
  cases mpf_le s.2 t.1 <;> cases mpf_gt s.1 t.2 <;> decide

theorem mpi_le_none_iff (s t : Mpi) :
    mpi_le s t = none ↔ mpf_le s.2 t.1 = false ∧ mpf_gt s.1 t.2 = false := by
  unfold mpi_le
  cases mpf_le s.2 t.1 <;> cases mpf_gt s.1 t.2 <;> decide

theorem mpf_lt_eq_cmp (a b : Mpf) (ha : a ≠ fnan) (hb : b ≠ fnan) : mpf_lt a b = decide (mpf_cmp a b < 0) := by
  unfold mpf_lt
  rw [if_neg (not_or.2 ⟨ha, hb⟩)]

theorem mpf_le_eq_cmp (a b : Mpf) (ha : a ≠ fnan) (hb : b ≠ fnan) : mpf_le a b = decide (mpf_cmp a b ≤ 0) := by
  unfold mpf_le
  rw [if_neg (not_or.2 ⟨ha, hb⟩)]

theorem mpf_gt_eq_cmp (a b : Mpf) (ha : a ≠ fnan) (hb : b ≠ fnan) : mpf_gt a b = decide (mpf_cmp a b > 0) := by
  unfold mpf_gt
  rw [if_neg (not_or.2 ⟨ha, hb⟩)]

theorem mpf_ge_eq_cmp (a b : Mpf) (ha : a ≠ fnan) (hb : b ≠ fnan) : mpf_ge a b = decide (mpf_cmp a b ≥ 0) := by
  unfold mpf_ge
  rw [if_neg (not_or.2 ⟨ha, hb⟩)]

theorem mpi_lt_cmp (s t : Mpi) (h1 : s.1 ≠ fnan) (h2 : s.2 ≠ fnan) (h3 : t.1 ≠ fnan) (h4 : t.2 ≠ fnan) :
    mpi_lt s t = if mpf_cmp s.2 t.1 < 0 then some true else if mpf_cmp s.1 t.2 ≥ 0 then some false else none := by
  unfold mpi_lt
  rw [mpf_lt_eq_cmp _ _ h2 h3, mpf_ge_eq_cmp _ _ h1 h4]
  simp only [decide_eq_true_eq]

theorem mpi_le_cmp (s t : Mpi) (h1 : s.1 ≠ fnan) (h2 : s.2 ≠ fnan) (h3 : t.1 ≠ fnan) (h4 : t.2 ≠ fnan) :
    mpi_le s t = if mpf_cmp s.2 t.1 ≤ 0 then some true else if mpf_cmp s.1 t.2 > 0 then some false else none := by
  unfold mpi_le
  rw [mpf_le_eq_cmp _ _ h2 h3, mpf_gt_eq_cmp _ _ h1 h4]
  simp only [decide_eq_true_eq]

/-- `t in s` (both `ivmpf`): both endpoint tests `s.a ≤ t.a` and `t.b ≤ s.b` answer `True`. -/
theorem ivmpf_contains_iv_iff (s t : Mpi) :
    ivmpf_contains_iv s t = true ↔ mpf_le s.1 t.1 = true ∧ mpf_le t.2 s.2 = true := by
  unfold ivmpf_contains_iv pyAnd
  have h1 := mpi_le_true_iff (s.1, s.1) (t.1, t.1)
  have h2 := mpi_le_true_iff (t.2, t.2) (s.2, s.2)
  dsimp only at h1 h2
  rw [← h1, ← h2]
  generalize mpi_le (s.1, s.1) (t.1, t.1) = A
  generalize mpi_le (t.2, t.2) (s.2, s.2) = B
  rcases A with _ | _ | _ <;> rcases B with _ | _ | _ <;> decide

/-- the negate-and-recurse step of `mpi_div`: a non-zero numerator over a denominator with negative
lower endpoint that does not straddle zero -/
theorem mpi_div_neg_den (s t : Mpi) (prec : Int)
    (h0 : ¬ (mpf_sign s.1 = mpf_sign s.2 ∧ mpf_sign s.2 = 0))
    (h1 : mpf_sign t.1 < 0) (h2 : ¬ mpf_sign t.2 > 0) :
    mpi_div s t prec = mpi_div (mpi_neg s) (mpi_neg t) prec := by
  rw [mpi_div]
  simp only [h0, h1, h2, and_false, ↓reduceIte, ↓reduceDIte]

/-- zero numerator: `[0,0] / t` is `[0,0]`, or the whole line when `t` contains / touches zero -/
theorem mpi_div_zero_num (s t : Mpi) (prec : Int)
    (h0 : mpf_sign s.1 = mpf_sign s.2 ∧ mpf_sign s.2 = 0) :
    mpi_div s t prec =
      if (mpf_sign t.1 < 0 ∧ mpf_sign t.2 > 0) ∨ (mpf_sign t.1 = 0 ∨ mpf_sign t.2 = 0)
      then .ok (fninf, finf) else .ok (fzero, fzero) := by
  rw [mpi_div]
  simp only [h0, and_self, ↓reduceIte]

/-- a denominator straddling zero gives the whole line -/
theorem mpi_div_straddle (s t : Mpi) (prec : Int)
    (h0 : ¬ (mpf_sign s.1 = mpf_sign s.2 ∧ mpf_sign s.2 = 0))
    (h1 : mpf_sign t.1 < 0 ∧ mpf_sign t.2 > 0) :
    mpi_div s t prec = .ok (fninf, finf) := by
  rw [mpi_div]
  simp only [h0, h1, and_self, ↓reduceIte, ↓reduceDIte]

theorem mpi_pow_int_nonneg (s : Mpi) (n : Int) (prec : Int) (h : ¬ n < 0) :
    mpi_pow_int s n prec = mpiPowNat s n.toNat prec := by
  unfold mpi_pow_int; rw [if_neg h]

theorem mpi_pow_int_zero (s : Mpi) (prec : Int) : mpi_pow_int s 0 prec = .ok (fone, fone) := rfl
theorem mpi_pow_int_one (s : Mpi) (prec : Int) : mpi_pow_int s 1 prec = .ok s := rfl
theorem mpi_pow_int_two (s : Mpi) (prec : Int) : mpi_pow_int s 2 prec = .ok (mpi_square s prec) := rfl

theorem mpci_pow_int_zero (x : Mpci) (prec : Int) : mpci_pow_int x 0 prec = .ok (mpi_one, mpi_zero) := rfl
theorem mpci_pow_int_one (x : Mpci) (prec : Int) : mpci_pow_int x 1 prec = .ok (mpci_pos x prec) := rfl
theorem mpci_pow_int_two (x : Mpci) (prec : Int) : mpci_pow_int x 2 prec = .ok (mpci_square x prec) := rfl

theorem complex_int_pow_zero (a b : Int) : complex_int_pow a b 0 = (1, 0) := rfl
theorem complex_int_pow_one (a b : Int) : complex_int_pow a b 1 = (1 * a - 0 * b, 0 * a + 1 * b) := rfl

/-- `complex_int_pow` on a concrete input: (1 + 2i)^5 = 41 − 38i -/
example : complex_int_pow 1 2 5 = (41, -38) := by decide

/-- pure real base: `mpc_pow_int` is `mpf_pow_int` on the real part -/
theorem mpc_pow_int_real (fb : Mpc → Int → Int → Rnd → Except Err Mpc) (a : Mpf) (n prec : Int) (rnd : Rnd) :
    mpc_pow_int fb (a, fzero) n prec rnd = (do let v ← mpf_pow_int a n prec rnd; pure (v, fzero)) := by
  rw [mpc_pow_int]; simp only [if_true]

end Mp

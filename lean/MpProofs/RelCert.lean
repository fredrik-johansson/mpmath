/-
  MpProofs/RelCert.lean — soundness of the integer-relation acceptance checkers over ℝ.
-/
import MpModel.RelCert
import MpProofs.EnclArith
import Mathlib.Algebra.BigOperators.Group.List.Basic

namespace Mp.RelCert
open Mp.Encl

/-- the real linear form `Σ c_k x_k` -/
noncomputable def dotR : List Int → List Dy → ℝ
  | c :: cs, x :: xs => (c : ℝ) * x.val + dotR cs xs
  | _, _ => 0

/-- `Σ x_k²` -/
noncomputable def norm2R : List Dy → ℝ
  | [] => 0
  | x :: xs => x.val ^ 2 + norm2R xs

theorem dot_val : ∀ (c : List Int) (xs : List Dy), (dot c xs).val = dotR c xs
  | [], _ => by simp [dot, dotR]
  | _ :: _, [] => by simp [dot, dotR]
  | c :: cs, x :: xs => by
    simp only [dot, dotR, Dy.val_add, Dy.val_mul, Dy.val_ofInt, dot_val cs xs]

theorem norm2_val : ∀ xs : List Dy, (norm2 xs).val = norm2R xs
  | [] => by simp [norm2, norm2R]
  | x :: xs => by simp only [norm2, norm2R, Dy.val_add, Dy.val_mul, norm2_val xs]; ring

theorem norm2R_nonneg : ∀ xs : List Dy, 0 ≤ norm2R xs
  | [] => le_rfl
  | x :: xs => by simp only [norm2R]; have := norm2R_nonneg xs; positivity

theorem coeffsBelow_iff (c : List Int) (b : Int) : coeffsBelow c b = true ↔ ∀ k ∈ c, |k| < b := by
  simp only [coeffsBelow, List.all_eq_true, decide_eq_true_eq]
  constructor
  · intro h k hk; have := h k hk; rwa [Int.natCast_natAbs] at this
  · intro h k hk; rw [Int.natCast_natAbs]; exact h k hk

theorem allZero_iff (c : List Int) : allZero c = true ↔ ∀ k ∈ c, k = 0 := by
  simp [allZero, List.all_eq_true]

theorem abs_le_iff_sq_le {s t N : ℝ} (ht : 0 ≤ t) (hN : 0 ≤ N) :
    |s| ≤ t * Real.sqrt N ↔ s * s ≤ t * t * N := by
  rw [← abs_of_nonneg (mul_nonneg ht (Real.sqrt_nonneg N)), abs_le_iff_mul_self_le,
    mul_mul_mul_comm, Real.mul_self_sqrt hN]

theorem sqTest_iff (xs : List Dy) (c : List Int) {tol : Dy} (ht : 0 ≤ tol.m) :
    ((dot c xs).mul (dot c xs)).le ((tol.mul tol).mul (norm2 xs)) = true ↔
      |dotR c xs| ≤ tol.val * Real.sqrt (norm2R xs) := by
  rw [Dy.le_iff, abs_le_iff_sq_le ((Dy.val_nonneg_iff tol).2 ht) (norm2R_nonneg xs)]
  simp only [Dy.val_mul, dot_val, norm2_val]

theorem pslqCheck_ok_iff {xs : List Dy} {c : List Int} {tol : Dy} {maxcoeff : Int}
    (hlen : c.length = xs.length) (ht : 0 ≤ tol.m) :
    pslqCheck xs c tol maxcoeff = .ok ↔
      (∃ k ∈ c, k ≠ 0) ∧ (∀ k ∈ c, |k| < maxcoeff) ∧
        |dotR c xs| ≤ tol.val * Real.sqrt (norm2R xs) := by
  have hz : (∃ k ∈ c, k ≠ 0) ↔ ¬ allZero c = true := by rw [allZero_iff]; push Not; rfl
  rw [pslqCheck, if_neg (not_or.2 ⟨not_not.2 hlen, not_lt.2 ht⟩), hz, ← coeffsBelow_iff,
    ← sqTest_iff xs c ht]
  dsimp only
  cases allZero c <;> cases coeffsBelow c maxcoeff <;>
    cases ((dot c xs).mul (dot c xs)).le ((tol.mul tol).mul (norm2 xs)) <;> decide

theorem pslqCheck_wf {xs : List Dy} {c : List Int} {tol : Dy} {maxcoeff : Int}
    (h : pslqCheck xs c tol maxcoeff ≠ .malformed) : c.length = xs.length ∧ 0 ≤ tol.m := by
  by_contra hc
  rw [not_and_or, not_le] at hc
  exact h (by rw [pslqCheck, if_pos hc])

theorem pslqCheck_ok (xs : List Dy) (c : List Int) (tol : Dy) (maxcoeff : Int)
    (h : pslqCheck xs c tol maxcoeff = .ok) :
    c.length = xs.length ∧ (∃ k ∈ c, k ≠ 0) ∧ (∀ k ∈ c, |k| < maxcoeff) ∧
    |dotR c xs| ≤ tol.val * Real.sqrt (norm2R xs) := by
  obtain ⟨hlen, ht⟩ := pslqCheck_wf (by rw [h]; decide)
  exact ⟨hlen, (pslqCheck_ok_iff hlen ht).1 h⟩

theorem pslqCheck_violates (xs : List Dy) (c : List Int) (tol : Dy) (maxcoeff : Int)
    (h : pslqCheck xs c tol maxcoeff = .violates) :
    ¬ ((∃ k ∈ c, k ≠ 0) ∧ (∀ k ∈ c, |k| < maxcoeff) ∧
       |dotR c xs| ≤ tol.val * Real.sqrt (norm2R xs)) := by
  obtain ⟨hlen, ht⟩ := pslqCheck_wf (by rw [h]; decide)
  rw [← pslqCheck_ok_iff hlen ht, h]
  decide

theorem powersFrom_length (p x : Dy) : ∀ n, (powersFrom p x n).length = n
  | 0 => rfl
  | n + 1 => by simp [powersFrom, powersFrom_length (p.mul x) x n]

/-- `Σ_k a_k · p · x^k` for the list `a` (lowest degree first) -/
noncomputable def polyR (p x : ℝ) : List Int → ℝ
  | [] => 0
  | a :: as => (a : ℝ) * p + polyR (p * x) x as

/-- `Σ_{k<n} (p x^k)²` -/
noncomputable def powNorm2R (p x : ℝ) : Nat → ℝ
  | 0 => 0
  | n + 1 => p ^ 2 + powNorm2R (p * x) x n

theorem dotR_powersFrom : ∀ (a : List Int) (p x : Dy) (n : Nat), a.length = n →
    dotR a (powersFrom p x n) = polyR p.val x.val a
  | [], _, _, 0, _ => by simp [dotR, polyR]
  | [], _, _, n + 1, h => by simp at h
  | a :: as, _, _, 0, h => by simp at h
  | a :: as, p, x, n + 1, h => by
    simp only [powersFrom, dotR, polyR]
    rw [dotR_powersFrom as (p.mul x) x n (by simpa using h), Dy.val_mul]

theorem norm2R_powersFrom : ∀ (p x : Dy) (n : Nat),
    norm2R (powersFrom p x n) = powNorm2R p.val x.val n
  | _, _, 0 => by simp [norm2R, powNorm2R, powersFrom]
  | p, x, n + 1 => by
    simp only [powersFrom, norm2R, powNorm2R]
    rw [norm2R_powersFrom (p.mul x) x n, Dy.val_mul]

theorem polyR_eq_sum (x : ℝ) : ∀ (a : List Int) (p : ℝ),
    polyR p x a = p * ((a.zipIdx.map (fun ak => (ak.1 : ℝ) * x ^ ak.2)).sum)
  | [], p => by simp [polyR]
  | a :: as, p => by
    rw [polyR, polyR_eq_sum x as (p * x)]
    rw [List.zipIdx_cons, List.map_cons, List.sum_cons]
    have : ((as.zipIdx 1).map (fun ak => ((ak.1 : ℤ) : ℝ) * x ^ ak.2)).sum
        = x * ((as.zipIdx).map (fun ak => ((ak.1 : ℤ) : ℝ) * x ^ ak.2)).sum := by
      rw [← List.sum_map_mul_left]
      have e : as.zipIdx 1 = as.zipIdx.map (fun ak => (ak.1, ak.2 + 1)) := by
        have := List.zipIdx_succ (l := as) (i := 0)
        simpa using this
      rw [e, List.map_map]
      congr 1
      apply List.map_congr_left
      intro ak _
      simp only [Function.comp]
      rw [pow_succ]; ring
    rw [this]
    simp only [pow_zero, mul_one]
    ring

theorem powNorm2R_eq_sum (x : ℝ) : ∀ (n : Nat) (p : ℝ),
    powNorm2R p x n = p ^ 2 * ((List.range n).map (fun k => (x ^ k) ^ 2)).sum
  | 0, p => by simp [powNorm2R]
  | n + 1, p => by
    rw [powNorm2R, powNorm2R_eq_sum x n (p * x), List.range_succ_eq_map, List.map_cons, List.sum_cons,
      List.map_map]
    have : ((List.range n).map ((fun k => (x ^ k) ^ 2) ∘ Nat.succ)).sum
        = x ^ 2 * ((List.range n).map (fun k => (x ^ k) ^ 2)).sum := by
      rw [← List.sum_map_mul_left]
      congr 1
      apply List.map_congr_left
      intro k _
      simp only [Function.comp, pow_succ]; ring
    rw [this]
    simp only [pow_zero]
    ring

theorem dotR_eq_zipWith : ∀ (c : List Int) (xs : List Dy),
    dotR c xs = (List.zipWith (fun (k : Int) (x : Dy) => (k : ℝ) * x.val) c xs).sum
  | [], _ => by simp [dotR]
  | _ :: _, [] => by simp [dotR]
  | c :: cs, x :: xs => by simp [dotR, dotR_eq_zipWith cs xs]

theorem norm2R_eq_sum : ∀ xs : List Dy, norm2R xs = (xs.map (fun x => x.val ^ 2)).sum
  | [] => by simp [norm2R]
  | x :: xs => by simp [norm2R, norm2R_eq_sum xs]

end Mp.RelCert

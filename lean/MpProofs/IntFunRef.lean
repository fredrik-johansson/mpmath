/-
  MpProofs/IntFunRef.lean — the reference values `binomialRef`, `rfRef`, `ffRef`, `bellRef`, `bernfracRef` (driver ops
  `w_binomial`, `w_rf`, `w_ff`, `w_bell`, `bernfrac`): the running product behind `binomialRef`, and test values.
-/
import MpModel.IntFun
import Mathlib.Data.Nat.Choose.Basic
import Mathlib.Data.Nat.Factorial.Basic
import Mathlib.Tactic.Ring
import Mathlib.Tactic.Linarith

namespace Mp

theorem binomialRef_fold (n J : Nat) :
    (List.range J).foldl (fun t (j : Nat) => (t * ((n : Int) - (j : Int))).fdiv ((j : Int) + 1)) 1
      = (Nat.choose n J : Int) := by
  induction J with
  | zero => simp
  | succ J ih =>
    rw [List.range_succ, List.foldl_append, ih]
    simp only [List.foldl_cons, List.foldl_nil]
    by_cases h : J ≤ n
    · have h1 : (Nat.choose n J : Int) * ((n : Int) - (J : Int)) = (Nat.choose n (J + 1) : Int) * ((J : Int) + 1) := by
        have := Nat.choose_succ_right_eq n J
        zify [h] at this
        linarith
      rw [h1, Int.mul_fdiv_cancel _ (by omega)]
    · have h0 : Nat.choose n J = 0 := Nat.choose_eq_zero_of_lt (by omega)
      have h1 : Nat.choose n (J + 1) = 0 := Nat.choose_eq_zero_of_lt (by omega)
      simp [h0, h1]

theorem binomialRef_neg (n k : Int) (hk : k < 0) : binomialRef n k = 0 := by
  unfold binomialRef; rw [if_pos hk]

example : binomialRef (-3) 2 = 6 ∧ rfRef (-3) 5 = 0 ∧ ffRef 10 3 = 720 ∧ bellRef 10 = 115975 := by decide
example : bernfracRef 12 = (-691, 2730) := by decide +kernel

end Mp

/-
  MpProofs/SpecRefGamma.lean — the C18 references agree with Mathlib:
  integer products (`factN = n!`, `chooseM = Nat.choose`, `dfact = n‼`, `superfacN = Nat.superFactorial`,
  `harmPQ` = `harmonic`), `rfQ`/`ffQ` = `ascPochhammer`/`descPochhammer`, and `gammaQ` = `Real.Gamma`
  at integers and half-integers (poles ⇔ `gammaQ = none` ⇔ `Real.Gamma = 0`).
-/
import MpProofs.SpecRef
import Mathlib.Analysis.SpecialFunctions.Gamma.Basic
import Mathlib.Analysis.SpecialFunctions.Gamma.Beta
import Mathlib.Data.Nat.Factorial.DoubleFactorial
import Mathlib.Data.Nat.Factorial.SuperFactorial
import Mathlib.Data.Nat.Choose.Basic
import Mathlib.NumberTheory.Harmonic.Defs
import Mathlib.RingTheory.Polynomial.Pochhammer

namespace Mp.SpecRef
open Mp.Encl
open scoped Nat

theorem prodLin_add (a m k : ℕ) : prodLin a (m + k) = prodLin a m * prodLin (a + m) k := by
  induction k with
  | zero => simp [prodLin]
  | succ k ih => rw [← Nat.add_assoc, prodLin, ih, prodLin]; ring

theorem prodTree_eq (d : ℕ) : ∀ a n, prodTree d a n = prodLin a n := by
  induction d with
  | zero => intro a n; rfl
  | succ d ih =>
    intro a n
    rw [prodTree]
    split
    · rfl
    · rw [ih, ih, ← prodLin_add]; congr 1; omega

theorem prodLin_eq_ascFactorial (a n : ℕ) : prodLin a n = a.ascFactorial n := by
  induction n with
  | zero => simp [prodLin]
  | succ n ih => rw [prodLin, ih, Nat.ascFactorial_succ]; ring

theorem factN_eq (n : ℕ) : factN n = n ! := by
  rw [factN, prodTree_eq, prodLin_eq_ascFactorial, Nat.one_ascFactorial]

theorem chooseM_eq (n k : ℕ) : chooseM n k = n.choose k := by
  unfold chooseM
  split
  · rename_i h; exact (Nat.choose_eq_zero_of_lt h).symm
  · rename_i h
    rw [prodTree_eq, prodLin_eq_ascFactorial, factN_eq, Nat.choose_eq_descFactorial_div_factorial]
    congr 1
    obtain ⟨m, rfl⟩ : ∃ m, n = m + k := ⟨n - k, by omega⟩
    rw [Nat.add_sub_cancel, Nat.add_descFactorial_eq_ascFactorial]

theorem dfact_eq : ∀ n, dfact n = n‼
  | 0 => rfl
  | 1 => rfl
  | n + 2 => by rw [dfact, Nat.doubleFactorial, dfact_eq n]

theorem superfacN_eq (n : ℕ) : superfacN n = Nat.superFactorial n := by
  induction n with
  | zero => rfl
  | succ n ih => rw [superfacN, Nat.superFactorial, ih, factN_eq]

theorem hyperfacN_eq (n : ℕ) : hyperfacN n = ∏ k ∈ Finset.range n, (k + 1) ^ (k + 1) := by
  induction n with
  | zero => rfl
  | succ n ih => rw [hyperfacN, ih, Finset.prod_range_succ]; ring

theorem superfacN_eq_prod (n : ℕ) : superfacN n = ∏ k ∈ Finset.range n, (k + 1)! := by
  induction n with
  | zero => rfl
  | succ n ih => rw [superfacN, ih, Finset.prod_range_succ, factN_eq]; ring

theorem add_frac {p q p' q' : ℕ} {x y : ℚ} (h : q ≠ 0 ∧ (p : ℚ) / q = x) (h' : q' ≠ 0 ∧ (p' : ℚ) / q' = y) :
    q * q' ≠ 0 ∧ ((p * q' + p' * q : ℕ) : ℚ) / ((q * q' : ℕ) : ℚ) = x + y := by
  refine ⟨Nat.mul_ne_zero h.1 h'.1, ?_⟩
  rw [← h.2, ← h'.2, div_add_div _ _ (Nat.cast_ne_zero.2 h.1) (Nat.cast_ne_zero.2 h'.1)]
  push_cast
  rw [mul_comm (q : ℚ) (p' : ℚ)]

theorem harmPQ_zero (a n : ℕ) (ha : 0 < a) :
    (harmPQ 0 a n).2 ≠ 0 ∧
      ((harmPQ 0 a n).1 : ℚ) / ((harmPQ 0 a n).2 : ℚ) = ∑ i ∈ Finset.range n, ((a + i : ℕ) : ℚ)⁻¹ := by
  unfold harmPQ
  induction n with
  | zero => simp
  | succ n ih =>
    rw [List.range_succ, List.foldl_append, Finset.sum_range_succ]
    have := add_frac ih (p' := 1) (q' := a + n) ⟨by omega, one_div _⟩
    rwa [Nat.one_mul] at this

theorem harmPQ_spec (d : ℕ) : ∀ (a n : ℕ), 0 < a →
    (harmPQ d a n).2 ≠ 0 ∧
      ((harmPQ d a n).1 : ℚ) / ((harmPQ d a n).2 : ℚ) = ∑ i ∈ Finset.range n, ((a + i : ℕ) : ℚ)⁻¹ := by
  induction d with
  | zero => intro a n ha; exact harmPQ_zero a n ha
  | succ d ih =>
    intro a n ha
    rw [harmPQ]
    split
    · exact harmPQ_zero a n ha
    · have := add_frac (ih a (n / 2) ha) (ih (a + n / 2) (n - n / 2) (by omega))
      have hs := Finset.sum_range_add (fun i => ((a + i : ℕ) : ℚ)⁻¹) (n / 2) (n - n / 2)
      rw [show n / 2 + (n - n / 2) = n by omega] at hs
      rw [hs]
      simpa only [Nat.add_assoc] using this

theorem harmPQ_harmonic (d n : ℕ) :
    (harmPQ d 1 n).2 ≠ 0 ∧ ((harmPQ d 1 n).1 : ℚ) / ((harmPQ d 1 n).2 : ℚ) = harmonic n := by
  obtain ⟨h1, h2⟩ := harmPQ_spec d 1 n Nat.one_pos
  refine ⟨h1, ?_⟩
  rw [h2, harmonic]
  apply Finset.sum_congr rfl
  intro i _
  rw [Nat.add_comm]

theorem rfQ_eq (x : ℚ) (k : ℕ) : rfQ x k = (ascPochhammer ℚ k).eval x := by
  induction k with
  | zero => simp [rfQ]
  | succ k ih => rw [rfQ, ih, ascPochhammer_succ_eval]

theorem ffQ_eq (x : ℚ) (k : ℕ) : ffQ x k = (descPochhammer ℚ k).eval x := by
  induction k with
  | zero => simp [ffQ]
  | succ k ih => rw [ffQ, ih, descPochhammer_succ_eval]

theorem gamma_half_pos (m : ℕ) :
    Real.Gamma ((m : ℝ) + 1 / 2) = ((2 * m)! : ℝ) / ((4 : ℝ) ^ m * (m ! : ℝ)) * Real.sqrt Real.pi := by
  rw [div_mul_eq_mul_div, eq_div_iff (by positivity)]
  induction m with
  | zero => simpa using Real.Gamma_one_half_eq
  | succ m ih =>
    have e : ((m + 1 : ℕ) : ℝ) + 1 / 2 = ((m : ℝ) + 1 / 2) + 1 := by push_cast; ring
    rw [e, Real.Gamma_add_one (by positivity), show 2 * (m + 1) = 2 * m + 1 + 1 from rfl,
      Nat.factorial_succ (2 * m + 1), Nat.factorial_succ (2 * m), Nat.factorial_succ m]
    push_cast
    linear_combination (4 * ((m : ℝ) + 1) * ((m : ℝ) + 1 / 2)) * ih

theorem gamma_half_neg (m : ℕ) :
    Real.Gamma (1 / 2 - (m : ℝ)) = ((-4 : ℝ) ^ m * (m ! : ℝ)) / ((2 * m)! : ℝ) * Real.sqrt Real.pi := by
  rw [div_mul_eq_mul_div, eq_div_iff (by positivity)]
  induction m with
  | zero => simpa using Real.Gamma_one_half_eq
  | succ m ih =>
    have hs : (1 / 2 - ((m + 1 : ℕ) : ℝ)) ≠ 0 := by
      push_cast; linarith [(Nat.cast_nonneg m : (0 : ℝ) ≤ m)]
    have e : 1 / 2 - (m : ℝ) = (1 / 2 - ((m + 1 : ℕ) : ℝ)) + 1 := by push_cast; ring
    rw [e, Real.Gamma_add_one hs] at ih
    rw [show 2 * (m + 1) = 2 * m + 1 + 1 from rfl, Nat.factorial_succ (2 * m + 1), Nat.factorial_succ (2 * m),
      Nat.factorial_succ m]
    push_cast at ih ⊢
    linear_combination (-4 * ((m : ℝ) + 1)) * ih

/-- the real number denoted by a `GVal` -/
noncomputable def GVal.sem (g : GVal) : ℝ :=
  (g.num : ℝ) / (g.den : ℝ) * (Real.sqrt Real.pi) ^ (g.s : ℤ)

theorem sqrtPi_pos : 0 < Real.sqrt Real.pi := Real.sqrt_pos.2 Real.pi_pos

theorem sqrtPiPow_sem (s : ℤ) : (sqrtPiPow s).sem = (Real.sqrt Real.pi) ^ s := by
  have hpa : (if 0 ≤ s / 2 then SExpr.pow SExpr.pi (s / 2).toNat
      else SExpr.inv (SExpr.pow SExpr.pi (-(s / 2)).toNat)).sem = Real.sqrt Real.pi ^ (2 * (s / 2)) := by
    rw [zpow_mul, zpow_ofNat, Real.sq_sqrt Real.pi_pos.le]
    split
    · rw [SExpr.sem, SExpr.sem, ← zpow_natCast, Int.toNat_of_nonneg ‹_›]
    · rw [SExpr.sem, SExpr.sem, SExpr.sem, ← zpow_natCast, ← zpow_neg, Int.toNat_of_nonneg (by omega), neg_neg]
  unfold sqrtPiPow
  dsimp only
  split
  · rw [hpa]; congr 1; omega
  · rw [SExpr.sem, hpa, SExpr.sem, ← zpow_add_one₀ sqrtPi_pos.ne']; congr 1; omega

theorem GVal.toExpr_sem (g : GVal) : g.toExpr.sem = g.sem := by
  unfold GVal.toExpr GVal.sem
  split
  · rename_i h; simp [SExpr.sem, h]
  · simp only [SExpr.sem, sqrtPiPow_sem]

theorem GVal.mul_sem (a b : GVal) : (a.mul b).sem = a.sem * b.sem := by
  unfold GVal.mul GVal.sem
  simp only
  rw [zpow_add₀ sqrtPi_pos.ne']
  push_cast
  ring

theorem GVal.one_sem : GVal.one.sem = 1 := by simp [GVal.one, GVal.sem]

theorem GVal.inv_sem (a : GVal) : a.inv.sem = (a.sem)⁻¹ := by
  unfold GVal.inv GVal.sem
  dsimp only
  rw [mul_inv, zpow_neg, inv_div, Nat.cast_natAbs, Int.cast_abs]
  congr 1
  rcases lt_or_ge a.num 0 with h | h
  · rw [if_pos h, abs_of_neg (Int.cast_lt_zero.2 h), Int.cast_neg, Int.cast_natCast, neg_div_neg_eq]
  · rw [if_neg h.not_gt, abs_of_nonneg (Int.cast_nonneg h), Int.cast_natCast]

theorem gammaQ_two_mul (q : ℤ) :
    gammaQ (2 * q) = if q ≤ 0 then none else some ⟨factN (q - 1).toNat, 1, 0⟩ := by
  unfold gammaQ
  rw [if_pos (Int.mul_emod_right 2 q), Int.mul_ediv_cancel_left q two_ne_zero]
  simp only [show 2 * q ≤ 0 ↔ q ≤ 0 by omega]

theorem gammaQ_two_mul_add_one (q : ℤ) :
    gammaQ (2 * q + 1) =
      if 0 ≤ q then some ⟨factN (2 * q.toNat), 4 ^ q.toNat * factN q.toNat, 1⟩
      else some ⟨(-4) ^ (-q).toNat * factN (-q).toNat, factN (2 * (-q).toNat), 1⟩ := by
  unfold gammaQ
  rw [if_neg (by omega), add_sub_cancel_right, Int.mul_ediv_cancel_left q two_ne_zero]

theorem isPoleH_two_mul (q : ℤ) : isPoleH (2 * q) = decide (q ≤ 0) := by
  unfold isPoleH
  rw [decide_eq_true (Int.mul_emod_right 2 q), Bool.true_and]
  simp only [show 2 * q ≤ 0 ↔ q ≤ 0 by omega]

theorem isPoleH_two_mul_add_one (q : ℤ) : isPoleH (2 * q + 1) = false := by
  unfold isPoleH
  rw [decide_eq_false (by omega), Bool.false_and]

theorem gammaQ_spec (h : ℤ) (g : GVal) (hg : gammaQ h = some g) : Real.Gamma ((h : ℝ) / 2) = g.sem := by
  obtain ⟨q, rfl | rfl⟩ := Int.even_or_odd' h
  · rw [gammaQ_two_mul] at hg
    split at hg
    · cases hg
    · obtain ⟨k, rfl⟩ : ∃ k : ℕ, q = k + 1 := ⟨(q - 1).toNat, by omega⟩
      obtain rfl := Option.some.inj hg
      rw [add_sub_cancel_right, Int.toNat_natCast, GVal.sem, factN_eq, Int.cast_mul, Int.cast_ofNat,
        mul_div_cancel_left₀ _ two_ne_zero]
      push_cast
      rw [Real.Gamma_nat_eq_factorial, zpow_zero, div_one, mul_one]
  · have e : ((2 * q + 1 : ℤ) : ℝ) / 2 = (q : ℝ) + 1 / 2 := by push_cast; ring
    rw [gammaQ_two_mul_add_one] at hg
    split at hg
    · obtain ⟨m, rfl⟩ := Int.eq_ofNat_of_zero_le ‹0 ≤ q›
      obtain rfl := Option.some.inj hg
      rw [e, Int.toNat_natCast, GVal.sem, factN_eq, factN_eq, Int.cast_natCast, gamma_half_pos]
      push_cast
      rw [zpow_one]
    · obtain ⟨m, rfl⟩ : ∃ m : ℕ, q = -(m : ℤ) := ⟨(-q).toNat, by omega⟩
      obtain rfl := Option.some.inj hg
      rw [e, neg_neg, Int.toNat_natCast, GVal.sem, factN_eq, factN_eq, Int.cast_neg, Int.cast_natCast,
        neg_add_eq_sub, gamma_half_neg]
      push_cast
      rw [zpow_one]

theorem gammaQ_none_iff (h : ℤ) : gammaQ h = none ↔ isPoleH h = true := by
  obtain ⟨q, rfl | rfl⟩ := Int.even_or_odd' h
  · rw [gammaQ_two_mul, isPoleH_two_mul, decide_eq_true_eq]
    split
    · exact iff_of_true rfl ‹_›
    · exact iff_of_false (Option.some_ne_none _) ‹_›
  · rw [gammaQ_two_mul_add_one, isPoleH_two_mul_add_one]
    split <;> exact iff_of_false (Option.some_ne_none _) Bool.false_ne_true

theorem isPoleH_iff (h : ℤ) : isPoleH h = true ↔ ∃ m : ℕ, (h : ℝ) / 2 = -(m : ℝ) := by
  obtain ⟨q, rfl | rfl⟩ := Int.even_or_odd' h
  · rw [isPoleH_two_mul, decide_eq_true_eq, Int.cast_mul, Int.cast_ofNat, mul_div_cancel_left₀ _ two_ne_zero]
    constructor
    · intro hq; exact ⟨(-q).toNat, by rw [← Int.cast_natCast, Int.toNat_of_nonneg (by omega)]; push_cast; ring⟩
    · rintro ⟨m, hm⟩
      have : q = -(m : ℤ) := by exact_mod_cast hm
      omega
  · rw [isPoleH_two_mul_add_one]
    refine iff_of_false (by decide) ?_
    rintro ⟨m, hm⟩
    rw [div_eq_iff two_ne_zero] at hm
    have : 2 * q + 1 = -(m : ℤ) * 2 := by exact_mod_cast hm
    omega

/-- **poles**: `gammaQ h = none` exactly when `h/2` is a pole of Γ, i.e. (Mathlib's convention) `Real.Gamma (h/2) = 0` -/
theorem gammaQ_none_iff_Gamma_zero (h : ℤ) : gammaQ h = none ↔ Real.Gamma ((h : ℝ) / 2) = 0 := by
  rw [gammaQ_none_iff, isPoleH_iff, Real.Gamma_eq_zero_iff]

theorem ratE_sem (q : ℚ) : (ratE q).sem = (q : ℝ) := by
  simp only [ratE, SExpr.sem]
  rw [Rat.cast_def]

/-- the shape of every reference whose argument has to be a natural number -/
theorem natRef_val {n : ℤ} {g : ℕ → Ref} {e : SExpr}
    (he : (if 0 ≤ n then g n.toNat else Ref.outside) = .val e) : ∃ k : ℕ, n = k ∧ g k = .val e := by
  split at he
  · exact ⟨n.toNat, (Int.toNat_of_nonneg ‹_›).symm, he⟩
  · cases he

theorem gammaProdRegular_aux (hs : List ℤ) (hn : ∀ h ∈ hs, isPoleH h = false) : ∀ acc : GVal,
    (hs.foldl gammaStep acc).sem
      = acc.sem * (hs.map (fun h : ℤ => Real.Gamma ((h : ℝ) / 2))).prod := by
  induction hs with
  | nil => intro acc; simp
  | cons h hs ih =>
    intro acc
    rw [List.foldl_cons, ih (fun x hx => hn x (List.mem_cons_of_mem _ hx)), List.map_cons, List.prod_cons]
    unfold gammaStep
    cases hg : gammaQ h with
    | none =>
      have := (gammaQ_none_iff h).1 hg
      rw [hn h List.mem_cons_self] at this
      exact absurd this (by simp)
    | some g =>
      simp only
      rw [GVal.mul_sem, gammaQ_spec h g hg]; ring

theorem gammaProdRegular_sem (hs : List ℤ) (hn : ∀ h ∈ hs, isPoleH h = false) :
    (gammaProdRegular hs).sem = (hs.map (fun h : ℤ => Real.Gamma ((h : ℝ) / 2))).prod := by
  rw [gammaProdRegular, gammaProdRegular_aux hs hn, GVal.one_sem, one_mul]

theorem prod_Gamma_eq_zero_of_pole (hs : List ℤ) (hp : 0 < (hs.filter isPoleH).length) :
    (hs.map (fun h : ℤ => Real.Gamma ((h : ℝ) / 2))).prod = 0 := by
  obtain ⟨h, hh⟩ := List.exists_mem_of_length_pos hp
  rw [List.mem_filter] at hh
  apply List.prod_eq_zero
  rw [List.mem_map]
  exact ⟨h, hh.1, (gammaQ_none_iff_Gamma_zero h).1 ((gammaQ_none_iff h).2 hh.2)⟩

theorem gammaprodDecide_iff (as bs : List ℤ) :
    (gammaprodDecide as bs = .zero ↔ (as.filter isPoleH).length < (bs.filter isPoleH).length) ∧
    (gammaprodDecide as bs = .inf ↔ (bs.filter isPoleH).length < (as.filter isPoleH).length) ∧
    (gammaprodDecide as bs = .finite ↔ (as.filter isPoleH).length = (bs.filter isPoleH).length) := by
  unfold gammaprodDecide
  dsimp only
  split
  · simp; omega
  · split <;> simp <;> omega

theorem no_pole_of_filter {hs : List ℤ} (h : (hs.filter isPoleH).length = 0) : ∀ x ∈ hs, isPoleH x = false := by
  simpa using List.filter_eq_nil_iff.1 (List.length_eq_zero_iff.1 h)

/-- test vector `Γ(7/2) = 15√π/8`, for the examples of `Props/C18.lean` -/
theorem gammaRef_seven : gammaRef 7 = .val (.mul (.rat 720 384) (.mul (.pow .pi 0) .sqrtPi)) := by decide +kernel

theorem eval_gamma_example : eval 56 (.mul (.rat 720 384) (.mul (.pow .pi 0) .sqrtPi)) =
    some ⟨⟨59868168768521119, -54⟩, ⟨59868168768521121, -54⟩⟩ := by decide +kernel

end Mp.SpecRef

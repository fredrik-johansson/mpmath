/-
  MpProofs/Sum.lean — `mpf_sum` (libmpf.py): when no two nonzero terms have exponents further apart than the accumulator's
  window (`2·prec` bits) the accumulation is exact and the result is the single correct rounding of the exact sum.
-/
import MpProofs.Arith

namespace Mp

/-- the signed mantissa as `mpf_sum` forms it when `absolute = false` -/
theorem manZ_eq_sum (x : Mpf) : (if x.sign ≠ 0 ∧ ¬ (false = true) then -(x.man : ℤ) else (x.man : ℤ)) = manZ x := by
  unfold manZ; by_cases h : x.sign = 0 <;> simp [h]

theorem add_multiple (a b : ℤ) {e f : ℤ} (h : e ≤ f) : ∃ k : ℤ, (a : ℚ) * 2 ^ e + (b : ℚ) * 2 ^ f = (k : ℚ) * 2 ^ e := by
  obtain ⟨j, rfl⟩ : ∃ j : ℕ, f = e + j := ⟨(f - e).toNat, by omega⟩
  exact ⟨a + b * 2 ^ j, by rw [zpow_add₀ (by norm_num), zpow_natCast]; push_cast; ring⟩

/-- a nonzero multiple of `2^f` written with the mantissa `m` at exponent `e` has its top bit above `2^f` -/
theorem exp_lt_of_multiple {m k e f : ℤ} (hm : m ≠ 0) (h : (m : ℚ) * 2 ^ e = (k : ℚ) * 2 ^ f) :
    f < e + (bitcount m.natAbs : ℤ) := by
  have hk : k ≠ 0 := by
    rintro rfl
    rw [Int.cast_zero, zero_mul] at h
    exact mul_ne_zero (Int.cast_ne_zero.2 hm) (zpow_ne_zero e two_ne_zero) h
  have hm' : |(m : ℚ)| < 2 ^ (bitcount m.natAbs) := by
    rw [← Int.cast_abs, Int.abs_eq_natAbs]; exact_mod_cast bitcount_lt m.natAbs
  have hk' : (1 : ℚ) ≤ |(k : ℚ)| := by rw [← Int.cast_abs]; exact_mod_cast Int.one_le_abs hk
  have he : (0 : ℚ) < 2 ^ e := by positivity
  have hf : (0 : ℚ) < 2 ^ f := by positivity
  refine (zpow_lt_zpow_iff_right₀ (one_lt_two (α := ℚ))).1 ?_
  calc (2 : ℚ) ^ f ≤ |(k : ℚ)| * 2 ^ f := le_mul_of_one_le_left hf.le hk'
    _ = |(m : ℚ)| * 2 ^ e := by rw [← abs_of_pos hf, ← abs_mul, ← h, abs_mul, abs_of_pos he]
    _ < 2 ^ (bitcount m.natAbs) * 2 ^ e := mul_lt_mul_of_pos_right hm' he
    _ = 2 ^ (e + (bitcount m.natAbs : ℤ)) := by rw [zpow_add₀ (by norm_num), zpow_natCast, mul_comm]

/-- one step of the accumulation on a nonzero term that the window tests do not drop: the new accumulator is the exact
sum, at an exponent not above the term's -/
theorem sumStep_value {maxExtra man exp : ℤ} {sp : Option Mpf} {x : Mpf} (hm0 : x.man ≠ 0)
    (h1 : man ≠ 0 → x.exp - exp - (bitcount man.natAbs : ℤ) ≤ maxExtra)
    (h2 : man ≠ 0 → exp - x.exp - x.bc ≤ maxExtra) :
    ∃ m' e', sumStep maxExtra false (man, exp, sp) x = (m', e', sp) ∧
      (m' : ℚ) * 2 ^ e' = (man : ℚ) * 2 ^ exp + (manZ x : ℚ) * 2 ^ x.exp ∧ e' ≤ x.exp := by
  unfold sumStep
  simp only [hm0, ne_eq, not_false_eq_true, if_true, manZ_eq_sum]
  have hz : man = 0 → (manZ x : ℚ) * 2 ^ x.exp = (man : ℚ) * 2 ^ exp + (manZ x : ℚ) * 2 ^ x.exp := fun h => by
    rw [h, Int.cast_zero, zero_mul, zero_add]
  by_cases hge : x.exp ≥ exp
  · rw [if_pos hge]
    by_cases hdrop : x.exp - exp > maxExtra ∧ (man = 0 ∨ x.exp - exp - (bitcount man.natAbs : ℤ) > maxExtra)
    · -- only an empty accumulator is replaced
      have hman : man = 0 := by by_contra h; have := h1 h; omega
      rw [if_pos hdrop]
      exact ⟨_, _, rfl, hz hman, le_refl _⟩
    · obtain ⟨k, hk⟩ : ∃ k : ℕ, x.exp = exp + k := ⟨(x.exp - exp).toNat, by omega⟩
      rw [if_neg hdrop, show x.exp - exp = k by omega, Int.toNat_natCast]
      refine ⟨_, _, rfl, ?_, hge⟩
      rw [Int.cast_add, ishl_cast, hk, zpow_add₀ (by norm_num), zpow_natCast]; ring
  · rw [if_neg hge]
    by_cases hdrop : -(x.exp - exp) - x.bc > maxExtra
    · have hman : man = 0 := by by_contra h; have := h2 h; omega
      rw [if_pos hdrop, if_pos hman]
      exact ⟨_, _, rfl, hz hman, le_refl _⟩
    · obtain ⟨k, hk⟩ : ∃ k : ℕ, exp = x.exp + k := ⟨(exp - x.exp).toNat, by omega⟩
      rw [if_neg hdrop, show -(x.exp - exp) = k by omega, Int.toNat_natCast]
      refine ⟨_, _, rfl, ?_, le_refl _⟩
      rw [Int.cast_add, ishl_cast, hk, zpow_add₀ (by norm_num), zpow_natCast]; ring

/-- invariant of the accumulation: no special value seen; the accumulator is the exact sum; a nonzero accumulator has its
exponent at or below the exponent of some earlier nonzero term, and its value is an integer multiple of `2^y.exp` for some
earlier nonzero term `y` -/
def SumInv (seen : List Mpf) (st : ℤ × ℤ × Option Mpf) (S : ℚ) : Prop :=
  st.2.2 = none ∧ (st.1 : ℚ) * 2 ^ st.2.1 = S ∧
  (st.1 ≠ 0 → (∃ y ∈ seen, y.man ≠ 0 ∧ st.2.1 ≤ y.exp) ∧ (∃ y ∈ seen, y.man ≠ 0 ∧ ∃ k : ℤ, S = (k : ℚ) * 2 ^ y.exp))

theorem sumStep_exact {maxExtra : ℤ} {seen : List Mpf} {st : ℤ × ℤ × Option Mpf} {S : ℚ}
    (hinv : SumInv seen st S) {x : Mpf} (hx : CanonFin x)
    (hwin : ∀ y ∈ seen, y.man ≠ 0 → x.man ≠ 0 → x.exp - y.exp ≤ maxExtra ∧ y.exp - x.exp ≤ maxExtra) :
    SumInv (x :: seen) (sumStep maxExtra false st x) (S + val x) := by
  obtain ⟨man, exp, special⟩ := st
  obtain ⟨hsp, hval, hnz⟩ := hinv
  simp only at hsp hval hnz
  subst hsp
  rcases hx.cases with rfl | ⟨hm0, hsg, _, hbc⟩
  · have : sumStep maxExtra false (man, exp, none) fzero = (man, exp, none) := by simp [sumStep, fzero]
    rw [this, val_fzero, add_zero]
    exact ⟨rfl, hval, fun h => ⟨(hnz h).1.imp fun y hy => ⟨List.mem_cons_of_mem _ hy.1, hy.2⟩,
      (hnz h).2.imp fun y hy => ⟨List.mem_cons_of_mem _ hy.1, hy.2⟩⟩⟩
  rw [val_eq_manZ hsg]
  -- the accumulator's top bit is above `2^y.exp` for a term `y` in the window of `x`, and its exponent is not above
  -- another such term's: neither window test drops anything
  obtain ⟨m', e', hstep, hv, he⟩ := sumStep_value (maxExtra := maxExtra) (man := man) (exp := exp) (sp := none) hm0
    (fun hman => by
      obtain ⟨y, hy, hy0, k, hk⟩ := (hnz hman).2
      have := exp_lt_of_multiple hman (hval.trans hk)
      have := (hwin y hy hy0 hm0).1
      omega)
    (fun hman => by
      obtain ⟨y, hy, hy0, hle⟩ := (hnz hman).1
      have := (hwin y hy hy0 hm0).2
      have := bitcount_pos hm0
      omega)
  rw [hstep]
  refine ⟨rfl, by rw [← hval]; exact hv, fun _ => ⟨⟨x, List.mem_cons_self, hm0, he⟩, ?_⟩⟩
  -- the new sum is a multiple of `2^x.exp` or of the accumulator's witness power of two, whichever is lower
  by_cases hman : man = 0
  · exact ⟨x, List.mem_cons_self, hm0, manZ x, by rw [← hval, hman]; simp⟩
  · obtain ⟨y, hy, hy0, k, hk⟩ := (hnz hman).2
    rcases le_total x.exp y.exp with hle | hle
    · obtain ⟨k', hk'⟩ := add_multiple (manZ x) k hle
      exact ⟨x, List.mem_cons_self, hm0, k', by rw [hk, add_comm, hk']⟩
    · obtain ⟨k', hk'⟩ := add_multiple k (manZ x) hle
      exact ⟨y, List.mem_cons_of_mem _ hy, hy0, k', by rw [hk, hk']⟩

theorem sumFold_exact {maxExtra : ℤ} :
    ∀ (rest seen : List Mpf) (st : ℤ × ℤ × Option Mpf) (S : ℚ), SumInv seen st S →
      (∀ x ∈ rest, CanonFin x) →
      (∀ x ∈ rest, ∀ y ∈ seen ++ rest, y.man ≠ 0 → x.man ≠ 0 → x.exp - y.exp ≤ maxExtra ∧ y.exp - x.exp ≤ maxExtra) →
      ∃ seen', SumInv seen' (rest.foldl (sumStep maxExtra false) st) (S + (rest.map val).sum) := by
  intro rest
  induction rest with
  | nil => intro seen st S h _ _; exact ⟨seen, by simpa using h⟩
  | cons x rest ih =>
    intro seen st S h hc hw
    have hstep := sumStep_exact h (hc x (by simp)) (fun y hy hy0 hx0 => hw x (by simp) y (by simp [hy]) hy0 hx0)
    obtain ⟨seen', h'⟩ := ih (x :: seen) _ _ hstep (fun z hz => hc z (by simp [hz]))
      (fun z hz y hy hy0 hz0 => hw z (by simp [hz]) y (by
        simp only [List.mem_append, List.mem_cons] at hy ⊢
        rcases hy with (rfl | hy) | hy
        · right; left; rfl
        · left; exact hy
        · right; right; exact hy) hy0 hz0)
    refine ⟨seen', ?_⟩
    simp only [List.foldl_cons, List.map_cons, List.sum_cons]
    rw [← add_assoc]; exact h'

/-- **`mpf_sum` is one correct rounding of the exact sum** whenever the nonzero terms' exponents lie within `2·prec` of each
other (in particular for terms with at most `prec`-bit mantissas whose magnitudes span fewer than `prec` bits). -/
theorem mpf_sum_spec (xs : List Mpf) (hxs : ∀ x ∈ xs, CanonFin x) {prec : ℤ} (hp : 0 < prec) (rnd : Rnd)
    (hwin : ∀ x ∈ xs, ∀ y ∈ xs, x.man ≠ 0 → y.man ≠ 0 → x.exp - y.exp ≤ 2 * prec) :
    RoundOK prec rnd (xs.map val).sum (mpf_sum xs prec rnd false) := by
  unfold mpf_sum
  have hme : (if prec * 2 ≠ 0 then prec * 2 else 1000000 : ℤ) = 2 * prec := by
    rw [if_pos (by omega)]; ring
  simp only [hme]
  have h0 : SumInv [] ((0 : ℤ), (0 : ℤ), (none : Option Mpf)) 0 := ⟨rfl, by simp, fun h => absurd rfl h⟩
  obtain ⟨seen', hinv⟩ := sumFold_exact (maxExtra := 2 * prec) xs [] _ 0 h0 hxs (fun x hx y hy hy0 hx0 => by
    simp only [List.nil_append] at hy
    exact ⟨hwin x hx y hy hx0 hy0, hwin y hy x hx hy0 hx0⟩)
  generalize xs.foldl (sumStep (2 * prec) false) (0, 0, none) = st at hinv
  obtain ⟨man, exp, special⟩ := st
  obtain ⟨hsp, hval, _⟩ := hinv
  simp only at hsp hval
  subst hsp
  simp only [zero_add] at hval
  rw [← hval]
  exact from_man_exp_spec man exp hp.le rnd

/-- the property's own hypothesis implies the window condition: mantissas of at most `p` bits and magnitudes
(`exp + bc`) spanning fewer than `p` bits -/
theorem window_of_magnitudes {xs : List Mpf} {prec : ℤ}
    (hbits : ∀ x ∈ xs, x.man ≠ 0 → 1 ≤ x.bc ∧ x.bc ≤ prec)
    (hspan : ∀ x ∈ xs, ∀ y ∈ xs, x.man ≠ 0 → y.man ≠ 0 → (x.exp + x.bc) - (y.exp + y.bc) < prec) :
    ∀ x ∈ xs, ∀ y ∈ xs, x.man ≠ 0 → y.man ≠ 0 → x.exp - y.exp ≤ 2 * prec := by
  intro x hx y hy hx0 hy0
  have h1 := hbits x hx hx0
  have h2 := hbits y hy hy0
  have h3 := hspan x hx y hy hx0 hy0
  omega

end Mp

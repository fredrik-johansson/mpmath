/-
  Props/C07.lean — "Decimal strings convert to correctly rounded binary values".

  Model: MpModel/Str.lean (`str_to_man_exp`, `from_str`; the last argument `0` of both switches off
  CPython's 4300-digit limit of `int(str)`, which the model carries as a parameter).
  Vocabulary: `decValue s : Option ℚ` (MpProofs/Str.lean) is the value of the decimal literal `s`
  `[+-] digits [. digits] [(e|E) [+-] digits]` (digit group separators `_` allowed between digits),
  read digit by digit; `RoundOK` is in MpProofs/Spec.lean.
-/
import MpProofs.StrFrom
import MpProofs.StrIv

namespace Mp

/-! ### the parser -/

/-- **The parser computes the value of the literal.** For every decimal literal in the grammar of
Python's `float()` — optional sign, digits with optional point (also `.5`, `5.`, `.0`), optional
`e|E` exponent, digit group separators `_` between digits — `str_to_man_exp` succeeds and
`man · 10^exp` is exactly the value of the literal (stripping of trailing fractional zeros, the
`exp -= len(b)` adjustment, removal of separators and the `'' → '0'` padding included). -/
theorem parse_value (s : String) (v : ℚ) (h : decValue s = some v) :
    ∃ man exp, str_to_man_exp s 0 = .ok (man, exp) ∧ (man : ℚ) * (10 : ℚ) ^ exp = v :=
  strToManExp_value h

example : decValue "-012.50E+3" = some (-12500) := by decide +kernel
example : str_to_man_exp "-012.50E+3" 0 = .ok (-125, 2) := by decide +kernel
example : decValue ".5e-3" = some (5 / 10000) := by decide +kernel
-- literals that the code rejected or mis-read before the repairs ad5f351 / 59f8b17
example : decValue ".0" = some 0 ∧ str_to_man_exp ".0" 0 = .ok (0, 0) := by decide +kernel
example : decValue "-.00e5" = some 0 ∧ str_to_man_exp "-.00e5" 0 = .ok (0, 5) := by decide +kernel
example : decValue "1_0.0_1" = some (1001 / 100) ∧ str_to_man_exp "1_0.0_1" 0 = .ok (1001, -2) := by
  decide +kernel
example : decValue "1.5_0e1_0" = some 15000000000 ∧ str_to_man_exp "1.5_0e1_0" 0 = .ok (15, 9) := by
  decide +kernel
example : decValue "1__0" = none ∧ decValue "_1" = none ∧ decValue "1_.5" = none := by decide +kernel

/-- With CPython's digit limit (modelled as a parameter; 4300 by default) a literal with more digits
than the limit is rejected although it has a value. Shown here with limit 4. -/
theorem parse_digit_limit_counterexample :
    decValue "12345" = some 12345 ∧ str_to_man_exp "12345" 4 = .error .value ∧
    str_to_man_exp "12345" 0 = .ok (12345, 0) := by decide +kernel

/-- the four special strings (any case, surrounding white space) -/
theorem from_str_specials (prec : Int) (rnd : Rnd) :
    from_str "inf" prec rnd = .ok finf ∧ from_str "+inf" prec rnd = .ok finf ∧
    from_str " -INF\n" prec rnd = .ok fninf ∧ from_str "NaN" prec rnd = .ok fnan := by
  have e1 : stripL isSpaceStrip (List.map lowerC "inf".toList) = "inf".toList := by decide +kernel
  have e2 : stripL isSpaceStrip (List.map lowerC "+inf".toList) = "+inf".toList := by decide +kernel
  have e3 : stripL isSpaceStrip (List.map lowerC " -INF\n".toList) = "-inf".toList := by decide +kernel
  have e4 : stripL isSpaceStrip (List.map lowerC "NaN".toList) = "nan".toList := by decide +kernel
  have n1 : ¬ ("-inf".toList = "inf".toList ∨ "-inf".toList = "+inf".toList) := by decide +kernel
  have n2 : ¬ ("nan".toList = "inf".toList ∨ "nan".toList = "+inf".toList) := by decide +kernel
  have n3 : ¬ ("nan".toList = "-inf".toList) := by decide +kernel
  refine ⟨?_, ?_, ?_, ?_⟩ <;> unfold from_str fromStr
  · rw [e1, if_pos (Or.inl rfl)]
  · rw [e2, if_pos (Or.inr rfl)]
  · rw [e3, if_neg n1, if_pos rfl]
  · rw [e4, if_neg n2, if_neg n3, if_pos rfl]

/-! ### the exact branch -/

/-- **Exact branch, unconditional.** For every decimal literal `s` (value `v`): if the parser's decimal
exponent satisfies `|exp| ≤ 400`, then for every precision `prec > 0` and every rounding mode
`from_str` returns the correctly rounded value of the literal — canonical result with at most `prec`
bits that is the nearest (ties to even) / floor / ceiling / toward-zero / away-from-zero `prec`-bit
number of `v`. Rests on the core theorems `from_int_spec` and `from_rational_spec`. -/
theorem from_str_exact_round_full (s : String) (v : ℚ) (h : decValue s = some v)
    (man exp : Int) (hme : str_to_man_exp s 0 = .ok (man, exp)) (hexp : exp.natAbs ≤ 400)
    (prec : Int) (rnd : Rnd) (hprec : 0 < prec) :
    ∃ r, from_str s prec rnd 0 = .ok r ∧ RoundOK prec rnd v r :=
  fromStr_exact_round h hme hexp prec rnd hprec

example : decValue "0.1" = some (1 / 10) ∧
    str_to_man_exp "0.1" 0 = .ok (1, -1) ∧ from_str "0.1" 53 .n 0 = .ok ⟨0, 0xccccccccccccd, -55, 52⟩ :=
  ⟨by decide +kernel, by decide +kernel, by decide +kernel⟩

/-- Corollary: directed conversions in the exact branch are on the right side of the literal. -/
theorem from_str_directed_exact_branch (s : String) (v : ℚ) (h : decValue s = some v)
    (man exp : Int) (hme : str_to_man_exp s 0 = .ok (man, exp)) (hexp : exp.natAbs ≤ 400)
    (prec : Int) (hprec : 0 < prec) :
    (∃ a, from_str s prec .f 0 = .ok a ∧ val a ≤ v) ∧ (∃ b, from_str s prec .c 0 = .ok b ∧ v ≤ val b) := by
  obtain ⟨a, ha, hra⟩ := from_str_exact_round_full s v h man exp hme hexp prec .f hprec
  obtain ⟨b, hb, hrb⟩ := from_str_exact_round_full s v h man exp hme hexp prec .c hprec
  exact ⟨⟨a, ha, roundOK_f_le hprec.le hra⟩, ⟨b, hb, roundOK_c_ge hprec.le hrb⟩⟩

/-! ### the approximate branch (more than 400 fractional digits, or |exponent| > 400): D4 -/

/-- the literal `0.5000…0001` with 399 zeros: 401 fractional digits, value just above 1/2 -/
def litAboveHalf : List Char := '0' :: '.' :: '5' :: (List.replicate 399 '0' ++ ['1'])

/- Full statement (FALSE of the code): for every literal with value `v`, `from_str s prec .c` is `≥ v`
   and `from_str s prec .f` is `≤ v`. -/

/-- **D4.** A ceiling conversion lands *below* the literal: `0.5000…0001` (401 fractional digits,
magnitude well inside [10^-100, 10^100]) converted with rounding mode `c` at 53 bits gives exactly 1/2.
The approximate branch rounds `man` and `10^exp` down whatever the mode. Replayed on the real code. -/
theorem from_str_directed_counterexample :
    ∃ v r, decValueL litAboveHalf = some v ∧ fromStr litAboveHalf 53 .c = .ok r ∧ val r < v := by
  refine ⟨(5 * 10 ^ 400 + 1) / 10 ^ 401, fhalf, by decide +kernel, by decide +kernel, ?_⟩
  have : val fhalf = 1 / 2 := by simp [val, fhalf]
  rw [this, lt_div_iff₀ (by positivity), pow_succ' (10 : ℚ) 400]
  have : (0 : ℚ) < 10 ^ 400 := by positivity
  linarith

/-- the literal `1.00000000000000011102230246251565404236316680908203125 000…0001`:
`1 + 2^-53` (a tie between `1` and `1 + 2^-52`) plus `10^-404` -/
def litAboveTie : List Char :=
  "1.00000000000000011102230246251565404236316680908203125".toList ++ (List.replicate 350 '0' ++ ['1'])

/-- **D4, round to nearest.** The first sentence of the property also fails for long literals:
`1 + 2^-53 + 10^-404` (404 fractional digits) must round to `1 + 2^-52`, `from_str` returns `1`. -/
theorem from_str_nearest_counterexample :
    ∃ v r, decValueL litAboveTie = some v ∧ fromStr litAboveTie 53 .n = .ok r ∧ ¬ RoundOK 53 .n v r := by
  -- one evaluation for both facts: the kernel then reads the 55-character string literal once
  have hev : decValueL litAboveTie = some (1 + 1 / 2 ^ 53 + 1 / 10 ^ 404) ∧
      fromStr litAboveTie 53 .n = .ok fone := by decide +kernel
  refine ⟨_, _, hev.1, hev.2, ?_⟩
  intro h
  have hr := (h.2.2 (by norm_num)).1
  rw [val_fone, show (53 : Int).toNat = 53 from rfl] at hr
  -- `1 + 2^-52` is representable and nearer: with `δ = 2^-53`, `ε = 10^-404` the distances are `δ - ε < δ + ε`
  have hz : Repb 53 ((1 : ℚ) + 2 * (1 / 2 ^ 53)) := ⟨2 ^ 52 + 1, -52, by norm_num, by norm_num⟩
  have he : (1 : ℚ) / 10 ^ 404 < 1 / 2 ^ 53 :=
    one_div_lt_one_div_of_lt (by positivity)
      (lt_of_lt_of_le (by norm_num : (2 : ℚ) ^ 53 < 10 ^ 16) (pow_le_pow_right₀ (by norm_num) (by norm_num)))
  have hpos : (0 : ℚ) < 1 / 10 ^ 404 := by positivity
  generalize (1 : ℚ) / 10 ^ 404 = ε at *
  generalize (1 : ℚ) / 2 ^ 53 = δ at *
  have hlt : |1 + δ + ε - (1 + 2 * δ)| < |1 + δ + ε - 1| := by
    rw [show 1 + δ + ε - (1 + 2 * δ) = -(δ - ε) by ring, abs_neg, abs_of_pos (sub_pos.2 he),
      show 1 + δ + ε - 1 = δ + ε by ring, abs_of_pos (add_pos (hpos.trans he) hpos)]
    exact (sub_lt_self δ hpos).trans (lt_add_of_pos_right δ hpos)
  rcases hr.2 _ hz with h1 | ⟨h1, -⟩
  · exact lt_asymm h1 hlt
  · exact hlt.ne' h1

/-! ### intervals from strings: `mpi_from_str` (and `iv.mpf('…')`, which calls it)

`Directed l v prec` (MpProofs/StrIv.lean): the floor and the ceiling conversion of the literal `l` with
value `v` succeed with finite results `a ≤ v ≤ b`. It holds whenever `from_str` takes its exact branch
(`directed_exact_branch` below, from `from_str_exact_round_full`); in the approximate branch it is false in
general (D4), so the containment theorems inherit D4 through this hypothesis and only through it.
`noSpaces s` is `s.replace(" ", "")`; `splitOn2 '+' '-'` is `split("+-")`; `splitOnC c` is `split(c)`.
Each theorem lists the dispatch conditions of one textual form exactly as the code tests them. -/

/-- the exact branch of `from_str` is directed (any precision, any literal with `|exp| ≤ 400`) -/
theorem directed_exact_branch (l : List Char) (v : ℚ) (h : decValueU l = some v) (man exp : Int)
    (hme : strToManExp l 0 = .ok (man, exp)) (hexp : exp.natAbs ≤ 400) (prec : Int) (hp : 0 < prec) :
    Directed l v prec :=
  directed_of_exact h hme hexp hp

/-- form "-1.23e-27": a single literal `t` with value `v` gives an interval containing `v` -/
theorem mpi_from_str_contains_plain (s : List Char) (prec : Int) (v : ℚ)
    (h1 : (splitOn2 '+' '-' (noSpaces s)).length < 2) (h2 : (noSpaces s).contains '(' = false)
    (h3 : (noSpaces s).contains ',' = false) (hd : Directed (noSpaces s) v prec) :
    ∃ lo hi, mpi_from_str s prec 0 = .ok (lo, hi) ∧ val lo ≤ v ∧ v ≤ val hi := by
  obtain ⟨lo, hi, h, -, -, l1, l2⟩ := endpoints_contains hd hd
  exact ⟨lo, hi, by rw [mpi_from_str_plain h1 h2 h3, h], l1, l2⟩

/-- form "[a, b]": the interval contains `[va, vb]` -/
theorem mpi_from_str_contains_brackets (s a b : List Char) (prec : Int) (va vb : ℚ)
    (h1 : (splitOn2 '+' '-' (noSpaces s)).length < 2) (h2 : (noSpaces s).contains '(' = false)
    (h3 : (noSpaces s).contains ',' = true) (h4 : (noSpaces s).contains '[' = true)
    (h5 : (noSpaces s).contains ']' = true) (h6 : (noSpaces s).head? = some '[')
    (h7 : splitOnC ',' (((noSpaces s).filter (· != '[')).filter (· != ']')) = [a, b])
    (ha : Directed a va prec) (hb : Directed b vb prec) :
    ∃ lo hi, mpi_from_str s prec 0 = .ok (lo, hi) ∧ val lo ≤ va ∧ vb ≤ val hi := by
  obtain ⟨lo, hi, h, -, -, l1, l2⟩ := endpoints_contains ha hb
  exact ⟨lo, hi, by rw [mpi_from_str_brackets h1 h2 h3 h4 h5 h6 h7, h], l1, l2⟩

/-- form "x[y,z]e": shared digits `x`, differing digits `y`, `z`, exponent part `e` (`e` present in the
string): the interval contains `[value(xye), value(xze)]` -/
theorem mpi_from_str_contains_shared_e (s x yz y z' z e : List Char) (prec : Int) (va vb : ℚ)
    (h1 : (splitOn2 '+' '-' (noSpaces s)).length < 2) (h2 : (noSpaces s).contains '(' = false)
    (h3 : (noSpaces s).contains ',' = true) (h4 : (noSpaces s).contains '[' = true)
    (h5 : (noSpaces s).contains ']' = true) (h6 : (noSpaces s).head? ≠ some '[')
    (h7 : splitOnC '[' (noSpaces s) = [x, yz]) (h8 : splitOnC ',' yz = [y, z'])
    (h9 : (noSpaces s).contains 'e' = true) (h10 : splitOnC ']' z' = [z, e])
    (ha : Directed (x ++ y ++ e) va prec) (hb : Directed (x ++ z ++ e) vb prec) :
    ∃ lo hi, mpi_from_str s prec 0 = .ok (lo, hi) ∧ val lo ≤ va ∧ vb ≤ val hi := by
  obtain ⟨lo, hi, h, -, -, l1, l2⟩ := endpoints_contains ha hb
  exact ⟨lo, hi, by rw [mpi_from_str_shared_e h1 h2 h3 h4 h5 h6 h7 h8 h9 h10, h], l1, l2⟩

/-- form "x[y,z]" without exponent -/
theorem mpi_from_str_contains_shared (s x yz y z' : List Char) (prec : Int) (va vb : ℚ)
    (h1 : (splitOn2 '+' '-' (noSpaces s)).length < 2) (h2 : (noSpaces s).contains '(' = false)
    (h3 : (noSpaces s).contains ',' = true) (h4 : (noSpaces s).contains '[' = true)
    (h5 : (noSpaces s).contains ']' = true) (h6 : (noSpaces s).head? ≠ some '[')
    (h7 : splitOnC '[' (noSpaces s) = [x, yz]) (h8 : splitOnC ',' yz = [y, z'])
    (h9 : (noSpaces s).contains 'e' = false)
    (ha : Directed (x ++ y) va prec) (hb : Directed (x ++ rstripL (· == ']') z') vb prec) :
    ∃ lo hi, mpi_from_str s prec 0 = .ok (lo, hi) ∧ val lo ≤ va ∧ vb ≤ val hi := by
  obtain ⟨lo, hi, h, -, -, l1, l2⟩ := endpoints_contains ha hb
  exact ⟨lo, hi, by rw [mpi_from_str_shared h1 h2 h3 h4 h5 h6 h7 h8 h9, h], l1, l2⟩

/-- form "a +- b": midpoint `vx`, half-width `vy ≥ 0`; the interval contains `[vx - vy, vx + vy]`
(the conversions run at `prec + 20` bits) -/
theorem mpi_from_str_contains_pm (s x y : List Char) (prec : Int) (vx vy : ℚ) (hp : 0 < prec)
    (h1 : splitOn2 '+' '-' (noSpaces s) = [x, y])
    (hx : Directed x vx (prec + 20)) (hy : Directed y vy (prec + 20)) (hy0 : 0 ≤ vy) :
    ∃ lo hi, mpi_from_str s prec 0 = .ok (lo, hi) ∧ val lo ≤ vx - vy ∧ vx + vy ≤ val hi := by
  obtain ⟨lo, hi, h, -, -, l1, l2⟩ := mpi_from_str_a_b_contains hp hx hy hy0 false
  exact ⟨lo, hi, by rw [mpi_from_str_pm h1, h], by simpa using l1, by simpa using l2⟩

/-- forms "a (b)" and "a (b%)": half-width `vy`, or `|vx|·vy/100` when the string ends in `%` -/
theorem mpi_from_str_contains_paren (s x y : List Char) (prec : Int) (vx vy : ℚ) (hp : 0 < prec)
    (h1 : (splitOn2 '+' '-' (noSpaces s)).length < 2) (h2 : (noSpaces s).contains '(' = true)
    (h3 : (noSpaces s).head? ≠ some '(') (h4 : (noSpaces s).contains ')' = true)
    (h5 : ((noSpaces s).filter (· != ')')).contains '%' = true →
      ((noSpaces s).filter (· != ')')).getLast? = some '%')
    (h6 : splitOnC '(' (((noSpaces s).filter (· != ')')).filter (· != '%')) = [x, y])
    (hx : Directed x vx (prec + 20)) (hy : Directed y vy (prec + 20)) (hy0 : 0 ≤ vy) :
    ∃ lo hi, mpi_from_str s prec 0 = .ok (lo, hi) ∧
      val lo ≤ vx - (if ((noSpaces s).filter (· != ')')).contains '%' then |vx| * vy / 100 else vy) ∧
      vx + (if ((noSpaces s).filter (· != ')')).contains '%' then |vx| * vy / 100 else vy) ≤ val hi := by
  obtain ⟨lo, hi, h, -, -, l1, l2⟩ :=
    mpi_from_str_a_b_contains hp hx hy hy0 (((noSpaces s).filter (· != ')')).contains '%')
  exact ⟨lo, hi, by rw [mpi_from_str_paren h1 h2 h3 h4 h5 h6, h], l1, l2⟩

-- the dispatch conditions on concrete strings (non-vacuity), and the model's answers
example : splitOn2 '+' '-' (noSpaces "1.5 +- 0.25".toList) = ["1.5".toList, "0.25".toList] := by decide +kernel
example : splitOnC '(' (((noSpaces "1 (5%)".toList).filter (· != ')')).filter (· != '%')) = ["1".toList, "5".toList] ∧
    ((noSpaces "1 (5%)".toList).filter (· != ')')).contains '%' = true := by decide +kernel
example : splitOnC ',' (((noSpaces "[0.1, 0.2]".toList).filter (· != '[')).filter (· != ']')) =
    ["0.1".toList, "0.2".toList] := by decide +kernel
example : mpi_from_str "1.2[3,4]e5".toList 53 0 = .ok (⟨0, 15375, 3, 14⟩, ⟨0, 3875, 5, 12⟩) := by decide +kernel
example : mpi_from_str "1 +- 0.5".toList 53 0 = .ok (⟨0, 1, -1, 1⟩, ⟨0, 3, -1, 2⟩) := by decide +kernel
example : Directed "0.25".toList (1 / 4) 73 :=
  directed_exact_branch _ _ (by decide +kernel) 25 (-2) (by decide +kernel) (by decide) 73 (by decide)

end Mp

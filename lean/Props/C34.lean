/-
  Props/C34.lean — C34 (`odefun`), level: translation validation with a PROVED validator for the values,
  plus theorems about the MODEL of the segment store for the order-of-evaluation clause.

  Property text: "For linear and polynomial ODE systems with closed-form solutions, the interpolant returned
  by odefun agrees with the exact solution to within the requested tolerance (default about 2^(10-p)) at every
  point x >= x0.  Its values do not depend on the order in which points are evaluated or on precision changes
  between evaluations."

  (1) Values.  The quantifier "for all systems / points / precisions" is sampled: the harness runs the real
  `odefun` on members of `Mp.Calc.Ode` (`y' = a·y`; the 2-vector system `y0' = y1, y1' = −w²·y0`; the
  polynomial problem `y' = −y²`; all with rational data), reads each component of the interpolant's value at a
  rational point `x ≥ x0` exactly as a dyadic `y`, and asks the compiled checker
  `checkClose (o.solRef i x) y p k 1 false`.  Proved here:
    * the reference denotes the closed form (`C34_solution_ref`), the closed form solves the initial value
      problem (`C34_is_solution…`), and it is the ONLY solution on `[x0, T]` (`C34_unique_…`, Grönwall; for
      `y' = −y²` without any positivity assumption on the competitor) — so "the exact solution" is well defined
      and equals `Ode.sol`;
    * a verdict `ok` / `violates` of the executable checker is a theorem about that solution:
      `|y − y_i(x)| ≤ 2^(k−p)·max(|y_i(x)|, 1)` resp. its negation (`C34_odeCheck_sound/_violates`).
  (2) Order of evaluation.  `Mp.Calc.getSeries` models `get_series` (`odes.py` lines 251-267: `bisect` on
  `series_boundaries`, the `while 1` extension loop) over abstract numerics `step` (= `ode_taylor`) and `endval`
  (= `mpolyval` at the right end).  The full-strength statement "the segment answering `x` is the same in every
  history" is FALSE of the code: `C34_order_independent_counterexample`, `C34_order_dependent_trace` (a query
  that hits a segment boundary exactly is answered from the LEFT segment by the call that creates the boundary
  and from the RIGHT segment afterwards).  What holds, for ALL histories:
    * the store is always a prefix of ONE canonical segment sequence (`C34_segments_prefix`);
    * which segment answers (`C34_getSeries_spec`);
    * off the boundary points the answering segment is a function of `x` alone
      (`C34_order_independent_off_boundaries`); a point strictly inside the stored range is answered the same
      way now and after any later queries (`C34_order_independent_given_stored`);
    * the `while 1` loop terminates when segments have positive length and the boundaries are unbounded
      (`C34_getSeries_terminates`);
    * the VALUE returned for `x` is the same in every history, boundary points included, when the segments are
      exactly continuous at the knots (`C34_value_order_independent`; the hypothesis is a property of
      `ode_taylor`/`mpolyval` that the harness checks on the real code — a replay at p = 53 on `y' = y` gave
      bit-identical values at a boundary in three different histories).
  Not claimed: accuracy of `ode_taylor` (Euler steps + finite differences) as a theorem; "precision changes
  between evaluations" (by inspection `tol_prec`, `degree`, `workprec` are fixed when `odefun` is called and
  `interpolant` always computes at `workprec`, so the ambient precision only enters through `ctx.convert(x)` and
  the final rounding `+y`; the harness samples this clause).
-/
import MpProofs.CalcOde
import MpProofs.CalcLogicB

namespace Mp
open Mp.Calc Mp.Encl Set

/-! ## (1) the exact solutions and the checker -/

/-- `solRef` denotes the solution: the reference expression for component `i` at the rational point `x`
has the value `o.sol i x` -/
theorem C34_solution_ref (o : Ode) (i : ℕ) (x : ℚ) (r : Ref) (h : o.solRef i x = some r) :
    r.sem = o.sol i (x : ℝ) :=
  Ode.solRef_sem o i x r h

/-- a reference is produced exactly when the side condition holds, `i` is a component and `x ≥ x0` -/
theorem C34_solution_ref_defined (o : Ode) (i : ℕ) (x : ℚ) :
    (∃ r, o.solRef i x = some r) ↔ (o.ok = true ∧ i < o.dim ∧ o.x0 ≤ x) := by
  unfold Ode.solRef
  constructor
  · rintro ⟨r, h⟩
    split at h
    · rename_i hc
      simpa [and_assoc] using hc
    · simp at h
  · rintro ⟨h1, h2, h3⟩
    exact ⟨o.solRefRaw i x, by simp [h1, h2, h3]⟩

/-- the closed forms, spelled out -/
theorem C34_sol_formulas (a w x0 y0 c0 s0 : ℚ) (x : ℝ) :
    (Ode.lin a x0 y0).sol 0 x = y0 * Real.exp (a * (x - x0)) ∧
    (Ode.osc w x0 c0 s0).sol 0 x = c0 * Real.cos (w * (x - x0)) + s0 / w * Real.sin (w * (x - x0)) ∧
    (Ode.osc w x0 c0 s0).sol 1 x = -(c0 * w) * Real.sin (w * (x - x0)) + s0 * Real.cos (w * (x - x0)) ∧
    (Ode.riccati x0 y0).sol 0 x = y0 / (1 + y0 * (x - x0)) :=
  ⟨rfl, rfl, rfl, rfl⟩

/-- the right-hand sides, spelled out: `a·y`; `(y1, −w²·y0)`; `−y²` -/
theorem C34_rhs_formulas (a w x0 y0 c0 s0 : ℚ) (y : ℕ → ℝ) :
    (Ode.lin a x0 y0).rhs 0 y = a * y 0 ∧
    (Ode.osc w x0 c0 s0).rhs 0 y = y 1 ∧
    (Ode.osc w x0 c0 s0).rhs 1 y = -((w : ℝ) ^ 2) * y 0 ∧
    (Ode.riccati x0 y0).rhs 0 y = -(y 0) ^ 2 :=
  ⟨rfl, rfl, rfl, rfl⟩

/-- the closed form solves the initial value problem: every component takes its initial value at `x0` and
satisfies `y_i'(x) = F_i(y(x))` at every real `x ≥ x0` (two-sided derivative) -/
theorem C34_is_solution (o : Ode) (hok : o.ok = true) (i : ℕ) (hi : i < o.dim) :
    o.sol i (o.x0 : ℝ) = (o.init i : ℝ) ∧
    ∀ x : ℝ, (o.x0 : ℝ) ≤ x → HasDerivAt (o.sol i) (o.rhs i fun j => o.sol j x) x :=
  ⟨Ode.sol_init o i hi, fun x hx => Ode.sol_hasDerivAt o hok i hi x (Ode.inDomain_of_ge o hok x hx)⟩

/-- … in fact on the whole real line for the linear problems, and right of the pole `x0 − 1/y0` for `y' = −y²` -/
theorem C34_is_solution_domain (o : Ode) (hok : o.ok = true) (i : ℕ) (hi : i < o.dim) (x : ℝ)
    (hx : match o with
      | .riccati x0 y0 => (x0 : ℝ) - 1 / (y0 : ℝ) < x
      | _ => True) :
    HasDerivAt (o.sol i) (o.rhs i fun j => o.sol j x) x := by
  apply Ode.sol_hasDerivAt o hok i hi x
  cases o <;> exact hx

/-- `y' = a·y` in plain terms -/
theorem C34_is_solution_lin (a x0 y0 : ℚ) :
    (y0 : ℝ) * Real.exp (a * ((x0 : ℝ) - x0)) = y0 ∧
    ∀ x : ℝ, HasDerivAt (fun t : ℝ => (y0 : ℝ) * Real.exp (a * (t - x0)))
      (a * ((y0 : ℝ) * Real.exp (a * (x - x0)))) x :=
  ⟨by simp, fun x => Ode.sol_hasDerivAt (.lin a x0 y0) rfl 0 Nat.zero_lt_one x trivial⟩

/-- `y0' = y1`, `y1' = −w²·y0` in plain terms -/
theorem C34_is_solution_osc (w x0 c0 s0 : ℚ) (hw : w ≠ 0) (x : ℝ) :
    HasDerivAt (fun t : ℝ => (c0 : ℝ) * Real.cos (w * (t - x0)) + (s0 : ℝ) / w * Real.sin (w * (t - x0)))
      (-((c0 : ℝ) * w) * Real.sin (w * (x - x0)) + s0 * Real.cos (w * (x - x0))) x ∧
    HasDerivAt (fun t : ℝ => -((c0 : ℝ) * w) * Real.sin (w * (t - x0)) + (s0 : ℝ) * Real.cos (w * (t - x0)))
      (-((w : ℝ) ^ 2) * ((c0 : ℝ) * Real.cos (w * (x - x0)) + (s0 : ℝ) / w * Real.sin (w * (x - x0)))) x := by
  have hok := Ode.ok_osc hw x0 c0 s0
  exact ⟨Ode.sol_hasDerivAt (.osc w x0 c0 s0) hok 0 Nat.zero_lt_two x trivial,
    Ode.sol_hasDerivAt (.osc w x0 c0 s0) hok 1 Nat.one_lt_two x trivial⟩

/-- `y' = −y²` in plain terms -/
theorem C34_is_solution_riccati (x0 y0 : ℚ) (hy : 0 < y0) (x : ℝ) (hx : (x0 : ℝ) ≤ x) :
    HasDerivAt (fun t : ℝ => (y0 : ℝ) / (1 + y0 * (t - x0))) (-((y0 : ℝ) / (1 + y0 * (x - x0))) ^ 2) x := by
  have hok := Ode.ok_riccati x0 hy
  exact Ode.sol_hasDerivAt (.riccati x0 y0) hok 0 Nat.zero_lt_one x
    (Ode.inDomain_of_ge (.riccati x0 y0) hok x hx)

/-- uniqueness for `y' = a·y`: a function continuous on `[x0, T]` with right derivative `a·f(t)` on `[x0, T)`
and `f(x0) = y0` is `y0·exp(a(t − x0))` on `[x0, T]` -/
theorem C34_unique_lin (a x0 y0 : ℚ) (T : ℝ) (f : ℝ → ℝ)
    (hc : ContinuousOn f (Icc (x0 : ℝ) T))
    (hd : ∀ t ∈ Ico (x0 : ℝ) T, HasDerivWithinAt f ((a : ℝ) * f t) (Ici t) t)
    (h0 : f (x0 : ℝ) = (y0 : ℝ)) :
    ∀ t ∈ Icc (x0 : ℝ) T, f t = (y0 : ℝ) * Real.exp (a * (t - x0)) :=
  Ode.sol_unique_lin a x0 y0 T f hc hd h0

/-- uniqueness for the oscillator system: a pair `(f, g)` continuous on `[x0, T]` with right derivatives
`f' = g`, `g' = −w²·f` on `[x0, T)` and `(f, g)(x0) = (c0, s0)` is the closed form on `[x0, T]` -/
theorem C34_unique_osc (w x0 c0 s0 : ℚ) (hw : w ≠ 0) (T : ℝ) (f g : ℝ → ℝ)
    (hcf : ContinuousOn f (Icc (x0 : ℝ) T)) (hcg : ContinuousOn g (Icc (x0 : ℝ) T))
    (hdf : ∀ t ∈ Ico (x0 : ℝ) T, HasDerivWithinAt f (g t) (Ici t) t)
    (hdg : ∀ t ∈ Ico (x0 : ℝ) T, HasDerivWithinAt g (-((w : ℝ) ^ 2) * f t) (Ici t) t)
    (hf0 : f (x0 : ℝ) = (c0 : ℝ)) (hg0 : g (x0 : ℝ) = (s0 : ℝ)) :
    ∀ t ∈ Icc (x0 : ℝ) T,
      f t = (c0 : ℝ) * Real.cos (w * (t - x0)) + (s0 : ℝ) / w * Real.sin (w * (t - x0)) ∧
      g t = -((c0 : ℝ) * w) * Real.sin (w * (t - x0)) + (s0 : ℝ) * Real.cos (w * (t - x0)) :=
  Ode.sol_unique_osc w x0 c0 s0 hw T f g hcf hcg hdf hdg hf0 hg0

/-- uniqueness for `y' = −y²`, `y(x0) = y0 > 0`: a function continuous on `[x0, T]` with right derivative
`−f(t)²` on `[x0, T)` and `f(x0) = y0` is `y0/(1 + y0(t − x0))` on `[x0, T]` (nothing is assumed about the
sign or size of `f`) -/
theorem C34_unique_riccati (x0 y0 : ℚ) (hy : 0 < y0) (T : ℝ) (f : ℝ → ℝ)
    (hc : ContinuousOn f (Icc (x0 : ℝ) T))
    (hd : ∀ t ∈ Ico (x0 : ℝ) T, HasDerivWithinAt f (-(f t) ^ 2) (Ici t) t)
    (h0 : f (x0 : ℝ) = (y0 : ℝ)) :
    ∀ t ∈ Icc (x0 : ℝ) T, f t = (y0 : ℝ) / (1 + y0 * (t - x0)) :=
  Ode.sol_unique_riccati x0 y0 hy T f hc hd h0

/-- verdict `ok` of the checker in the mode used for C34 (`fl = 1`, non-strict): the dyadic `y` is "within
the tolerance `2^(k−p)`" of the exact value `v` of the reference: `|y − v| ≤ 2^(k−p)·max(|v|, 1)` -/
theorem C34_checker_ok (r : Ref) (y : Dy) (p k : ℕ) (h : checkClose r y p k 1 false = .ok) :
    |y.val - r.sem| ≤ (2 : ℝ) ^ ((k : ℤ) - (p : ℤ)) * max |r.sem| 1 := by
  have := (checkClose_sound_ok r y p k 1 false h).1 rfl
  simpa only [tol, Rat.cast_one] using this

/-- verdict `violates` ⇒ the value is NOT within the tolerance -/
theorem C34_checker_violates (r : Ref) (y : Dy) (p k : ℕ) (h : checkClose r y p k 1 false = .violates) :
    ¬ |y.val - r.sem| ≤ (2 : ℝ) ^ ((k : ℤ) - (p : ℤ)) * max |r.sem| 1 := by
  have := (checkClose_sound_violates r y p k 1 false h).1 rfl
  simp only [tol, Rat.cast_one] at this
  exact not_le.2 this

/-- the combined statement: checker `ok` on the problem's closed form ⇒ the value `y` returned by the
interpolant for component `i` at `x` is within `2^(k−p)` (relative or absolute) of the exact solution
(`k = 10` for the default tolerance) -/
theorem C34_odeCheck_sound (o : Ode) (i : ℕ) (x : ℚ) (r : Ref) (y : Dy) (p k : ℕ)
    (hr : o.solRef i x = some r) (h : checkClose r y p k 1 false = .ok) :
    |y.val - o.sol i (x : ℝ)| ≤ (2 : ℝ) ^ ((k : ℤ) - (p : ℤ)) * max |o.sol i (x : ℝ)| 1 := by
  rw [← C34_solution_ref o i x r hr]
  exact C34_checker_ok r y p k h

/-- … and `violates` ⇒ it is not -/
theorem C34_odeCheck_violates (o : Ode) (i : ℕ) (x : ℚ) (r : Ref) (y : Dy) (p k : ℕ)
    (hr : o.solRef i x = some r) (h : checkClose r y p k 1 false = .violates) :
    ¬ |y.val - o.sol i (x : ℝ)| ≤ (2 : ℝ) ^ ((k : ℤ) - (p : ℤ)) * max |o.sol i (x : ℝ)| 1 := by
  rw [← C34_solution_ref o i x r hr]
  exact C34_checker_violates r y p k h

-- non-vacuity: y' = y, y(0) = 1 at x = 1 (value e) against the 53-bit double nearest e, and against 87/32 = 2.71875;
-- the oscillator (w = 2) and y' = −y² produce references; x < x0 and a bad side condition do not
example : (Ode.lin 1 0 1).solRef 0 1 ≠ none := by decide
example : (Ode.osc 2 0 1 0).solRef 1 (1 / 2) ≠ none ∧ (Ode.riccati 0 1).solRef 0 3 ≠ none := by decide +kernel
example : (Ode.lin 1 0 1).solRef 0 (-1) = none ∧ (Ode.lin 1 0 1).solRef 1 1 = none ∧
    (Ode.osc 0 0 1 0).solRef 0 1 = none ∧ (Ode.riccati 0 (-1)).solRef 0 1 = none := by decide +kernel
example : checkClose (((Ode.lin 1 0 1).solRef 0 1).getD (.rat 0)) ⟨6121026514868073, -51⟩ 53 10 1 false = .ok :=
  Example.lin_verdicts.1
example : checkClose (((Ode.lin 1 0 1).solRef 0 1).getD (.rat 0)) ⟨87, -5⟩ 53 10 1 false = .violates :=
  Example.lin_verdicts.2
example : checkClose (((Ode.riccati 0 1).solRef 0 3).getD (.rat 0)) ⟨1, -2⟩ 53 10 1 false = .ok := by
  decide +kernel

/-! ## (2) the segment store: which Taylor segment answers a query -/

section Store
variable {S X Y : Type} [LinearOrder X] {step : X → Y → S × X} {endval : S → X → X → Y} {x0 : X} {y0 : Y}

/-- after ANY finite sequence of successful `get_series` queries the store is a prefix of the one canonical
segment sequence `seg 0, seg 1, …` (determined by `ode_taylor`, `x0`, `y0` alone):
`series_data = [seg 0, …, seg (m−1)]`, `series_boundaries = [x0, xb₀, …, xb_{m−1}]`, `m ≥ 1`.
The query history influences only `m`. -/
theorem C34_segments_prefix {st : Store S X} (h : Reachable step endval x0 y0 st) :
    ∃ m, 1 ≤ m ∧ st.data = (List.range m).map (seg step endval x0 y0) ∧
      st.boundaries = (List.range (m + 1)).map (bd step endval x0 y0) :=
  segments_prefix h

/-- which segment answers a query `x ≥ x0` on the store holding the first `m ≥ 1` segments, when all
segments have positive length:
* `x < xb_{m−1}` (stored range): store unchanged, answer `seg k` for the unique `k` with `xa_k ≤ x < xb_k`
  (a stored boundary point is answered by the segment on its RIGHT), no loop iteration;
* `xb_{m−1} ≤ x`: for the least `m' > m` with `x ≤ xb_{m'−1}` the store becomes the `m'`-prefix and the answer is
  `seg (m'−1)` (a query hitting the NEW last boundary exactly is answered by the segment on its LEFT);
  the loop needs exactly `m' − m` iterations. -/
theorem C34_getSeries_spec (hprog : Progress step endval x0 y0) {m : ℕ} (hm : 1 ≤ m) {x : X} (hx : x0 ≤ x) :
    (x < bd step endval x0 y0 m →
      ∃ k, k < m ∧ bd step endval x0 y0 k ≤ x ∧ x < bd step endval x0 y0 (k + 1) ∧
        (∀ k', bd step endval x0 y0 k' ≤ x → x < bd step endval x0 y0 (k' + 1) → k' = k) ∧
        ∀ fuel, getSeries step endval x0 fuel (prefixStore step endval x0 y0 m) x =
          .ok (prefixStore step endval x0 y0 m, seg step endval x0 y0 k)) ∧
    (bd step endval x0 y0 m ≤ x →
      ∀ m', m < m' → x ≤ bd step endval x0 y0 m' → (∀ j, m < j → j < m' → bd step endval x0 y0 j < x) →
        ∀ fuel,
          (m' - m ≤ fuel → getSeries step endval x0 fuel (prefixStore step endval x0 y0 m) x =
            .ok (prefixStore step endval x0 y0 m', seg step endval x0 y0 (m' - 1))) ∧
          (fuel < m' - m → getSeries step endval x0 fuel (prefixStore step endval x0 y0 m) x =
            .error .outOfFuel)) :=
  getSeries_spec hprog hm hx

/-- order independence off the boundaries: if `x ≥ x0` is not one of the boundary points `xb_k`, the segment
returned for `x` by ANY reachable store (any query history) is `seg k` for the unique `k` with
`xa_k ≤ x < xb_k` — a function of `x` alone, hence so is the interpolant's value `mpolyval(ser_k, x − xa_k)` -/
theorem C34_order_independent_off_boundaries (hprog : Progress step endval x0 y0) {st st' : Store S X}
    (hr : Reachable step endval x0 y0 st) {x : X} (hoff : ∀ k, x ≠ bd step endval x0 y0 (k + 1))
    {fuel : ℕ} {sg : Seg S X} (h : getSeries step endval x0 fuel st x = .ok (st', sg)) :
    ∃ k, bd step endval x0 y0 k ≤ x ∧ x < bd step endval x0 y0 (k + 1) ∧ sg = seg step endval x0 y0 k ∧
      ∀ k', bd step endval x0 y0 k' ≤ x → x < bd step endval x0 y0 (k' + 1) → k' = k :=
  order_independent_off_boundaries hprog hr hoff h

/-- two-history form: off the boundary points any two reachable stores return the same segment for `x` -/
theorem C34_order_independent_two_histories (hprog : Progress step endval x0 y0)
    {st₁ st₂ st₁' st₂' : Store S X} (hr₁ : Reachable step endval x0 y0 st₁)
    (hr₂ : Reachable step endval x0 y0 st₂) {x : X} (hoff : ∀ k, x ≠ bd step endval x0 y0 (k + 1))
    {f₁ f₂ : ℕ} {sg₁ sg₂ : Seg S X} (h₁ : getSeries step endval x0 f₁ st₁ x = .ok (st₁', sg₁))
    (h₂ : getSeries step endval x0 f₂ st₂ x = .ok (st₂', sg₂)) : sg₁ = sg₂ :=
  order_independent_off_boundaries' hprog hr₁ hr₂ hoff h₁ h₂

/-- order independence inside the stored range: if `x0 ≤ x < b`, `b` the last boundary of a reachable store
`st`, then `x` (boundary point or not) is answered by `seg k` for the unique `k` with `xa_k ≤ x < xb_k`, the
store is not modified, and every store reached from `st` by later queries gives the same answer -/
theorem C34_order_independent_given_stored (hprog : Progress step endval x0 y0) {st st' : Store S X}
    (hr : Reachable step endval x0 y0 st) {x b : X} (hx : x0 ≤ x)
    (hb : st.boundaries.getLast? = some b) (hxb : x < b) (hlater : Reach step endval x0 st st') :
    ∃ k, bd step endval x0 y0 k ≤ x ∧ x < bd step endval x0 y0 (k + 1) ∧
      (∀ k', bd step endval x0 y0 k' ≤ x → x < bd step endval x0 y0 (k' + 1) → k' = k) ∧
      (∀ fuel, getSeries step endval x0 fuel st x = .ok (st, seg step endval x0 y0 k)) ∧
      (∀ fuel, getSeries step endval x0 fuel st' x = .ok (st', seg step endval x0 y0 k)) :=
  order_independent_given_stored hprog hr hx hb hxb hlater

/-- termination of the `while 1` loop: if every segment has positive length and the boundaries are unbounded,
every query `x ≥ x0` on every reachable store succeeds after finitely many iterations -/
theorem C34_getSeries_terminates (hprog : Progress step endval x0 y0)
    (hunb : ∀ x, ∃ k, x ≤ bd step endval x0 y0 (k + 1)) {st : Store S X}
    (hr : Reachable step endval x0 y0 st) {x : X} (hx : x0 ≤ x) :
    ∃ fuel r, getSeries step endval x0 fuel st x = .ok r :=
  getSeries_terminates hprog hunb hr hx

/-- value-level order independence, at full strength: if all segments have positive length and the piecewise
polynomial is exactly continuous at the knots (`KnotContinuous`: segment `k+1` evaluated at its left end `xb_k`
returns the very value segment `k` returns at its right end — true of the code because segment `k+1` is expanded
from `y = mpolyval(ser_k, xb_k − xa_k)`, its constant coefficient is `y`, and all evaluations run at `workprec`),
then the VALUE the interpolant returns for `x` is the same in any two query histories, for every `x ≥ x0`,
boundary points included.  (Only the choice of segment is history dependent, see the counterexample below.) -/
theorem C34_value_order_independent (evalAt : S → X → X → Y) (hprog : Progress step endval x0 y0)
    (hknot : ∀ k, evalAt (seg step endval x0 y0 (k + 1)).1 (bd step endval x0 y0 (k + 1))
        (bd step endval x0 y0 (k + 1)) =
      evalAt (seg step endval x0 y0 k).1 (bd step endval x0 y0 k) (bd step endval x0 y0 (k + 1)))
    {st₁ st₂ st₁' st₂' : Store S X}
    (hr₁ : Reachable step endval x0 y0 st₁) (hr₂ : Reachable step endval x0 y0 st₂) {x : X} {f₁ f₂ : ℕ}
    {v₁ v₂ : Y} (h₁ : interpolant step endval evalAt x0 f₁ st₁ x = .ok (st₁', v₁))
    (h₂ : interpolant step endval evalAt x0 f₂ st₂ x = .ok (st₂', v₂)) : v₁ = v₂ :=
  interpolant_value_independent evalAt hprog hknot hr₁ hr₂ h₁ h₂

end Store

/-- the full-strength clause "the segment answering `x` does not depend on the order of evaluation" is FALSE
of `get_series`, even when all segments have positive length: on the instance with segments
`[0,2],[2,4],[4,6],…` two reachable stores answer the same query `x = 4` with different segments.
(The positive theorems above cover every `x` that is not a segment boundary, and every `x` strictly inside
the stored range; at a boundary the two candidate segments are adjacent and both approximate the solution
within the tolerance.) -/
theorem C34_order_independent_counterexample :
    ¬ ∀ (st₁ st₂ : Store Int Int),
        Reachable Example.cstep Example.cend 0 () st₁ → Reachable Example.cstep Example.cend 0 () st₂ →
        ∀ (x : Int) (f₁ f₂ : ℕ) (r₁ r₂ : Store Int Int × Seg Int Int),
          getSeries Example.cstep Example.cend 0 f₁ st₁ x = .ok r₁ →
          getSeries Example.cstep Example.cend 0 f₂ st₂ x = .ok r₂ → r₁.2 = r₂.2 :=
  Example.history_independence_counterexample

/-- the witness as a trace (segments `(ser, xa, xb)` with `ser = xa`): the query `4` on the fresh store is
answered by `[2,4]`; asked again it is answered by `[4,6]`; asked after the query `5` it is answered by `[4,6]` -/
theorem C34_order_dependent_trace :
    getSeries Example.cstep Example.cend 0 5 (init Example.cstep 0 ()) 4
      = .ok (⟨[0, 2, 4], [(0, 0, 2), (2, 2, 4)]⟩, (2, 2, 4)) ∧
    getSeries Example.cstep Example.cend 0 5 ⟨[0, 2, 4], [(0, 0, 2), (2, 2, 4)]⟩ 4
      = .ok (⟨[0, 2, 4, 6], [(0, 0, 2), (2, 2, 4), (4, 4, 6)]⟩, (4, 4, 6)) ∧
    (runQueries Example.cstep Example.cend 0 (init Example.cstep 0 ()) [(5, 4), (5, 4)]).map Prod.snd
      = .ok [(2, 2, 4), (4, 4, 6)] ∧
    (runQueries Example.cstep Example.cend 0 (init Example.cstep 0 ()) [(5, 5), (5, 4)]).map Prod.snd
      = .ok [(4, 4, 6), (4, 4, 6)] ∧
    (runQueries Example.cstep Example.cend 0 (init Example.cstep 0 ()) [(5, 4), (5, 5)]).map Prod.snd
      = .ok [(2, 2, 4), (4, 4, 6)] :=
  Example.order_dependent_counterexample

-- non-vacuity of the store theorems: the instance `Example.cstep` has progress and unbounded boundaries,
-- and a reachable store with a non-trivial history (queries 4, 1, 9)
example : Progress Example.cstep Example.cend 0 () ∧ (∀ x : Int, ∃ k, x ≤ bd Example.cstep Example.cend 0 () (k + 1)) ∧
    Reachable Example.cstep Example.cend 0 ()
      ⟨[0, 2, 4, 6, 8, 10], [(0, 0, 2), (2, 2, 4), (4, 4, 6), (6, 6, 8), (8, 8, 10)]⟩ :=
  ⟨Example.cprog, Example.cunb, Example.reachable_419⟩

end Mp

/-
  Props/C22.lean — C22 (hypergeometric functions and orthogonal polynomials), PARTIAL: terminating cases.
  Level: translation validation with a PROVED validator and PROVED reference values.

  (1) validator `specCheck` / `specCheckC` (as in `Props/C18.lean`), stated for this property;
  (2) `hyp_terminating_value`: the reference of a terminating `pFq(as; bs; z)` at rational parameters and argument is
      the finite sum `Σ_{k≤n} Π(a_i)_k / Π(b_j)_k · z^k / k!` with Mathlib's `ascPochhammer`, `−n` the numerator
      parameter that terminates the series first; `hyp_terminating_pole`: a pole is reported iff a denominator
      parameter `−m` has `m < n` (some term `k ≤ n` has denominator `(−m)_k = 0`);
  (3) `chebyt`, `chebyu`: Mathlib's `Polynomial.Chebyshev.T/U` evaluated at the rational argument;
      `legendre`, `hermite`, `laguerre`, `gegenbauer`, `jacobi`: values of the polynomial sequences DEFINED below by
      their three-term recurrences (`legendreP`, `hermiteH`, `laguerreL`, `gegenbauerC`, `jacobiP` are DEFINITIONS made
      here — Mathlib has none of these families in this normalisation; they are not theorems about independent objects);
  (4) decision logic: `hypsum_pole_logic_spec` (`hypsum` raises ZeroDivisionError ⇔ some integer denominator parameter
      `c ≤ 0` is larger than every integer numerator parameter `cc ≤ 0`, i.e. its Pochhammer symbol vanishes before
      any numerator parameter terminates the series), `convert_param_spec` (`_convert_param`'s classification).
  NOT decided: every non-terminating evaluation, `hyperu`, Whittaker, Meijer G, Appell, `hyper2d`, `legenp/legenq`,
  `spherharm`, parabolic cylinder functions, non-integer degrees, complex parameters.
-/
import MpProofs.SpecRefHyper

namespace Mp
open Mp.Encl Mp.SpecRef
open scoped Nat

theorem C22_validator (r : SExpr) (y : Dy) (p k : ℕ) :
    (specCheck r y p k = .ok → |y.val - r.sem| ≤ (2 : ℝ) ^ ((k : ℤ) - (p : ℤ)) * |r.sem|) ∧
    (specCheck r y p k = .violates → (2 : ℝ) ^ ((k : ℤ) - (p : ℤ)) * |r.sem| < |y.val - r.sem|) :=
  have h := specCheck_sound r y p k
  ⟨h.1, h.2.1⟩

/-- "relative error below 2^(8−p)": run with `k = 7`; reference 0 (a root of the polynomial) ⇒ output exactly 0 -/
theorem C22_validator_strict (r : SExpr) (y : Dy) (p : ℕ) (h : specCheck r y p 7 = .ok) :
    (r.sem ≠ 0 → |y.val - r.sem| < (2 : ℝ) ^ ((8 : ℤ) - (p : ℤ)) * |r.sem|) ∧
    (r.sem = 0 → y.val = 0) :=
  ⟨fun h0 => by simpa using specCheck_ok_strict r y p 7 h h0, specCheck_ok_zero r y p 7 h⟩

theorem C22_validator_complex (r : SExpr) (yre yim : Dy) (p k : ℕ) :
    (specCheckC r yre yim p k = .ok →
      ‖(⟨yre.val, yim.val⟩ : ℂ) - (r.sem : ℂ)‖ ≤ (2 : ℝ) ^ ((k : ℤ) - (p : ℤ)) * |r.sem|) ∧
    (specCheckC r yre yim p k = .violates →
      (2 : ℝ) ^ ((k : ℤ) - (p : ℤ)) * |r.sem| < ‖(⟨yre.val, yim.val⟩ : ℂ) - (r.sem : ℂ)‖) :=
  have h := specCheckC_sound r yre yim p k
  ⟨h.1, h.2.1⟩

/-- **value of a terminating series**: there is `n` such that `−n ∈ as`, every other non-positive integer numerator
parameter `−n'` has `n ≤ n'`, and the reference is `Σ_{k=0}^{n} Π(a_i)_k / Π(b_j)_k · z^k / k!` -/
theorem hyp_terminating_value (as bs : List ℚ) (z : ℚ) (e : SExpr) (he : hyperRef as bs z = .val e) :
    ∃ n : ℕ, (-(n : ℚ)) ∈ as ∧ (∀ m : ℕ, (-(m : ℚ)) ∈ as → n ≤ m) ∧
      e.sem = ((∑ k ∈ Finset.range (n + 1),
        (as.map (fun a => (ascPochhammer ℚ k).eval a)).prod /
          (bs.map (fun b => (ascPochhammer ℚ k).eval b)).prod * z ^ k / (k ! : ℚ) : ℚ) : ℝ) := by
  unfold hyperRef at he
  cases ht : termIndex as with
  | none => rw [ht] at he; simp at he
  | some n =>
    rw [ht] at he
    simp only at he
    split at he
    · simp at he
    · simp only [Ref.ofRat, Ref.val.injEq] at he; subst he
      obtain ⟨⟨a, ha, hnp, han⟩, hmin⟩ := termIndex_spec as n ht
      refine ⟨n, ?_, ?_, ?_⟩
      · obtain ⟨m, rfl⟩ := (isNpInt_iff a).1 hnp
        rw [num_neg_natCast, neg_neg, Int.toNat_natCast] at han
        exact han ▸ ha
      · intro m hm
        have := hmin _ hm ((isNpInt_iff _).2 ⟨m, rfl⟩)
        rwa [num_neg_natCast, neg_neg, Int.toNat_natCast] at this
      · rw [ratE_sem, (hypSum_spec as bs z (n + 1)).2]
        rfl

/-- **pole of a terminating series**: reported iff the series terminates at `n` and some denominator parameter is `−m`
with `m < n` — then the term `k = m+1 ≤ n` has the denominator `(−m)_{m+1} = 0` (mpmath: ZeroDivisionError) -/
theorem hyp_terminating_pole (as bs : List ℚ) (z : ℚ) :
    hyperRef as bs z = .pole ↔
      ∃ n, termIndex as = some n ∧ ∃ b ∈ bs, ∃ m : ℕ, b = -(m : ℚ) ∧ m < n := by
  unfold hyperRef
  cases ht : termIndex as with
  | none => simp
  | some n =>
    simp only [Option.some.injEq, exists_eq_left']
    have key : denPoleBefore bs n = true ↔ ∃ b ∈ bs, ∃ m : ℕ, b = -(m : ℚ) ∧ m < n := by
      unfold denPoleBefore
      simp only [List.any_eq_true, Bool.and_eq_true, decide_eq_true_eq]
      constructor
      · rintro ⟨b, hb, hnp, hlt⟩
        obtain ⟨m, rfl⟩ := (isNpInt_iff b).1 hnp
        rw [num_neg_natCast, neg_neg, Int.toNat_natCast] at hlt
        exact ⟨_, hb, m, rfl, hlt⟩
      · rintro ⟨b, hb, m, rfl, hlt⟩
        refine ⟨_, hb, (isNpInt_iff _).2 ⟨m, rfl⟩, ?_⟩
        rwa [num_neg_natCast, neg_neg, Int.toNat_natCast]
    split
    · rename_i h; simp only [true_iff]; exact key.1 h
    · rename_i h
      simp only [Ref.ofRat, reduceCtorEq, false_iff]
      exact fun hc => h (key.2 hc)

/-- `chebyt(n, x)` = Mathlib's Chebyshev polynomial of the first kind evaluated at `x` -/
theorem C22_chebyt_ref (n : ℤ) (x : ℚ) (e : SExpr) (he : recRef n (chebytQ x) = .val e) :
    ∃ m : ℕ, n = m ∧ e.sem = (((Polynomial.Chebyshev.T ℚ m).eval x : ℚ) : ℝ) := by
  obtain ⟨m, hm, he⟩ := natRef_val (g := fun m => match chebytQ x m with
    | some p => Ref.ofRat p.1 | none => .outside) he
  rw [chebytQ_spec] at he
  obtain rfl := Ref.val.inj he
  exact ⟨m, hm, ratE_sem _⟩

/-- `chebyu(n, x)` = Mathlib's Chebyshev polynomial of the second kind evaluated at `x` -/
theorem C22_chebyu_ref (n : ℤ) (x : ℚ) (e : SExpr) (he : recRef n (chebyuQ x) = .val e) :
    ∃ m : ℕ, n = m ∧ e.sem = (((Polynomial.Chebyshev.U ℚ m).eval x : ℚ) : ℝ) := by
  obtain ⟨m, hm, he⟩ := natRef_val (g := fun m => match chebyuQ x m with
    | some p => Ref.ofRat p.1 | none => .outside) he
  rw [chebyuQ_spec] at he
  obtain rfl := Ref.val.inj he
  exact ⟨m, hm, ratE_sem _⟩

/-- DEFINITION. Legendre polynomials by `(k+2)·P_{k+2} = (2k+3)·x·P_{k+1} − (k+1)·P_k`, `P_0 = 1`, `P_1 = x`. -/
def legendreP (x : ℚ) : ℕ → ℚ
  | 0 => 1
  | 1 => x
  | k + 2 => ((2 * ((k : ℚ) + 1) + 1) * x * legendreP x (k + 1) - ((k : ℚ) + 1) * legendreP x k) / ((k : ℚ) + 1 + 1)

/-- DEFINITION. Physicists' Hermite polynomials by `H_{k+2} = 2x·H_{k+1} − 2(k+1)·H_k`, `H_0 = 1`, `H_1 = 2x`. -/
def hermiteH (x : ℚ) : ℕ → ℚ
  | 0 => 1
  | 1 => 2 * x
  | k + 2 => 2 * x * hermiteH x (k + 1) - 2 * ((k : ℚ) + 1) * hermiteH x k

/-- DEFINITION. Generalized Laguerre polynomials by
`(k+2)·L_{k+2} = (2k+3+a−x)·L_{k+1} − (k+1+a)·L_k`, `L_0 = 1`, `L_1 = 1+a−x`. -/
def laguerreL (a x : ℚ) : ℕ → ℚ
  | 0 => 1
  | 1 => 1 + a - x
  | k + 2 => ((2 * ((k : ℚ) + 1) + 1 + a - x) * laguerreL a x (k + 1) - ((k : ℚ) + 1 + a) * laguerreL a x k) /
      ((k : ℚ) + 1 + 1)

/-- DEFINITION. Gegenbauer polynomials by
`(k+2)·C_{k+2} = 2(k+1+a)·x·C_{k+1} − (k+2a)·C_k`, `C_0 = 1`, `C_1 = 2ax`. -/
def gegenbauerC (a x : ℚ) : ℕ → ℚ
  | 0 => 1
  | 1 => 2 * a * x
  | k + 2 => (2 * ((k : ℚ) + 1 + a) * x * gegenbauerC a x (k + 1) - ((k : ℚ) + 1 + 2 * a - 1) * gegenbauerC a x k) /
      ((k : ℚ) + 1 + 1)

/-- DEFINITION. Jacobi polynomials by (with `j = k+1`, `c = 2j+a+b`)
`2(j+1)(j+a+b+1)·c·P_{j+1} = (c+1)·((c+2)·c·x + a²−b²)·P_j − 2(j+a)(j+b)(c+2)·P_{j−1}`,
`P_0 = 1`, `P_1 = (a+1) + (a+b+2)(x−1)/2`. -/
def jacobiP (a b x : ℚ) : ℕ → ℚ
  | 0 => 1
  | 1 => (a + 1) + (a + b + 2) * (x - 1) / 2
  | k + 2 =>
    ((2 * ((k : ℚ) + 1) + a + b + 1) *
        ((2 * ((k : ℚ) + 1) + a + b + 2) * (2 * ((k : ℚ) + 1) + a + b) * x + a * a - b * b) * jacobiP a b x (k + 1)
      - 2 * ((k : ℚ) + 1 + a) * ((k : ℚ) + 1 + b) * (2 * ((k : ℚ) + 1) + a + b + 2) * jacobiP a b x k) /
    (2 * ((k : ℚ) + 1 + 1) * ((k : ℚ) + 1 + a + b + 1) * (2 * ((k : ℚ) + 1) + a + b))

theorem recRef_of_rec3 (n : ℤ) (p0 p1 : ℚ) (A B C : ℕ → ℚ) (P : ℕ → ℚ) (h0 : P 0 = p0) (h1 : P 1 = p1)
    (hrec : ∀ k, P (k + 2) = (B (k + 1) * P (k + 1) - C (k + 1) * P k) / A (k + 1))
    (e : SExpr) (he : recRef n (rec3 p0 p1 A B C) = .val e) :
    ∃ m : ℕ, n = m ∧ e.sem = ((P m : ℚ) : ℝ) := by
  obtain ⟨m, hm, he⟩ := natRef_val (g := fun m => match rec3 p0 p1 A B C m with
    | some p => Ref.ofRat p.1 | none => .outside) he
  cases hr : rec3 p0 p1 A B C m with
  | none => rw [hr] at he; cases he
  | some r =>
    rw [hr] at he
    obtain rfl := Ref.val.inj he
    exact ⟨m, hm, by rw [ratE_sem, rec3_eq p0 p1 A B C P h0 h1 hrec m r hr]⟩

/-- `legendre(n, x)` at natural `n`, rational `x`: the reference is `legendreP x n` -/
theorem C22_legendre_ref (n : ℤ) (x : ℚ) (e : SExpr) (he : recRef n (legendreQ x) = .val e) :
    ∃ m : ℕ, n = m ∧ e.sem = ((legendreP x m : ℚ) : ℝ) :=
  recRef_of_rec3 n _ _ _ _ _ (legendreP x) rfl rfl (fun k => by rw [legendreP]; push_cast; ring) e he

/-- `hermite(n, x)`: the reference is `hermiteH x n` -/
theorem C22_hermite_ref (n : ℤ) (x : ℚ) (e : SExpr) (he : recRef n (hermiteQ x) = .val e) :
    ∃ m : ℕ, n = m ∧ e.sem = ((hermiteH x m : ℚ) : ℝ) :=
  recRef_of_rec3 n _ _ _ _ _ (hermiteH x) rfl rfl (fun k => by rw [hermiteH]; push_cast; ring) e he

/-- `laguerre(n, a, x)`: the reference is `laguerreL a x n` -/
theorem C22_laguerre_ref (n : ℤ) (a x : ℚ) (e : SExpr) (he : recRef n (laguerreQ a x) = .val e) :
    ∃ m : ℕ, n = m ∧ e.sem = ((laguerreL a x m : ℚ) : ℝ) :=
  recRef_of_rec3 n _ _ _ _ _ (laguerreL a x) rfl rfl (fun k => by rw [laguerreL]; push_cast; ring) e he

/-- `gegenbauer(n, a, x)`: the reference is `gegenbauerC a x n` -/
theorem C22_gegenbauer_ref (n : ℤ) (a x : ℚ) (e : SExpr) (he : recRef n (gegenbauerQ a x) = .val e) :
    ∃ m : ℕ, n = m ∧ e.sem = ((gegenbauerC a x m : ℚ) : ℝ) :=
  recRef_of_rec3 n _ _ _ _ _ (gegenbauerC a x) rfl rfl (fun k => by rw [gegenbauerC]; push_cast; ring) e he

/-- `jacobi(n, a, b, x)`: the reference is `jacobiP a b x n`; a value is produced only if no leading coefficient
`2(j+1)(j+a+b+1)(2j+a+b)`, `1 ≤ j < n`, of the recurrence vanishes -/
theorem C22_jacobi_ref (n : ℤ) (a b x : ℚ) (e : SExpr) (he : recRef n (jacobiQ a b x) = .val e) :
    ∃ m : ℕ, n = m ∧ e.sem = ((jacobiP a b x m : ℚ) : ℝ) :=
  recRef_of_rec3 n _ _ _ _ _ (jacobiP a b x) rfl rfl (fun k => by rw [jacobiP]; push_cast; ring) e he

/-- **`hypsum`'s pole test** (ctx_mp.py): with `cs` the coefficient list (the first `p` are numerator parameters), each
entry `(is 'Z', integer value)`: ZeroDivisionError is raised iff some denominator `'Z'` parameter `c ≤ 0` is strictly
larger than every numerator `'Z'` parameter `cc ≤ 0` — i.e. `(c)_k` vanishes at `k = −c+1`, before any numerator
parameter terminates the series (`(cc)_k = 0` from `k = −cc+1 > −c+1` on) -/
theorem hypsum_pole_logic_spec (p : ℕ) (cs : List (Bool × ℤ)) :
    hypsumPoleRaises p cs = true ↔
      ∃ c ∈ cs.drop p, c.1 = true ∧ c.2 ≤ 0 ∧ ∀ cc ∈ cs.take p, cc.1 = true → cc.2 ≤ 0 → cc.2 < c.2 := by
  unfold hypsumPoleRaises
  simp only [List.any_eq_true, Bool.and_eq_true, decide_eq_true_eq, Bool.not_eq_eq_eq_not, Bool.not_true,
    List.any_eq_false, not_and, not_le]
  constructor
  · rintro ⟨c, hc, ⟨h1, h2⟩, h3⟩
    exact ⟨c, hc, h1, h2, fun cc hcc a b => h3 cc hcc ⟨a, b⟩⟩
  · rintro ⟨c, hc, h1, h2, h3⟩
    exact ⟨c, hc, ⟨h1, h2⟩, fun cc hcc hab => h3 cc hcc hab.1 hab.2⟩

/-- **`_convert_param`'s classification** (ctx_mp_python.py):
* a Python int is `'Z'`;
* a fraction `p/q` (tuple, mpq, "p/q" string): ZeroDivisionError for `q = 0`; `'Z'` with the quotient if `q ∣ p`;
  otherwise `'Q'` with the reduced fraction;
* an mpf `(sign, man, exp)` with `man ≠ 0` (value `v = ±man·2^exp`): `'Z'` with the integer `v` if `exp ≥ 0`; `'Q'` with the
  reduced fraction `v` if `−4 ≤ exp < 0`; `'R'` if `exp < −4`; with `man = 0`: `'Z' 0` for zero (`exp = 0`), `'U'` for inf/nan;
* an mpc is `'C'` if its imaginary part is non-zero, otherwise classified by its real part. -/
theorem convert_param_spec :
    (∀ n, convertParam (.int n) = .Z n) ∧
    (∀ p, convertParam (.frac p 0) = .zeroDiv) ∧
    (∀ p q, q ≠ 0 → q ∣ p → convertParam (.frac p q) = .Z (p / q) ∧ ((p / q : ℤ) : ℚ) = (p : ℚ) / (q : ℚ)) ∧
    (∀ p q, q ≠ 0 → ¬ q ∣ p →
      convertParam (.frac p q) = .Q ((p : ℚ) / (q : ℚ)).num ((p : ℚ) / (q : ℚ)).den) ∧
    (∀ sign man exp, man ≠ 0 → 0 ≤ exp → ∃ m : ℤ, convertParam (.mpf sign man exp) = .Z m ∧
      (m : ℚ) = (if sign ≠ 0 then -(man : ℚ) else (man : ℚ)) * 2 ^ exp) ∧
    (∀ sign man exp, man ≠ 0 → -4 ≤ exp → exp < 0 → ∃ r : ℚ, convertParam (.mpf sign man exp) = .Q r.num r.den ∧
      r = (if sign ≠ 0 then -(man : ℚ) else (man : ℚ)) * 2 ^ exp) ∧
    (∀ sign man exp, man ≠ 0 → exp < -4 → convertParam (.mpf sign man exp) = .R) ∧
    (∀ sign, convertParam (.mpf sign 0 0) = .Z 0) ∧
    (∀ sign exp, exp ≠ 0 → convertParam (.mpf sign 0 exp) = .U) ∧
    (∀ sign man exp, convertParam (.mpc sign man exp false) = .C) ∧
    (∀ sign man exp, convertParam (.mpc sign man exp true) = convertParam (.mpf sign man exp)) := by
  refine ⟨fun n => rfl, fun p => by simp [convertParam], ?_, ?_, ?_, ?_, ?_, ?_, ?_, fun _ _ _ => rfl, fun _ _ _ => rfl⟩
  · intro p q hq hd
    constructor
    · simp [convertParam, hq, Int.emod_eq_zero_of_dvd hd]
    · rw [Int.cast_div hd (by exact_mod_cast hq)]
  · intro p q hq hd
    have hm : ¬ p % q = 0 := fun h => hd (Int.dvd_of_emod_eq_zero h)
    simp only [convertParam, hq, hm, if_false]
    have hr : (if q < 0 then mkRat (-p) (-q).toNat else mkRat p q.toNat) = (p : ℚ) / (q : ℚ) := by
      split
      · rename_i hneg
        rw [Rat.mkRat_eq_div]
        have : (((-q).toNat : ℕ) : ℤ) = -q := by omega
        rw [← Int.cast_natCast (R := ℚ), this]; push_cast; rw [neg_div_neg_eq]
      · rename_i hneg
        rw [Rat.mkRat_eq_div]
        have : ((q.toNat : ℕ) : ℤ) = q := by omega
        rw [← Int.cast_natCast (R := ℚ), this]
    rw [hr]
  · intro sign man exp hman hexp
    refine ⟨(if sign ≠ 0 then -(man : ℤ) else (man : ℤ)) * ((2 ^ exp.toNat : ℕ) : ℤ), ?_, ?_⟩
    · simp only [convertParam, convertMpf, hman, hexp, show (-4 : ℤ) ≤ exp by omega, ne_eq, not_false_eq_true,
        if_true]
    · have : exp = ((exp.toNat : ℕ) : ℤ) := by omega
      conv_rhs => rw [this, zpow_natCast]
      split <;> push_cast <;> rfl
  · intro sign man exp hman h4 hneg
    refine ⟨mkRat (if sign ≠ 0 then -(man : ℤ) else (man : ℤ)) (2 ^ (-exp).toNat), ?_, ?_⟩
    · simp only [convertParam, convertMpf, hman, h4, show ¬ (0 ≤ exp) by omega, ne_eq, not_false_eq_true,
        if_true, if_false]
    · rw [Rat.mkRat_eq_div]
      have : exp = -(((-exp).toNat : ℕ) : ℤ) := by omega
      conv_rhs => rw [this, zpow_neg, zpow_natCast]
      split <;> push_cast <;> rw [div_eq_mul_inv]
  · intro sign man exp hman h4
    simp [convertParam, convertMpf, hman, show ¬ (-4 ≤ exp) by omega]
  · intro sign; simp [convertParam, convertMpf]
  · intro sign exp he; simp [convertParam, convertMpf, he]

-- 2F1(−2, 1; 1/2; 1/3) = 1 − 4/3 + 8/27 = −1/27
example : hyperRef [-2, 1] [1 / 2] (1 / 3) = .val (.rat (-1) 27) := by decide +kernel
example : hyperRef [-3, 1] [-1] (1 / 3) = .pole := by decide +kernel
example : hyperRef [-3, 1] [-3] (1 / 3) ≠ .pole := by decide +kernel
-- T_3(1/2) = −1, P_2(1/2) = −1/8
example : recRef 3 (chebytQ (1 / 2)) = .val (.rat (-1) 1) := by decide +kernel
example : recRef 2 (legendreQ (1 / 2)) = .val (.rat (-1) 8) := by decide +kernel
example : hypsumPoleRaises 2 [(true, -3), (false, 0), (true, -1)] = true := by decide
example : hypsumPoleRaises 2 [(true, -3), (false, 0), (true, -3)] = false := by decide
example : convertParam (.mpf 1 3 (-2)) = .Q (-3) 4 := by decide +kernel
example : convertParam (.mpf 0 3 (-5)) = .R := by decide +kernel

end Mp
